import VModel.F64Arith
/-!
# VModel.F64Fmt — the decimal text of an `f64`: Rust's `Display` (`format!("{}", x)`, no precision), exactly

`impl Display for f64` without a precision is `float_to_decimal_common_shortest(fmt, self, Sign::Minus, 0)`:
`flt2dec::to_shortest_str` with `strategy::grisu::format_shortest` (falling back to `strategy::dragon::format_shortest`
when Grisu gives up) and `digits_to_dec_str` with `frac_digits = 0`.  `format_shortest` returns the SHORTEST digit string
`d₁…d_k` and exponent `e` such that `0.d₁…d_k × 10^e` lies in the rounding interval of the double — the interval between the
midpoints to the two neighbouring doubles, end points included exactly when the 53-bit significand is even (round half to
even reads an end point back as the even neighbour) — and among the strings of that length in the interval the one closest to
the double; an exact tie between the two candidates goes upwards (Dragon: `round up if 2*rem >= scale`).  Such ties DO occur:
`562949953421312.25 = (2^51 + 1)/4` has the two 16-digit candidates `…312.2` and `…312.3` at the same distance, both inside
the interval of half-width `2^-4`; Rust prints `562949953421312.3`.

Here the result is computed by direct search over `k = 1, 2, …`: for each `k` the two candidates `⌊x·10^(k−e)⌋` and
`⌈x·10^(k−e)⌉` (`10^(e−1) ≤ x < 10^e`) are tested for membership in the interval with exact `Nat` arithmetic.  Same
representation as `VModel/Quantize.lean`: the magnitude is a natural number of *units* `2^-1074`.  Core Lean only, no `Float`,
nothing `partial`; everything is structural recursion on a fuel, so the kernel can evaluate it.

The interval is the mathematical one.  Rust's `decode` deviates from it in two places, neither of which is observable:
for a subnormal `inclusive` is always `true` (the parity is taken of the mantissa shifted left by one), and for the least
normal number `2^-1022` the lower half of the interval is taken as a quarter of a grid step although its lower neighbour is a
full step away; in both cases no decimal of at most 17 digits lies in the difference (the end points have more than 700
significant digits; for `2^-1022` see the example at the end).
-/
namespace V

open F64

/-! ## the rounding interval -/

/-- is the rational `n/d` (in units, `0 < d`) inside the rounding interval of the double with magnitude `a` units?
With `t = ⌊log2 a⌋ − 52` the grid step at `a` is `2^t` units (1 unit below `2^53` units: subnormals and the first normal
binade); the upper half-width is `2^t/2`, the lower one too except at a power of two `a = 2^(52+t)`, `t > 0`, where the grid
below is twice as fine: `2^t/4`.  In quarter units, without subtraction:
`4·a·d − down·d ≤ 4·n ≤ 4·a·d + up·d`, strict when the significand `a / 2^t` is odd -/
def F64.inRoundInterval (a n d : Nat) : Bool :=
  let t := a.log2 - 52
  let up := 2 * 2 ^ t
  let down := if a = 2 ^ (52 + t) ∧ t ≠ 0 then 2 ^ t else 2 * 2 ^ t
  if a / 2 ^ t % 2 = 0 then decide (4 * a * d ≤ 4 * n + down * d) && decide (4 * n ≤ 4 * a * d + up * d)
  else decide (4 * a * d < 4 * n + down * d) && decide (4 * n < 4 * a * d + up * d)

/-- the decimal `m × 10^p` as a fraction of units: numerator … -/
def decNum (m : Nat) (p : Int) : Nat := m * 10 ^ p.toNat * unit
/-- … and denominator -/
def decDen (p : Int) : Nat := 10 ^ (-p).toNat

/-- is the decimal `m × 10^p` inside the rounding interval of `a` units? -/
def decInInterval (a m : Nat) (p : Int) : Bool := F64.inRoundInterval a (decNum m p) (decDen p)

/-! ## decimal digits -/

/-- the decimal digits of `m`, least significant first (`[0]` for `0`); the fuel only has to exceed the number of digits -/
def digitsRev : Nat → Nat → List Nat
  | 0, _ => []
  | fuel + 1, m => if m < 10 then [m] else m % 10 :: digitsRev fuel (m / 10)

/-- the decimal digits of `m`, most significant first -/
def decDigits (m : Nat) : List Nat := (digitsRev (m.log2 + 1) m).reverse

/-- the number written by the digits `ds` (most significant first) -/
def ofDigits (ds : List Nat) : Nat := ds.foldl (fun acc d => acc * 10 + d) 0

/-- remove the factors 10 from `m`, counting them in the exponent: the value `m × 10^p` stays -/
def stripZeros : Nat → Nat → Int → Nat × Int
  | 0, m, p => (m, p)
  | fuel + 1, m, p => if m % 10 = 0 ∧ m ≠ 0 then stripZeros fuel (m / 10) (p + 1) else (m, p)

/-! ## the decimal exponent -/

/-- for `0 < x < unit`: how often `x` can be multiplied by 10 and stay below `unit` (the number of zeros after the point) -/
def leadingZeros : Nat → Nat → Nat
  | 0, _ => 0
  | fuel + 1, x => if x * 10 < unit then leadingZeros fuel (x * 10) + 1 else 0

/-- the decimal exponent `e` of `a` units (`0 < a`): `10^(e−1) ≤ a·2^-1074 < 10^e` -/
def decExponent (a : Nat) : Int :=
  if unit ≤ a then ((decDigits (a / unit)).length : Int) else -(leadingZeros 400 a : Int)

/-! ## shortest digits -/

/-- the search over the number of digits `k`: the first `k` for which one of the two neighbours of `x·10^(k−e)` on the
integers lies in the rounding interval; if both do, the nearer one (a tie goes up) -/
def shortestSearch (a : Nat) (e : Int) : Nat → Nat → Option (Nat × Int)
  | 0, _ => none
  | fuel + 1, k =>
    let p : Int := e - (k : Int)
    let num := a * 10 ^ (-p).toNat
    let den := unit * 10 ^ p.toNat
    let f := num / den
    let lo := decInInterval a f p
    let hi := decInInterval a (f + 1) p
    if lo && hi then some (if 2 * (num % den) < den then f else f + 1, p)
    else if lo then some (f, p)
    else if hi then some (f + 1, p)
    else shortestSearch a e fuel (k + 1)

/-- the shortest decimal `m × 10^p` (`m` not divisible by 10) in the rounding interval of `a` units (`0 < a`), nearest to
`a`.  Every double is found with `k ≤ 17`; the search is given 20 rounds and, to be total on all of `Nat`, ends with the exact
decimal expansion `a·5^1074 × 10^-1074` -/
def f64ShortestDec (a : Nat) : Nat × Int :=
  let r := (shortestSearch a (decExponent a) 20 1).getD (a * 5 ^ 1074, -1074)
  stripZeros (r.1.log2 + 1) r.1 r.2

/-- `format_shortest`: the digits `d₁…d_k` (`d₁ ≠ 0`, `d_k ≠ 0`) and the exponent `e` with value `0.d₁…d_k × 10^e` -/
def f64ShortestDigits (units : Nat) : List Nat × Int :=
  let r := f64ShortestDec units
  let ds := decDigits r.1
  (ds, r.2 + (ds.length : Int))

/-! ## reading a decimal back (`str::parse::<f64>`) -/

/-- the magnitude (in units, exponent unbounded above) of the double nearest to the decimal `m × 10^p`: correctly rounded,
to nearest, ties to even -/
def roundDec (m : Nat) (p : Int) : Nat := roundUnits (decNum m p) (decDen p)

/-- the double nearest to `0.d₁…d_k × 10^e` — what `"0.d₁…d_k e<e>".parse::<f64>()` computes (Rust's `dec2flt` is correctly
rounded); `+∞` when the rounded value leaves the finite range -/
def decimalToF64 (ds : List Nat) (e : Int) : F64 := F64.pack false (roundDec (ofDigits ds) (e - (ds.length : Int)))

/-! ## `Display` -/

/-- `'0' + d` -/
def digitChar (d : Nat) : Char := Char.ofNat (48 + d)

/-- `digits_to_dec_str` with `frac_digits = 0` -/
def digitsToDecStr (ds : List Nat) (e : Int) : List Char :=
  let cs := ds.map digitChar
  if e ≤ 0 then '0' :: '.' :: (List.replicate (-e).toNat '0' ++ cs)
  else if ds.length ≤ e.toNat then cs ++ List.replicate (e.toNat - ds.length) '0'
  else cs.take e.toNat ++ '.' :: cs.drop e.toNat

/-- `format!("{}", x)` for an `f64`: never scientific notation; `-0` keeps its sign, NaN has none -/
def f64Display : F64 → List Char
  | .nan => ['N', 'a', 'N']
  | .inf s => (if s then ['-'] else []) ++ ['i', 'n', 'f']
  | .fin s a =>
    (if s then ['-'] else []) ++
      (if a = 0 then ['0'] else digitsToDecStr (f64ShortestDigits a).1 (f64ShortestDigits a).2)

/-- `format!("{}", n)` for a non-negative integer -/
def natDisplay (n : Nat) : List Char := (decDigits n).map digitChar

/-! ## what `evaluate` prints -/

/-- the three lines `Precision: …`, `Recall: …`, `F1: …` -/
def evalReportLines (m : F64 × F64 × F64) : List Char :=
  "Precision: ".toList ++ f64Display m.1 ++ '\n' :: ("Recall: ".toList ++ f64Display m.2.1 ++
    '\n' :: ("F1: ".toList ++ f64Display m.2.2 ++ ['\n']))

/-- the complete standard output of `evaluate --metric char` after counting -/
def evalReportChar (tp tn fp fn : Nat) : List Char :=
  evalReportLines (evalMetricsChar (tp, tn, fp, fn)) ++
    ("TP: ".toList ++ natDisplay tp ++ ", TN: ".toList ++ natDisplay tn ++ ", FP: ".toList ++ natDisplay fp ++
      ", FN: ".toList ++ natDisplay fn ++ ['\n'])

/-- the complete standard output of `evaluate --metric word` after counting -/
def evalReportWord (cor sys ref : Nat) : List Char := evalReportLines (evalMetricsWord (cor, sys, ref))

/-- `D=<precision>,<recall>,<f1>` for the line protocol -/
def displayText (m : F64 × F64 × F64) : String :=
  "D=" ++ String.ofList (f64Display m.1) ++ "," ++ String.ofList (f64Display m.2.1) ++ "," ++
    String.ofList (f64Display m.2.2)

/-! ## sanity: known outputs of Rust's `format!("{}", x)` (kernel evaluation; cross-checked against `rustc 1.95` on
487 333 distinct bit patterns, see DESIGN) -/
namespace F64FmtEx

/-- the text for a bit pattern -/
def disp (b : Nat) : List Char := f64Display (F64.ofBits b)
/-- the text for a quotient of integers -/
def dispQ (a b : Nat) : List Char := f64Display (f64Div (f64OfNat a) (f64OfNat b))

example : dispQ 1 3 = "0.3333333333333333".toList ∧ dispQ 2 3 = "0.6666666666666666".toList ∧
    dispQ 1 10 = "0.1".toList ∧ dispQ 1 2 = "0.5".toList ∧ dispQ 1 1 = "1".toList ∧ dispQ 0 1 = "0".toList ∧
    dispQ 1 2147483647 = "0.0000000004656612875245797".toList ∧ dispQ 0 0 = "NaN".toList ∧ dispQ 1 0 = "inf".toList := by
  -- the kernel would decode each literal from its UTF-8 bytes, at a price quadratic in its length
  repeat rw [String.toList_ofList]
  decide +kernel
/-- `5e-324`, the least subnormal: 323 zeros after the point, then `5` -/
example : disp 1 = '0' :: '.' :: (List.replicate 323 '0' ++ ['5']) := by decide +kernel
/-- the largest double `1.7976931348623157e308`: 309 digits -/
example : disp 0x7FEFFFFFFFFFFFFF = "17976931348623157".toList ++ List.replicate 292 '0' := by
  rw [String.toList_ofList]
  decide +kernel
/-- `0.1 + 0.2`, `2^53`, `1e21`, `123456.789`, `-0`, `±∞` -/
example : disp 0x3FD3333333333334 = "0.30000000000000004".toList ∧ disp 0x4340000000000000 = "9007199254740992".toList ∧
    f64Display (f64OfNat (10 ^ 21)) = "1000000000000000000000".toList ∧ disp 0x40FE240C9FBE76C9 = "123456.789".toList ∧
    disp 0x8000000000000000 = "-0".toList ∧ disp 0x7FF0000000000000 = "inf".toList ∧
    disp 0xFFF0000000000000 = "-inf".toList ∧ disp 0xBFE0000000000000 = "-0.5".toList := by
  repeat rw [String.toList_ofList]
  decide +kernel
/-- the end points count for an even significand only: `10^23` is the midpoint of `0x44B52D02C7E14AF6`
(even: prints as `1e23`) and `…AF7` (odd: needs 17 digits) -/
example : disp 0x44B52D02C7E14AF6 = "100000000000000000000000".toList ∧
    disp 0x44B52D02C7E14AF5 = "99999999999999970000000".toList ∧
    disp 0x44B52D02C7E14AF7 = "100000000000000010000000".toList := by
  repeat rw [String.toList_ofList]
  decide +kernel
/-- the least normal number `2^-1022 = 2.2250738585072014e-308` (Rust's narrower interval gives the same 17 digits) -/
example : f64ShortestDigits (2 ^ 52) = ([2, 2, 2, 5, 0, 7, 3, 8, 5, 8, 5, 0, 7, 2, 0, 1, 4], -307) := by decide +kernel
/-- an exact tie between the two 16-digit candidates `…312.2` and `…312.3` of `(2^51 + 1)/4`: upwards, as Dragon does -/
example : disp 0x4300000000000002 = "562949953421312.3".toList := by
  rw [String.toList_ofList]
  decide +kernel
/-- the complete output of `evaluate` for tp = 1, tn = 7, fp = 1, fn = 0, and for the word metric with (1, 2, 1) -/
example : evalReportChar 1 7 1 0 = "Precision: 0.5\nRecall: 1\nF1: 0.6666666666666666\nTP: 1, TN: 7, FP: 1, FN: 0\n".toList ∧
    evalReportWord 1 2 1 = "Precision: 0.5\nRecall: 1\nF1: 0.6666666666666666\n".toList ∧
    evalReportWord 0 0 0 = "Precision: NaN\nRecall: NaN\nF1: NaN\n".toList := by
  repeat rw [String.toList_ofList]
  decide +kernel
example : displayText (evalMetrics 1 2 1) = "D=0.5,1,0.6666666666666666" := by decide +kernel

end F64FmtEx

end V
