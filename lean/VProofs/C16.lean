import VProofs.Lemmas.TkOffsets
import VProofs.Lemmas.Examples
/-!
# C16 — Normalisation keeps character positions; search tokens tile the original text

`Gen.fullwidthTable` is REGENERATED from the compiled `KyteaFullwidthFilter` on every run (exhaustive tabulation over all
Unicode scalar values), so the table facts below are re-checked against what the code does now; they must be proved from
boolean checks over the whole table (`decide`), never from individual entries.
The helper lemmas are in `Lemmas/TkNorm.lean` (the table), `Lemmas/TkOffsets.lean` (offsets of the token stream) and, for the
browser example, `Lemmas/Examples.lean`, which rests on the stage lemmas of the command-line tool (`Lemmas/Cli*.lean`,
namespace `C20L`).
-/
namespace V

/-- the full-width normaliser maps every string to one with the same number of characters -/
theorem C16_norm_len (s : List Char) : (Gen.fullwidth s).length = s.length :=
  C16L.fullwidth_length s

/-- … is idempotent -/
theorem C16_norm_idem (s : List Char) : Gen.fullwidth (Gen.fullwidth s) = Gen.fullwidth s := by
  rw [C16L.fullwidth_eq_map s, C16L.fullwidth_eq_map, List.map_map]
  exact List.map_congr_left fun c _ => C16L.g_idem c

/-- … and changes only the characters in its table, each to the single character the table lists -/
theorem C16_norm_only_table (s : List Char) :
    Gen.fullwidth s = s.map fun c =>
      match Gen.lookupFw c.toNat Gen.fullwidthTable with
      | some [v] => Char.ofNat v
      | _ => c :=
  C16L.fullwidth_eq_map s

theorem C16_tiling (p : Predictor) (filters : List PostFilter) (text : List Char) (hne : text ≠ [])
    (hp : (∃ s, pipeline p filters text = .ok s ∧ s.bounds.length + 1 = text.length) ∨
          (∃ e, pipeline p filters text = .err e)) :
    ∃ toks, tokenStream p filters text = .ok toks ∧ toks ≠ [] ∧ StreamChain text toks 0 0 := by
  have hemp : ¬ (text.isEmpty = true) := by simpa using hne
  unfold tokenStream
  rw [if_neg hemp]
  rcases hp with ⟨s, hs, hb⟩ | ⟨e, he⟩
  · obtain ⟨toks, h1, h2, h3, _⟩ := C16L.advance_boundaryPos text hne s.bounds (by omega)
    exact ⟨toks, by simp only [hs, h1], h2, h3⟩
  · obtain ⟨toks, h1, h2, h3, _⟩ := C16L.advance_boundaryPos text hne [] (by
      have := List.length_pos_iff.mpr hne
      simp only [List.length_nil]; omega)
    have hb : boundaryPos text [] = [utf8Len text] := by simp [boundaryPos]
    rw [hb] at h1
    exact ⟨toks, by simp only [he, h1], h2, h3⟩

/-- the empty text has no tokens -/
theorem C16_empty (p : Predictor) (filters : List PostFilter) : tokenStream p filters [] = .ok [] := by
  rfl

/-- the stream breaks exactly where the core pipeline (normalise, predict, line-break filter, configured filters) breaks:
the token starts after the first are the byte offsets of the characters that follow a `W` boundary -/
theorem C16_breaks_eq_pipeline (p : Predictor) (filters : List PostFilter) (text : List Char) (hne : text ≠ [])
    (s : Sentence) (hp : pipeline p filters text = .ok s) (hb : s.bounds.length + 1 = text.length)
    (toks : List StreamToken) (ht : tokenStream p filters text = .ok toks) :
    (toks.drop 1).map (·.offsetFrom) =
      (List.range s.bounds.length).filterMap fun i =>
        if s.bounds[i]? = some B.W then (charToStr text)[i + 1]? else none := by
  have hemp : ¬ (text.isEmpty = true) := by simpa using hne
  obtain ⟨toks', h1, _, _, h4⟩ := C16L.advance_boundaryPos text hne s.bounds (by omega)
  unfold tokenStream at ht
  rw [if_neg hemp] at ht
  simp only [hp, h1, Res.ok.injEq] at ht
  subst ht
  exact h4

/-- for a well-formed model the pipeline keeps one boundary per adjacent pair of characters of the ORIGINAL text (this is
where `C16_norm_len` is needed), so the hypotheses of the two theorems above are met whenever the text is NUL-free -/
theorem C16_pipeline_len (cfg : Cfg) (m : WModel) (hm : WFModel m) (p : Predictor) (hp : Predictor.new cfg m false = .ok p)
    (wsconst : List Char) (clusters : List Nat) (filters : List PostFilter)
    (hf : buildPostFilters wsconst clusters = .ok filters) (text : List Char) (hne : text ≠ [])
    (hnul : '\x00' ∉ text) (hcl : ∀ l ∈ clusters, 1 ≤ l) (hsum : clusters.sum = text.length) :
    ∃ s, pipeline p filters text = .ok s ∧ s.bounds.length + 1 = text.length ∧ ∀ b ∈ s.bounds, b ≠ B.U := by
  have hlen := C16L.fullwidth_length text
  obtain ⟨s1, h1, hP⟩ := C20L.predict_stage cfg m hm false p hp _ (C16L.fullwidth_ne_nil text hne)
  have ht1 : s1.text.length = text.length := by rw [hP.text, hlen]
  obtain ⟨s2, h2, r2⟩ := C20L.linebreaks_relabels hP.inv
  have ht2 : s2.text.length = text.length := by
    obtain ⟨bs, rfl, _⟩ := r2
    exact ht1
  obtain ⟨s3, h3, r3⟩ := C20L.applyPostFilters_ok filters (r2.inv hP.inv)
    (by rw [ht2]; exact C20L.buildPostFilters_shape clusters _ hcl hsum wsconst filters hf)
  obtain ⟨bs, rfl, hl, hU⟩ := r2.trans r3
  refine ⟨{ s1 with bounds := bs }, ?_, (congrArg (· + 1) hl).trans (hP.inv.bounds_len.trans ht1), hU hP.noU⟩
  unfold pipeline
  simp only [C20L.fromRaw_ok _ (C16L.fullwidth_ne_nil text hne) (C16L.fullwidth_no_nul text hnul), h1, h2, h3]

example : Gen.fullwidth "a-1".toList = "ａ−１".toList := by
  -- the kernel decodes a string literal byte by byte: turn the literals into character lists before it evaluates
  repeat rw [String.toList_ofList]
  decide +kernel

/-- a model over the NORMALISED alphabet (full-width letters), window 1 -/
def C16_exModel : WModel :=
  { charNgrams := [⟨['ａ'], [1, -2]⟩, ⟨['ａ', 'ｂ'], [5]⟩], typeNgrams := [⟨[2], [3, 4]⟩, ⟨[2, 2], [-1]⟩],
    dict := [⟨['ａ', 'ｂ'], [1, 2, 3], []⟩], bias := -10, charW := 1, typeW := 1, tagModels := [] }

example : WFModel C16_exModel :=
  { charW_pos := by decide, charW_le := by decide, typeW_pos := by decide, typeW_le := by decide,
    char_nodup := by decide, char_shape := by decide, type_nodup := by decide, type_shape := by decide,
    dict_nodup := by decide, dict_shape := by decide }

/-- "abé1" (é takes two bytes): the pipeline works on "ａｂé１" and breaks after the first character; the tokens carry
the ORIGINAL characters and byte offsets 0–1 and 1–5 of the original text -/
example : (match Predictor.new {} C16_exModel false, buildPostFilters "DG".toList [1, 1, 1, 1] with
    | .ok p, .ok fs => tokenStream p fs "abé1".toList
    | _, _ => .ok []) = .ok [⟨0, 1, 0, ['a']⟩, ⟨1, 5, 1, ['b', 'é', '1']⟩] := by
  repeat rw [String.toList_ofList]
  decide +kernel

example : (match Predictor.new {} C16_exModel false, buildPostFilters "DG".toList [1, 1, 1, 1] with
    | .ok p, .ok fs => (match pipeline p fs "abé1".toList with | .ok s => some (s.text, s.bounds) | _ => none)
    | _, _ => none) = some ("ａｂé１".toList, [B.W, B.N, B.N]) := by
  repeat rw [String.toList_ofList]
  decide +kernel

/-- a text with NUL (rejected by `Sentence::from_raw`) comes back as one token -/
example : (match Predictor.new {} C16_exModel false, buildPostFilters "DG".toList [1, 1] with
    | .ok p, .ok fs => tokenStream p fs "a\x00".toList
    | _, _ => .ok []) = .ok [⟨0, 2, 0, ['a', '\x00']⟩] := by
  repeat rw [String.toList_ofList]
  decide +kernel

example : (match buildPostFilters "DX".toList [] with | .err _ => true | _ => false) = true := by
  repeat rw [String.toList_ofList]
  decide +kernel

/-! ## the browser example (examples/wasm/src/lib.rs) -/

/-- the worker keeps two sentence objects between messages and reuses them (`update_raw`); what they held before is
invisible: the answer to a message (tokens, tag count, or the panic) is the answer of a freshly created worker -/
theorem C16_wasm_reuse_invisible (p : Predictor) (cl : List Nat) (w : WasmWorker) (msg : List Char) :
    (wasmReceived p cl w msg).map (·.2) = (wasmReceived p cl {} msg).map (·.2) := by
  unfold wasmReceived
  by_cases he : msg.isEmpty = true
  · simp only [he, if_true]
    rfl
  · simp only [he, Bool.false_eq_true, if_false]
    rcases C20L.raw_cases (Gen.fullwidth msg) with ⟨_, h2⟩ | ⟨_, _, h2⟩
    · simp only [h2, C20L.bindR_ok]
      rfl
    · rcases C20L.raw_cases msg with ⟨_, g2⟩ | ⟨_, _, g2⟩
      · simp only [h2, g2, C20L.bindR_ok]
      · simp only [h2, g2, C20L.bindR_ok]

/-- for a well-formed model (and tag models) the worker never panics on a non-empty NUL-free message, whatever state it is
in and for every segmentation of the message into grapheme clusters: it answers with one token per token of the library
pipeline (`from_raw`, predict, grapheme filter, digit filter, `fill_tags`) run on the NORMALISED text, each carrying the
ORIGINAL characters of its span and the pipeline's tags (an absent tag is sent as the empty string), together with the
pipeline's tag count; the surfaces concatenate to the original message -/
theorem C16_wasm_answer (m : WModel) (hm : WFModel m) (ht : WFTags m) (p : Predictor) (hp : wasmCreate m = .ok p)
    (w : WasmWorker) (msg : List Char) (hne : msg ≠ []) (hnul : '\x00' ∉ msg) (cl : List Nat) (hpos : ∀ l ∈ cl, 1 ≤ l)
    (hsum : cl.sum = msg.length) :
    ∃ s w' toks,
      (bindR (Sentence.fromRaw (Gen.fullwidth msg)) fun s0 => bindR (p.predict 0 s0) fun s1 =>
        bindR (filterGraphemes cl s1) fun s2 => bindR (filterWsConst 1 s2) fun s3 => p.predictTags s3) = .ok s ∧
      wasmReceived p cl w msg = .ok (w', toks, s.nTags) ∧
      toks = (iterTokens s.bounds).map (fun se => ((msg.drop se.1).take (se.2 - se.1),
        ((s.tags.drop ((se.2 - 1) * s.nTags)).take s.nTags).map (fun t => t.getD []))) ∧
      (toks.map (·.1)).flatten = msg :=
  ExL.wasm_answer wasmCfg m hm ht p hp w msg hne hnul cl hpos hsum

/-- a non-empty message with a NUL character is rejected by `update_raw`, and the example unwraps the result: the worker
panics (documented behaviour of the example, not of the library) -/
theorem C16_wasm_rejected (p : Predictor) (cl : List Nat) (w : WasmWorker) (msg : List Char) (hne : msg ≠ [])
    (hnul : '\x00' ∈ msg) : ∃ q, wasmReceived p cl w msg = .panic q := by
  have he : ¬ msg.isEmpty = true := by simpa using hne
  refine ⟨"sentence_filtered.update_raw(filtered_text).unwrap()", ?_⟩
  unfold wasmReceived
  simp only [he, Bool.false_eq_true, if_false,
    C20L.updateRaw_rejected w.sFiltered _ (Or.inr (C20L.fullwidth_nul_of msg hnul)), C20L.bindR_ok]
  rfl

/-- the empty message is answered with no tokens before anything is touched -/
theorem C16_wasm_empty (p : Predictor) (cl : List Nat) (w : WasmWorker) : wasmReceived p cl w [] = .ok (w, [], 0) := rfl

/-- the specification of a session: every message is answered by a NEW worker (`{}`: two default sentence objects), the
worker that comes out is thrown away; the run stops after the first answer that is not `ok`, as `wasmSession` does -/
def wasmSessionFresh (p : Predictor) : List (List Char) → List (List Nat) → List (Res (List WasmToken × Nat))
  | [], _ => []
  | m :: ms, cl =>
    match wasmReceived p (cl.headD []) {} m with
    | .ok (_, out) => .ok out :: wasmSessionFresh p ms cl.tail
    | .err e => [.err e]
    | .panic q => [.panic q]
    | .ub q => [.ub q]

/-- a session on ONE worker, in whatever state it starts, answers every message as a new worker would, up to and including
the first message that makes the worker panic (where both runs end): reusing the sentence objects over a whole session is
invisible -/
theorem C16_wasm_session_fresh (p : Predictor) (w : WasmWorker) (msgs : List (List Char)) (cls : List (List Nat)) :
    wasmSession p w msgs cls = wasmSessionFresh p msgs cls := by
  induction msgs generalizing w cls with
  | nil => rfl
  | cons m ms ih =>
    have h := C16_wasm_reuse_invisible p (cls.headD []) w m
    unfold wasmSession wasmSessionFresh
    cases h1 : wasmReceived p (cls.headD []) w m <;> cases h2 : wasmReceived p (cls.headD []) {} m <;>
      rw [h1, h2] at h <;> simp only [Res.map] at h <;> first | (cases h; done) | skip
    · rename_i a b
      obtain ⟨w1, o1⟩ := a
      obtain ⟨w2, o2⟩ := b
      simp only [Res.ok.injEq] at h
      simp only []
      rw [ih w1 cls.tail, h]
    all_goals simp only [Res.err.injEq, Res.panic.injEq, Res.ub.injEq] at h; rw [h]

/-- `C16_exModel` with a tag model for the (normalised) token "ａ" -/
def C16_exTagModel : WModel :=
  { C16_exModel with
    tagModels := [{ token := ['ａ'], tags := [[['x'], ['y']]], charNgrams := [⟨['ｂ', 'ａ'], [⟨0, [1, 2]⟩]⟩],
                    typeNgrams := [⟨[2], [⟨1, [0, 1]⟩]⟩], bias := [0, 0] }] }

example : WFModel C16_exTagModel :=
  { charW_pos := by decide, charW_le := by decide, typeW_pos := by decide, typeW_le := by decide,
    char_nodup := by decide, char_shape := by decide, type_nodup := by decide, type_shape := by decide,
    dict_nodup := by decide, dict_shape := by decide }

example : WFTags C16_exTagModel :=
  { tokens_nodup := by decide, bias_len := by decide, char_ok := by decide, type_ok := by decide }

example : (wasmCreate C16_exTagModel).isOk = true := by decide +kernel

/-- (instance search gives up on the nested answer type without this stepping stone) -/
local instance : DecidableEq (List WasmToken × Nat) := inferInstance

/-- one worker, five messages: "aba" (the token "a" gets its tag from the model over the normalised alphabet, the surfaces
are the original characters), the empty message, "ab 12" (the digit filter joins "12"), a message with NUL (the worker
panics and the session ends there) -/
example : (match wasmCreate C16_exTagModel with
    | .ok p => wasmSession p {} ["aba".toList, [], "ab 12".toList, "a\x00".toList, "a".toList]
        [[1, 1, 1], [], [1, 1, 1, 1, 1], [1, 1], [1]]
    | _ => []) =
    [.ok ([(['a'], [['y']]), (['b', 'a'], [[]])], 1), .ok ([], 0),
     .ok ([(['a'], [['y']]), (['b', ' ', '1', '2'], [[]])], 1),
     .panic "sentence_filtered.update_raw(filtered_text).unwrap()"] := by
  repeat rw [String.toList_ofList]
  decide +kernel

/-- the model of `C01.lean` (over the ASCII alphabet, which the normaliser maps away): two messages, one token each -/
example : (match wasmCreate C01_exModel with
    | .ok p => wasmSession p {} ["aba".toList, "ab 12".toList] [[1, 1, 1], [1, 1, 1, 1, 1]]
    | _ => []) =
    [.ok ([(['a', 'b', 'a'], [[]])], 1), .ok ([(['a', 'b', ' ', '1', '2'], [[]])], 1)] := by
  repeat rw [String.toList_ofList]
  decide +kernel

end V
