import VModel.Sentence
import VProofs.Lemmas.Part
import VProofs.Lemmas.PartInv
/-!
# C04 — Partial-annotation format round-trips

Helper lemmas live in `VProofs/Lemmas/Part.lean`, `PartInv.lean`, `ParserTotal.lean` and `TagTable.lean`.
-/
namespace V

/-- tags of character `i`, without trailing absent tags -/
def charTagsTrim (tags : List Tag) (nTags i : Nat) : List Tag :=
  trimNone ((tags.drop (i * nTags)).take nTags)

/-- the sentences C04 quantifies over: non-empty NUL-free text, any mix of `N`/`W`/`U` labels, `n × nTags` tag slots
on any character whose present tags are non-empty (they may contain `/`, `-`, `|`, space and backslash) -/
structure WFPart (s : Sentence) : Prop where
  text_ne : s.text ≠ []
  text_nul : ∀ c ∈ s.text, c ≠ '\x00'
  bounds_len : s.bounds.length + 1 = s.text.length
  tags_len : s.tags.length = s.text.length * s.nTags
  tags_ok : ∀ t, some t ∈ s.tags → t ≠ []

/-- writing any sentence as partial annotation and parsing it again yields the same raw text, the same label at
every boundary and the same tags at every character, up to trailing absent tags -/
theorem C04_roundtrip (s : Sentence) (h : WFPart s) :
    ∃ w p, s.writePartial = .ok w ∧ parsePartial w = .ok p ∧
      p.text = s.text ∧ p.bounds = s.bounds ∧
      ∀ i < s.text.length,
        charTagsTrim p.tags (p.tags.length / p.text.length) i = charTagsTrim s.tags s.nTags i := by
  obtain ⟨w, tt, hw, hp, hl, htt⟩ := C04L.writePartial_parse s h.text_ne h.text_nul h.bounds_len h.tags_len
  have hne : tt ≠ [] := fun e => h.text_ne (List.eq_nil_of_length_eq_zero (by rw [← hl, e]; rfl))
  refine ⟨w, _, hw, hp, rfl, rfl, fun i hi => ?_⟩
  have hi' : i < tt.length := hl ▸ hi
  -- character `i` holds its trimmed chunk, and trimming is idempotent
  have := padTags_readback tt hne i (trimNone ((s.tags.drop (i * s.nTags)).take s.nTags))
    (by rw [List.getElem?_eq_getElem hi', htt i hi'])
    (fun t ht => h.tags_ok t (List.mem_of_mem_drop (List.mem_of_mem_take (mem_trimNone ht))))
  rw [trimNone_idem, hl] at this
  exact this

/-- every string the parser accepts yields a sentence in the domain of `C04_roundtrip` -/
theorem C04_parsed_wf (x : List Char) (p : Parsed) (h : parsePartial x = .ok p) :
    ∃ s, Sentence.ofParsed p = .ok s ∧ WFPart s := by
  obtain ⟨tt, hp⟩ := (parsePartial_parsedOK x).of_ok h
  have hg := hp.good
  simp only [Sentence.ofParsed, hg.divTags.1]
  refine ⟨_, rfl, hg.text_ne, hp.text_nul, hg.bounds_len, hg.divTags.2, fun t ht => ?_⟩
  have ht : some t ∈ p.tags := ht
  rw [hp.tags_eq] at ht
  exact (mem_padTags ht).1

/-! ## non-vacuity: a tag that contains a delimiter (`x-y`) survives parse-then-write (finding F-C04 was a writer that did not escape it) -/

example : (Sentence.fromPartial "a-b/x\\-y c".toList).bind (fun s => s.writePartial) = .ok "a-b/x\\-y c".toList := by
  -- the kernel would decode each literal from UTF-8; as lists of characters they evaluate directly
  repeat rw [String.toList_ofList]
  decide +kernel

end V
