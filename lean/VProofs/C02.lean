import VProofs.Lemmas.Iter
import VProofs.Lemmas.IterDecl
/-!
# C02 — Tokens are a lossless, ordered partition of the text

Helper lemmas live in `VProofs/Lemmas/Iter.lean` and `IterDecl.lean`.
`iterTokens` mirrors `TokenIterator::next` (Rust variables `start`, `end`, `skip_token`, loop index `i`
relative to the slice taken at the old `end`); `specTokens` is the specification: the maximal
`W`-delimited segments of `[0, n)` with no `U` inside, in order.
-/
namespace V

/-- the iterator yields exactly the specified segments, for every label vector (any mix of `N`, `W`, `U`,
including runs of several consecutive segments that contain `U`) -/
theorem C02_iter_eq_spec (bs : List B) : iterTokens bs = specTokens bs := iterTokens_eq_spec bs

/-- without unknown boundaries the tokens are non-empty, contiguous, in order, start at 0 and end at `n` -/
theorem C02_partition_chain (bs : List B) (h : ∀ x ∈ bs, x ≠ B.U) :
    IsChain 0 (iterTokens bs) (bs.length + 1) := by
  rw [C02_iter_eq_spec]
  have := specSeg_chain bs 0 0 h (Nat.le_refl _)
  simpa [specTokens] using this

/-- … they break exactly at the word boundaries (token starts = 0 followed by `i + 1` for every `bs[i] = W`) -/
theorem C02_partition_breaks (bs : List B) (h : ∀ x ∈ bs, x ≠ B.U) :
    (iterTokens bs).map Prod.fst = 0 :: wPos bs 0 := by
  rw [C02_iter_eq_spec]
  exact specSeg_starts bs 0 0 h

/-- … and their surfaces concatenate to the text unchanged -/
theorem C02_partition_concat (text : List Char) (bs : List B) (h : ∀ x ∈ bs, x ≠ B.U)
    (hlen : text.length = bs.length + 1) :
    (iterTokens bs).flatMap (slice text) = text := by
  rw [(chain_concat text _ _ _ (C02_partition_chain bs h)).2, List.drop_zero, Nat.sub_zero, ← hlen]
  exact List.take_length

/-- the tokenized writer emits exactly the specified tokens -/
theorem C02_writer (s : Sentence) : s.writeTokenized = writeTokBody s (specTokens s.bounds) true := by
  unfold Sentence.writeTokenized
  rw [C02_iter_eq_spec]

/-- surfaces are the true character spans: `substring` never fails on a specified token of a consistent sentence -/
theorem C02_surface_span (s : Sentence) (hlen : s.text.length = s.bounds.length + 1)
    (h : ∀ x ∈ s.bounds, x ≠ B.U) (st en : Nat) (hm : (st, en) ∈ iterTokens s.bounds) :
    s.substring st en = .ok (slice s.text (st, en)) ∧ st < en ∧ en ≤ s.text.length := by
  have := iterTokens_range s.bounds (st, en) hm
  exact ⟨s.substring_eq (by omega) (by omega), this.1, by omega⟩

/-- the specification read declaratively: `[st, en)` is reported iff it is non-empty, delimited on both sides by a word
boundary or an end of the text, and every boundary strictly inside it is a known non-boundary (no `W`, no `U`) -/
theorem C02_spec_declarative (bs : List B) (st en : Nat) :
    (st, en) ∈ specTokens bs ↔
      st < en ∧ en ≤ bs.length + 1 ∧
      (st = 0 ∨ bs[st - 1]? = some B.W) ∧ (en = bs.length + 1 ∨ bs[en - 1]? = some B.W) ∧
      ∀ k, st ≤ k → k + 1 < en → bs[k]? = some B.N := by
  show _ ↔ C02L.Decl bs st en
  unfold specTokens
  rw [C02L.specSeg_decl bs bs 0 0 false List.drop_zero (C02L.Scan.init bs 0 (Nat.zero_le _) (Or.inl rfl)) st en]
  exact ⟨fun h => h.1, fun h => ⟨h, by have := h.1; omega⟩⟩

/-- each such segment is reported once, and the segments come in order of position -/
theorem C02_spec_sorted (bs : List B) :
    (specTokens bs).Pairwise (fun a b => a.2 ≤ b.1) ∧ (specTokens bs).Nodup := by
  obtain ⟨h1, h2⟩ := C02L.specSeg_sorted bs 0 0 false (Nat.le_refl _)
  refine ⟨h2, ?_⟩
  unfold List.Nodup
  refine List.Pairwise.imp_of_mem ?_ h2
  intro a b ha _ hab heq
  subst heq
  have := h1 a ha
  omega

/-! ## non-vacuity; the first label vector is that of `a b|c d|e` (finding F-C02: two consecutive segments with an unknown boundary) -/

example : iterTokens [B.U, B.W, B.U, B.W] = [(4, 5)] := by decide
example : iterTokens [B.N, B.W, B.W] = [(0, 2), (2, 3), (3, 4)] ∧ (∀ x ∈ [B.N, B.W, B.W], x ≠ B.U) := by decide

end V
