import VProofs.C01
import VProofs.Lemmas.CsvFileLoad
/-!
# C19 — Dictionary edits act as documented; dump and replace are lossless

The property theorems and their examples; the helper lemmas are in `VProofs/Lemmas/Csv*.lean`.
-/
namespace V

/-- replacing the dictionary changes the score of every boundary by exactly the difference between the new and the old
entries' weights at that boundary over all occurrences of their words -/
theorem C19_replace_delta (m : WModel) (d' : List DictWord) (text : List Char) (b : Nat) :
    specScore (m.replaceDict d') text b - specScore m text b = dictScore d' text b - dictScore m.dict text b := by
  simp only [specScore, WModel.replaceDict]
  omega

/-- … and changes nothing else in the model -/
theorem C19_replace_frame (m : WModel) (d' : List DictWord) :
    (m.replaceDict d').charNgrams = m.charNgrams ∧ (m.replaceDict d').typeNgrams = m.typeNgrams ∧
    (m.replaceDict d').bias = m.bias ∧ (m.replaceDict d').charW = m.charW ∧ (m.replaceDict d').typeW = m.typeW ∧
    (m.replaceDict d').tagModels = m.tagModels ∧ (m.replaceDict d').dict = d' := by
  simp [WModel.replaceDict]

/-- the `weights` column round-trips for every non-empty list of 32-bit weights (negative numbers included) -/
theorem C19_weights_roundtrip (ws : List Int) (hne : ws ≠ [])
    (hr : ∀ w ∈ ws, -(2 ^ 31 : Int) ≤ w ∧ w < 2 ^ 31) : parseWeights (joinWeights ws) = some ws :=
  C19L.parseWeights_join ws hne hr

/-- records whose weight count does not match the word length are rejected, all others accepted unchanged -/
theorem C19_record_check (word : List Char) (weights : List Int) (comment : List Char) :
    (weights.length ≠ word.length + 1 → wordRecordNew word weights comment = .err .invalidArgument) ∧
    (weights.length = word.length + 1 → wordRecordNew word weights comment = .ok ⟨word, weights, comment⟩) := by
  unfold wordRecordNew
  constructor <;> intro h <;> simp [h]

/-- dumping the dictionary and replacing it with the unmodified dump reproduces the model, for any words and comments
(given the CSV contract: the three columns come back as they were written) -/
theorem C19_dump_replace (m : WModel)
    (hshape : ∀ d ∈ m.dict, d.weights.length = d.word.length + 1)
    (hrange : ∀ d ∈ m.dict, ∀ w ∈ d.weights, -(2 ^ 31 : Int) ≤ w ∧ w < 2 ^ 31) :
    loadRows (m.dict.map dumpRow) = .ok m.dict ∧ m.replaceDict m.dict = m :=
  ⟨C19L.loadRows_dump m.dict hshape hrange, by cases m; rfl⟩

/-- non-vacuity: the extreme `i32` values and a negative number survive the `weights` column -/
example : parseWeights (joinWeights [-2147483648, 0, 7, 2147483647]) = some [-2147483648, 0, 7, 2147483647] := by
  decide +kernel

/-- non-vacuity: a malformed column and an out-of-range weight are rejected -/
example : parseWeights "1  2".toList = none ∧ parseWeights "2147483648".toList = none := by
  -- as a rewrite the literals become character lists for free; evaluated, the kernel would decode each one's UTF-8 bytes
  repeat rw [String.toList_ofList]
  decide +kernel

/-- at the level of the predictor (C19_replace_delta ∘ C01_scores): for well-formed models before and after the edit, the
reported score of every boundary changes by exactly the new entries' minus the old entries' dictionary weights -/
theorem C19_predictor_delta (cfg : Cfg) (m : WModel) (d' : List DictWord) (hm : WFModel m) (hm' : WFModel (m.replaceDict d'))
    (pt : Bool) (p p' : Predictor) (hp : Predictor.new cfg m pt = .ok p)
    (hp' : Predictor.new cfg (m.replaceDict d') pt = .ok p') (s : Sentence) (hs : SentOK s) (pid : Nat) :
    ∃ s1 s2 sc1 sc2, p.predict pid s = .ok s1 ∧ p'.predict pid s = .ok s2 ∧
      s1.boundaryScores = .ok sc1 ∧ s2.boundaryScores = .ok sc2 ∧
      ∀ b, b < s.text.length - 1 →
        sc2.getD b 0 - sc1.getD b 0 = dictScore d' s.text b - dictScore m.dict s.text b := by
  obtain ⟨s1, e1, a1, _⟩ := C01_scores cfg m hm pt p hp s hs pid
  obtain ⟨s2, e2, a2, _⟩ := C01_scores cfg (m.replaceDict d') hm' pt p' hp' s hs pid
  refine ⟨s1, s2, _, _, e1, e2, a1, a2, ?_⟩
  intro b hb
  have h : ∀ m' : WModel, (specScores m' s.text).getD b 0 = specScore m' s.text b := fun m' => by
    simp [specScores, List.getD_eq_getElem?_getD, hb]
  rw [h, h]
  exact C19_replace_delta m d' s.text b

/-! ## the CSV file layer (`VModel/CsvFile.lean`): the contract "read (write rows) = rows" of the `csv` crate, proved for the model
of its writer and of its reader automaton -/

/-- one field, alone in its record (the empty field is written as `""`) and in any position of a longer record, comes back
as it was written — for any characters, `,` `"` CR LF included -/
theorem C19_csv_field_roundtrip (f : List Char) :
    csvParse (csvRecord [f]) = some [[f]] ∧
    ∀ pre post : List (List Char), csvParse (csvRecord (pre ++ f :: post)) = some [pre ++ f :: post] := by
  have h : ∀ r : List (List Char), r ≠ [] → csvParse (csvRecord r) = some [r] := by
    intro r hr
    have e := (C19F.readsRec_record hr []).1
    rw [List.append_nil] at e
    rw [csvParse, e]
    rfl
  exact ⟨h [f] (List.cons_ne_nil _ _), fun pre post => h _ (List.append_ne_nil_of_right_ne_nil _ (List.cons_ne_nil _ _))⟩

/-- the reader applied to what the writer wrote gives back the records, for ALL lists of records of at least one field each
and arbitrary fields.  No further restriction is needed: the one spelling that real CSV cannot tell from a blank line — a
record consisting of one empty field — is written as `""` by `csv_core::Writer::terminator`, and `csvRecord` models that. -/
theorem C19_csv_roundtrip (records : List (List (List Char))) (hne : ∀ r ∈ records, r ≠ []) :
    csvParse (records.flatMap csvRecord) = some records := by
  have e := (C19F.written_run records hne []).1
  rw [List.append_nil] at e
  rw [csvParse, e]
  exact congrArg some (List.append_nil records)

/-- the restriction `r ≠ []` is needed (a record of zero fields is written like a record of one empty field), and without the
`""` rule of the writer a record of one empty field would be lost: it would read as a blank line -/
example : csvParse ([[]].flatMap csvRecord) = some [[[]]] ∧ csvParse (csvJoin [[]] ++ ['\n']) = some [] := by decide +kernel

/-- the spellings an editor produces are read as well, and are inside the strict domain: any field may be in quotes
(`(true, f)`), every record is followed by a non-empty run of CR / LF (so LF, CR LF, CR, and blank lines), blank lines may
precede the first record, and the last record may lack its terminator (`last`, `[]` = there is none).  The only excluded
spelling is the record written as nothing (one unquoted empty field): it is a blank line. -/
theorem C19_csv_variants (lead : List Char) (recs : List (List (Bool × List Char) × List Char))
    (last : List (Bool × List Char))
    (hlead : ∀ c ∈ lead, c = '\n' ∨ c = '\r')
    (hrecs : ∀ r ∈ recs, r.1 ≠ [] ∧ r.1 ≠ [(false, [])] ∧ r.2 ≠ [] ∧ ∀ c ∈ r.2, c = '\n' ∨ c = '\r')
    (hlast : last ≠ [(false, [])]) :
    csvParse (lead ++ (recs.flatMap (fun r => C19F.csvJoinV r.1 ++ r.2) ++ C19F.csvJoinV last)) =
      some (recs.map (fun r => r.1.map (·.2)) ++ (if last = [] then [] else [last.map (·.2)])) ∧
    csvStrictGo .startRecord (lead ++ (recs.flatMap (fun r => C19F.csvJoinV r.1 ++ r.2) ++ C19F.csvJoinV last)) = true := by
  have hr : ∀ r ∈ recs, C19F.ReadsRec (C19F.csvJoinV r.1 ++ r.2) (r.1.map (·.2)) := fun r hr =>
    C19F.readsRec_recordV (hrecs r hr).1 (hrecs r hr).2.1 (hrecs r hr).2.2.1 (hrecs r hr).2.2.2
  obtain ⟨g1, s1⟩ := C19F.blank_run lead hlead [] [] (recs.flatMap (fun r => C19F.csvJoinV r.1 ++ r.2) ++ C19F.csvJoinV last)
  obtain ⟨g2, s2⟩ := C19F.readsRec_flatMap _ _ recs hr (C19F.csvJoinV last)
  obtain ⟨g3, s3⟩ := C19F.last_run hlast
  exact ⟨by rw [csvParse, g1, g2, g3], by rw [s1, s2, s3]⟩

/-- the contract of the `csv` crate that `C19_dump_replace` assumed: a file consisting of the header and one record per row is
read as exactly these rows, whatever the three columns contain -/
theorem C19_csv_contract (rows : List (List Char × List Char × List Char)) :
    csvLoadFile (csvRecord csvHeader ++ rows.flatMap fun r => csvRecord (csvRowFields r)) = loadRows rows := by
  have h := C19F.load_written_records (rows.map csvRowFields) C19F.rowFields_ne_nil
  rwa [List.flatMap_map, C19F.mapM_rowOf] at h

/-- dump file, then load file: the dictionary comes back, for any words and comments -/
theorem C19_dump_file_roundtrip (d : List DictWord)
    (hshape : ∀ e ∈ d, e.weights.length = e.word.length + 1)
    (hrange : ∀ e ∈ d, ∀ w ∈ e.weights, -(2 ^ 31 : Int) ≤ w ∧ w < 2 ^ 31) :
    csvLoadFile (csvDumpFile d) = .ok d := by
  by_cases hd : d = []
  · subst hd; rfl
  · rw [C19F.dumpFile_eq d hd, C19_csv_contract]
    exact C19L.loadRows_dump d hshape hrange

/-- model ↦ dump file ↦ replace gives the same model (all components: `C19_replace_frame` for the rest) -/
theorem C19_dump_file_replace_model (m : WModel)
    (hshape : ∀ d ∈ m.dict, d.weights.length = d.word.length + 1)
    (hrange : ∀ d ∈ m.dict, ∀ w ∈ d.weights, -(2 ^ 31 : Int) ≤ w ∧ w < 2 ^ 31) :
    ∃ d', csvLoadFile (csvDumpFile m.dict) = .ok d' ∧ m.replaceDict d' = m ∧
      (m.replaceDict d').charNgrams = m.charNgrams ∧ (m.replaceDict d').typeNgrams = m.typeNgrams ∧
      (m.replaceDict d').bias = m.bias ∧ (m.replaceDict d').charW = m.charW ∧ (m.replaceDict d').typeW = m.typeW ∧
      (m.replaceDict d').tagModels = m.tagModels ∧ (m.replaceDict d').dict = m.dict := by
  refine ⟨m.dict, C19_dump_file_roundtrip m.dict hshape hrange, (C19_dump_replace m hshape hrange).2, ?_⟩
  exact C19_replace_frame m m.dict

/-- every file written as the header and further records (of at least one field each) is inside the strict domain -/
theorem C19_written_file_strict (recs : List (List (List Char))) (hne : ∀ r ∈ recs, r ≠ []) :
    csvStrict (csvRecord csvHeader ++ recs.flatMap csvRecord) = true := by
  obtain ⟨hp, hs⟩ := C19F.written_file hne
  simp only [csvStrict, C19F.hasBom_header, hs, hp, decide_true, Bool.not_false, Bool.and_self]

/-- the writer's output is inside the domain where the model claims agreement with the real reader (no hypothesis on `d`) -/
theorem C19_dump_file_strict (d : List DictWord) : csvStrict (csvDumpFile d) = true := by
  by_cases hd : d = []
  · subst hd; rfl
  · rw [C19F.dumpFile_eq d hd, ← List.flatMap_map]
    exact C19_written_file_strict _ C19F.rowFields_ne_nil

/-- a file in which some record's `weights` column does not parse (empty column, double space, non-digit, outside `i32`) or has a
number of weights different from the word length + 1 is rejected as a whole -/
theorem C19_load_file_rejects (rows : List (List Char × List Char × List Char))
    (hbad : ∃ r ∈ rows, ∀ ws, parseWeights r.2.1 = some ws → ws.length ≠ r.1.length + 1) :
    csvLoadFile (csvRecord csvHeader ++ rows.flatMap fun r => csvRecord (csvRowFields r)) = .err .invalidArgument := by
  rw [C19_csv_contract]
  exact C19F.loadRows_bad rows hbad

/-- … and so is a file in which some record does not have exactly three fields (`UnequalLengths` in the real reader) -/
theorem C19_load_file_rejects_fieldcount (recs : List (List (List Char))) (hne : ∀ r ∈ recs, r ≠ [])
    (hbad : ∃ r ∈ recs, r.length ≠ 3) :
    csvLoadFile (csvRecord csvHeader ++ recs.flatMap csvRecord) = .err .invalidArgument := by
  rw [C19F.load_written_records recs hne, C19F.mapM_rowOf_none recs hbad]

/-- a file is never half-accepted: the result is the whole dictionary or the rejection -/
theorem C19_load_file_total (s : List Char) :
    (∃ d, csvLoadFile s = .ok d) ∨ csvLoadFile s = .err .invalidArgument := by
  unfold csvLoadFile csvParse
  cases csvGo .startRecord [] [] (csvStripBom s) with
  | nil => exact Or.inl ⟨[], rfl⟩
  | cons h recs =>
    by_cases hh : h = csvHeader
    · simp only []; rw [if_pos hh]
      cases recs.mapM csvRowOf? with
      | none => exact Or.inr rfl
      | some rows => exact C19F.loadRows_cases rows
    · simp only []; rw [if_neg hh]; exact Or.inr rfl

/-- hostile fields: `a,b`, a lone quote, an embedded line break, CR, the empty field, `#x`, leading / trailing spaces -/
example : csvRecord ["a,b".toList, "\"".toList, "x\ny".toList, "\r".toList, [], "#x".toList, " y ".toList]
    = "\"a,b\",\"\"\"\",\"x\ny\",\"\r\",,#x, y \n".toList := by
  repeat rw [String.toList_ofList]
  decide +kernel

example : csvParse "\"a,b\",\"\"\"\",\"x\ny\",\"\r\",,#x, y \n".toList
    = some [["a,b".toList, "\"".toList, "x\ny".toList, "\r".toList, [], "#x".toList, " y ".toList]] := by
  repeat rw [String.toList_ofList]
  decide +kernel

/-- a dictionary with hostile words and comments: the file, the way back, strictness -/
example : csvDumpFile [⟨"a,b".toList, [1, -2, 3, 4], []⟩, ⟨"\"".toList, [0, 2147483647], "#x".toList⟩,
      ⟨"x\ny".toList, [-2147483648, 0, 0, 5], " lead and trail ".toList⟩, ⟨[], [7], "say \"hi\"".toList⟩]
    = ("word,weights,comment\n\"a,b\",1 -2 3 4,\n\"\"\"\",0 2147483647,#x\n" ++
       "\"x\ny\",-2147483648 0 0 5, lead and trail \n,7,\"say \"\"hi\"\"\"\n").toList := by
  rw [String.toList_append]
  repeat rw [String.toList_ofList]
  decide +kernel

example : csvLoadFile (csvDumpFile [⟨"a,b".toList, [1, -2, 3, 4], []⟩, ⟨"\"".toList, [0, 2147483647], "#x".toList⟩,
      ⟨"x\ny".toList, [-2147483648, 0, 0, 5], " lead and trail ".toList⟩, ⟨[], [7], "say \"hi\"".toList⟩])
    = .ok [⟨"a,b".toList, [1, -2, 3, 4], []⟩, ⟨"\"".toList, [0, 2147483647], "#x".toList⟩,
      ⟨"x\ny".toList, [-2147483648, 0, 0, 5], " lead and trail ".toList⟩, ⟨[], [7], "say \"hi\"".toList⟩] := by
  repeat rw [String.toList_ofList]
  decide +kernel

/-- the empty dictionary: an empty file, which loads as the empty dictionary; so does a file with the header only -/
example : csvDumpFile [] = [] ∧ csvLoadFile [] = .ok [] ∧ csvLoadFile "word,weights,comment\n".toList = .ok [] ∧
    csvStrict [] = true := by
  repeat rw [String.toList_ofList]
  decide +kernel

/-- what an editor saves: every field quoted, CR LF, a blank line, no final terminator — accepted and strict -/
example : csvLoadFile "\"word\",\"weights\",\"comment\"\r\n\"a,b\",\"1 2 3 4\",\"\"\r\n\r\nc,5 6,x".toList
      = .ok [⟨"a,b".toList, [1, 2, 3, 4], []⟩, ⟨"c".toList, [5, 6], "x".toList⟩] ∧
    csvStrict "\"word\",\"weights\",\"comment\"\r\n\"a,b\",\"1 2 3 4\",\"\"\r\n\r\nc,5 6,x".toList = true ∧
    csvLoadFile "word,weights,comment\ra,1 2,\r".toList = .ok [⟨"a".toList, [1, 2], []⟩] := by
  repeat rw [String.toList_ofList]
  decide +kernel

/-- rejected files: wrong number of weights, unparsable weights (double space, empty column, out of range), two or four
fields, another header -/
example : csvLoadFile "word,weights,comment\nab,1 2,x\n".toList = .err .invalidArgument ∧
    csvLoadFile "word,weights,comment\nab,1  2 3,x\n".toList = .err .invalidArgument ∧
    csvLoadFile "word,weights,comment\nok,1 2 3,\n,,x\n".toList = .err .invalidArgument ∧
    csvLoadFile "word,weights,comment\na,1 2147483648,x\n".toList = .err .invalidArgument ∧
    csvLoadFile "word,weights,comment\na,1 2\n".toList = .err .invalidArgument ∧
    csvLoadFile "word,weights,comment\na,1 2,x,y\n".toList = .err .invalidArgument ∧
    csvLoadFile "word,weight,comment\na,1 2,x\n".toList = .err .invalidArgument := by
  repeat rw [String.toList_ofList]
  decide +kernel

/-- the lenient inputs are read like csv-core reads them, and flagged: a quote inside an unquoted field, text after a closing
quote, a quoted field open at the end of the input, a byte order mark, a permuted header -/
example : csvParse "a\"b,\"c\"d\n\"open".toList = some [["a\"b".toList, "cd".toList], ["open".toList]] ∧
    csvStrict "word,weights,comment\na\"b,1 2 3 4,\n".toList = false ∧
    csvStrict "word,weights,comment\n\"a\"b,1 2 3,\n".toList = false ∧
    csvStrict "word,weights,comment\na,1 2,\"x".toList = false ∧
    csvStrict (Char.ofNat 0xFEFF :: "word,weights,comment\na,1 2,x\n".toList) = false ∧
    csvLoadFile (Char.ofNat 0xFEFF :: "word,weights,comment\na,1 2,x\n".toList) = .ok [⟨"a".toList, [1, 2], "x".toList⟩] ∧
    csvStrict "comment,word,weights\nx,a,1 2\n".toList = false := by
  repeat rw [String.toList_ofList]
  decide +kernel

end V
