import VProofs.C01
import VProofs.Lemmas.TagFinal
import VProofs.Lemmas.TagLocal
import VProofs.Lemmas.TagBoundMain
import VProofs.Lemmas.PermPredictor
import VProofs.Lemmas.PermCells
/-!
# C06 — Predicted tags equal the per-token linear classifiers

The property theorems, the predicate `WFTags` and the example models; the lemmas are in `Lemmas/Tag*.lean`, `Lemmas/TagBound*.lean`
(bounds) and `Lemmas/Perm*.lean` (hash-map orders).
The specification (`specTagScores`, `specPickTags`, `specTokenTags`, `specNTags`, `tagModelOf`) is in `VModel/Spec.lean`;
`specAllTags` (all rows of a sentence) is in `Lemmas/TagMain.lean`, `specCandidates` in `Lemmas/TagPick.lean`.
-/
namespace V

/-- well-formed tag models: unique tokens; a bias entry and, in every tag n-gram weight, one weight per trainable class;
non-empty n-grams; type codes in 1..6.  Relative positions are NOT restricted to the window of their kind: the tag
table is sized by the largest relative position in the model -/
structure WFTags (m : WModel) : Prop where
  tokens_nodup : (m.tagModels.map (·.token)).Nodup
  bias_len : ∀ tm ∈ m.tagModels, tm.bias.length = nClass tm.tags
  char_ok : ∀ tm ∈ m.tagModels, ∀ d ∈ tm.charNgrams, d.ngram ≠ [] ∧
    ∀ w ∈ d.weights, w.weights.length = nClass tm.tags
  type_ok : ∀ tm ∈ m.tagModels, ∀ d ∈ tm.typeNgrams, d.ngram ≠ [] ∧ (∀ t ∈ d.ngram, 1 ≤ t ∧ t ≤ 6) ∧
    ∀ w ∈ d.weights, w.weights.length = nClass tm.tags

/-- the first maximum is what the scan `if s > max_score` selects -/
theorem C06_argmax (x : Int) (xs : List Int) :
    argmaxFirst (x :: xs) 0 0 none = firstMax (x :: xs) :=
  C06L.argmaxFirst_eq (x :: xs)

theorem WFTags.toL {m : WModel} (h : WFTags m) : C06L.WFT m :=
  ⟨h.bias_len, fun tm htm d hd => (h.char_ok tm htm d hd).2, fun tm htm d hd => (h.type_ok tm htm d hd).2.2⟩

/-! ## the tag side does not depend on the windows (`--charw 0`, `--typew 0` included)

A window of 0 switches off the BOUNDARY n-grams of that kind (`C01_scores_window0`); the tag n-grams of both kinds still
count.  The tag-weight table of a scorer has `max(window + 1, rel + 1)` rows, so with window 0 it still has a row for relative
position 0 and for every relative position that occurs.  `C06_predictTags_window0`, `C06_tags_window0` and `C06_candidates_window0` are therefore proved for `WFModel0` (the proofs
use of the model only `WFTags`, and that `predict` succeeded); the specification (`specNTags`, `specAllTags`, `C06L.allScores`,
`tagModelOf`, `specTagScores`) reads `m.tagModels` only, so it is that of `m` itself — `dropW0 m` would give the same
(`C06_spec_dropW0`). -/

/-- the tag specification does not see the boundary n-grams: dropping those of the switched-off kinds changes nothing -/
theorem C06_spec_dropW0 (cfg : Cfg) (m : WModel) :
    specNTags (dropW0 m) = specNTags m ∧ specAllTags (dropW0 m) = specAllTags m ∧
    C06L.allScores cfg (dropW0 m) = C06L.allScores cfg m ∧ tagModelOf (dropW0 m) = tagModelOf m ∧
    (WFTags (dropW0 m) ↔ WFTags m) :=
  ⟨rfl, rfl, rfl, rfl, ⟨fun h => ⟨h.1, h.2, h.3, h.4⟩, fun h => ⟨h.1, h.2, h.3, h.4⟩⟩⟩

set_option linter.unusedVariables false in
/-- `C06_predictTags` for windows 0..255 -/
theorem C06_predictTags_window0 (cfg : Cfg) (m : WModel) (hm : WFModel0 m) (ht : WFTags m)
    (p : Predictor) (hp : Predictor.new cfg m true = .ok p) (store : Bool)
    (s s1 : Sentence) (hs : SentOK s) (pid : Nat) (h1 : p.predict pid s = .ok s1)
    (bs : List B) (hbs : bs.length = s1.bounds.length) (hn : 0 < specNTags m) :
    bs.length + 1 = s.text.length ∧
    ({ p with storeTagScores := store } : Predictor).predictTags { s1 with bounds := bs }
      = .ok { s1 with bounds := bs, nTags := specNTags m, tags := specAllTags m s.text bs,
                      tagScores := if store = true then C06L.allScores cfg m s.text bs else [] } := by
  exact C06L.predictTags_full cfg m ht.toL p hp store s s1 hs.types_eq hs.bounds_len pid h1 bs hbs hn

set_option linter.unusedVariables false in
/-- **main theorem, windows 0..255**: as `C06_tags`, for every model that is well-formed up to the n-grams of switched-off
kinds: with `--charw 0` and/or `--typew 0` `fill_tags` does not panic either, and every tag n-gram of either kind still
contributes its weight at its stated offset -/
theorem C06_tags_window0 (cfg : Cfg) (hcfg : cfg.tagPred = true) (m : WModel) (hm : WFModel0 m) (ht : WFTags m)
    (p : Predictor) (hp : Predictor.new cfg m true = .ok p) (store : Bool)
    (s s1 : Sentence) (hs : SentOK s) (pid : Nat) (h1 : p.predict pid s = .ok s1)
    (bs : List B) (hbs : bs.length = s1.bounds.length) (hn : 0 < specNTags m) :
    ∃ s3, ({ p with storeTagScores := store } : Predictor).predictTags { s1 with bounds := bs } = .ok s3 ∧
      s3.nTags = specNTags m ∧ s3.tags = specAllTags m s.text bs ∧
      s3.bounds = bs ∧ s3.text = s.text ∧ s3.types = s1.types ∧ s3.scores = s1.scores ∧ s3.padding = s1.padding := by
  obtain ⟨_, h3⟩ := C06_predictTags_window0 cfg m hm ht p hp store s s1 hs pid h1 bs hbs hn
  have htext : s1.text = s.text := (C06L.predict_states p pid s s1 h1).1
  exact ⟨_, h3, rfl, rfl, rfl, htext, rfl, rfl, rfl⟩

set_option linter.unusedVariables false in
/-- `C06_candidates` for windows 0..255 -/
theorem C06_candidates_window0 (cfg : Cfg) (hcfg : cfg.tagPred = true) (m : WModel) (hm : WFModel0 m) (ht : WFTags m)
    (p : Predictor) (hp : Predictor.new cfg m true = .ok p) (store : Bool)
    (s s1 s3 : Sentence) (hs : SentOK s) (pid : Nat) (h1 : p.predict pid s = .ok s1)
    (bs : List B) (hbs : bs.length = s1.bounds.length) (hn : 0 < specNTags m)
    (h3 : ({ p with storeTagScores := store } : Predictor).predictTags { s1 with bounds := bs } = .ok s3) :
    (store = false → s3.tagScores = []) ∧
    (store = true → ∀ se ∈ specTokens bs,
      s3.tagCandidates se.2 = .ok (match tagModelOf m ((s.text.drop se.1).take (se.2 - se.1)) with
        | some tm => specCandidates tm.tags (specTagScores tm s.text (se.2 - 1))
        | none => [])) := by
  obtain ⟨hbl, h3'⟩ := C06_predictTags_window0 cfg m hm ht p hp store s s1 hs pid h1 bs hbs hn
  rw [h3'] at h3
  simp only [Res.ok.injEq] at h3
  subst h3
  refine ⟨fun h => by simp [h], fun h se hse => ?_⟩
  exact C06L.tagCandidates_spec cfg m s.text bs hbl _ (by simp [h]) se hse

/-- the common part of `C06_tags` and `C06_candidates`: the sentence `fill_tags` produces -/
theorem C06_predictTags (cfg : Cfg) (m : WModel) (hm : WFModel m) (ht : WFTags m)
    (p : Predictor) (hp : Predictor.new cfg m true = .ok p) (store : Bool)
    (s s1 : Sentence) (hs : SentOK s) (pid : Nat) (h1 : p.predict pid s = .ok s1)
    (bs : List B) (hbs : bs.length = s1.bounds.length) (hn : 0 < specNTags m) :
    bs.length + 1 = s.text.length ∧
    ({ p with storeTagScores := store } : Predictor).predictTags { s1 with bounds := bs }
      = .ok { s1 with bounds := bs, nTags := specNTags m, tags := specAllTags m s.text bs,
                      tagScores := if store = true then C06L.allScores cfg m s.text bs else [] } :=
  C06_predictTags_window0 cfg m hm.toWFModel0 ht p hp store s s1 hs pid h1 bs hbs hn

/-- **main theorem**: after `predict` with a tag-predicting predictor built from a well-formed model, and for ANY
boundary vector the sentence carries afterwards (as produced by prediction or rewritten by filters, unknowns included),
`fill_tags` does not panic, sets the tag count to the widest tag model, gives every unknown-free token whose surface
has a tag model the per-category best candidate (first on ties; the single candidate; none for an empty category) of
`bias + Σ tag n-gram weights at their stated offset from the token's last character`, gives every other slot no tag,
and touches nothing else -/
theorem C06_tags (cfg : Cfg) (hcfg : cfg.tagPred = true) (m : WModel) (hm : WFModel m) (ht : WFTags m)
    (p : Predictor) (hp : Predictor.new cfg m true = .ok p) (store : Bool)
    (s s1 : Sentence) (hs : SentOK s) (pid : Nat) (h1 : p.predict pid s = .ok s1)
    (bs : List B) (hbs : bs.length = s1.bounds.length) (hn : 0 < specNTags m) :
    ∃ s3, ({ p with storeTagScores := store } : Predictor).predictTags { s1 with bounds := bs } = .ok s3 ∧
      s3.nTags = specNTags m ∧ s3.tags = specAllTags m s.text bs ∧
      s3.bounds = bs ∧ s3.text = s.text ∧ s3.types = s1.types ∧ s3.scores = s1.scores ∧ s3.padding = s1.padding :=
  C06_tags_window0 cfg hcfg m hm.toWFModel0 ht p hp store s s1 hs pid h1 bs hbs hn

/-- with score storing, the candidate scores reported for each token equal those sums (0 for a single candidate);
without it nothing is stored -/
theorem C06_candidates (cfg : Cfg) (hcfg : cfg.tagPred = true) (m : WModel) (hm : WFModel m) (ht : WFTags m)
    (p : Predictor) (hp : Predictor.new cfg m true = .ok p) (store : Bool)
    (s s1 s3 : Sentence) (hs : SentOK s) (pid : Nat) (h1 : p.predict pid s = .ok s1)
    (bs : List B) (hbs : bs.length = s1.bounds.length) (hn : 0 < specNTags m)
    (h3 : ({ p with storeTagScores := store } : Predictor).predictTags { s1 with bounds := bs } = .ok s3) :
    (store = false → s3.tagScores = []) ∧
    (store = true → ∀ se ∈ specTokens bs,
      s3.tagCandidates se.2 = .ok (match tagModelOf m ((s.text.drop se.1).take (se.2 - se.1)) with
        | some tm => specCandidates tm.tags (specTagScores tm s.text (se.2 - 1))
        | none => [])) :=
  C06_candidates_window0 cfg hcfg m hm.toWFModel0 ht p hp store s s1 s3 hs pid h1 bs hbs hn h3

/-- a model without tag categories: `fill_tags` leaves text, boundaries, tags and tag count as they are; it only (re)creates
the per-character score slots, empty, when score storing is enabled (so `tag_candidates` reports no candidates) -/
theorem C06_no_categories (cfg : Cfg) (m : WModel) (p : Predictor) (hp : Predictor.new cfg m true = .ok p)
    (hn : specNTags m = 0) (s : Sentence) :
    p.predictTags s =
      .ok { s with tagScores := if p.storeTagScores then List.replicate s.types.length none else [] } := by
  obtain ⟨_, h1, h2, _⟩ := C06L.new_tag_ok cfg m p hp
  unfold Predictor.predictTags
  rw [h1]
  simp only [h2, hn, if_true]

set_option linter.unusedVariables false in
/-- locality of the tag classifiers: the tag row of a token depends only on the token and on the `R` characters on either side
of its last character, where `R` bounds the length and the relative position of every tag n-gram — whatever precedes and follows
that stretch of text -/
theorem C06_tags_local (m : WModel) (ht : WFTags m) (R : Nat)
    (hR : ∀ tm ∈ m.tagModels,
      (∀ d ∈ tm.charNgrams, d.ngram.length ≤ R ∧ ∀ w ∈ d.weights, w.rel ≤ R) ∧
      (∀ d ∈ tm.typeNgrams, d.ngram.length ≤ R ∧ ∀ w ∈ d.weights, w.rel ≤ R))
    (pre pre' mid post post' : List Char) (st en : Nat) (hse : st < en) (h1 : R ≤ en) (h2 : en + R ≤ mid.length) :
    specTokenTags m (pre ++ mid ++ post) (pre.length + st) (pre.length + en) =
      specTokenTags m (pre' ++ mid ++ post') (pre'.length + st) (pre'.length + en) := by
  rw [C06Loc.specTokenTags_local m R hR pre mid post st en hse h1 h2,
    C06Loc.specTokenTags_local m R hR pre' mid post' st en hse h1 h2]

/-! ## non-vacuity: the model and sentence of `C01.lean` satisfy the hypotheses of `C06_tags` / `C06_candidates`
(one tag model for the surface `a` with one two-candidate category; the type n-gram one character after the token
votes for the second candidate), and the model computes what the specification says -/

example : WFTags C01_exModel := ⟨by decide +kernel, by decide +kernel, by decide +kernel, by decide +kernel⟩
example : 0 < specNTags C01_exModel := by decide +kernel
example : specTokens [B.W, B.N] = [(0, 1), (1, 3)] := by decide +kernel
example : specTagScores (C01_exModel.tagModels.getD 0 default) C01_exSentence.text 0 = [0, 1] := by decide +kernel
example : specAllTags C01_exModel C01_exSentence.text [B.W, B.N] = [some ['y'], none, none] := by decide +kernel

/-- `predict` then `fill_tags` (storing scores) on the example -/
def C06_exRun : Res Sentence :=
  (Predictor.new {} C01_exModel true).bind fun p =>
    (p.predict 0 C01_exSentence).bind fun s1 => ({ p with storeTagScores := true } : Predictor).predictTags s1

example : C06_exRun.map (·.bounds) = .ok [B.W, B.N] := by decide +kernel
example : C06_exRun.map (·.tags) = .ok [some ['y'], none, none] := by decide +kernel
example : C06_exRun.bind (·.tagCandidates 1) = .ok [[(['x'], 0), (['y'], 1)]] := by decide +kernel

/-! ## non-vacuity beyond the window: a tag n-gram at relative position 2 with `charW = 1` satisfies `WFTags`, is read
by `fill_tags` and changes the chosen tag (from `y` above to `x`) -/

/-- the example model with the character tag n-gram moved to relative position 2, beyond `charW = 1`, and voting for
the first candidate -/
def C06_exModelFar : WModel :=
  { C01_exModel with
    tagModels := [{ token := ['a'], tags := [[['x'], ['y']]], charNgrams := [⟨['b', 'a'], [⟨2, [5, 0]⟩]⟩],
                    typeNgrams := [⟨[2], [⟨1, [0, 1]⟩]⟩], bias := [0, 0] }] }

example : WFModel C06_exModelFar :=
  { charW_pos := by decide +kernel, charW_le := by decide +kernel, typeW_pos := by decide +kernel, typeW_le := by decide +kernel,
    char_nodup := by decide +kernel, char_shape := by decide +kernel, type_nodup := by decide +kernel, type_shape := by decide +kernel,
    dict_nodup := by decide +kernel, dict_shape := by decide +kernel }
example : WFTags C06_exModelFar := ⟨by decide +kernel, by decide +kernel, by decide +kernel, by decide +kernel⟩
example : ∃ tm ∈ C06_exModelFar.tagModels, ∃ d ∈ tm.charNgrams, ∃ w ∈ d.weights, C06_exModelFar.charW < w.rel := by decide +kernel
example : specTagScores (C06_exModelFar.tagModels.getD 0 default) C01_exSentence.text 0 = [5, 1] := by decide +kernel

def C06_exRunFar : Res Sentence :=
  (Predictor.new {} C06_exModelFar true).bind fun p =>
    (p.predict 0 C01_exSentence).bind fun s1 => ({ p with storeTagScores := true } : Predictor).predictTags s1

example : C06_exRunFar.map (·.bounds) = .ok [B.W, B.N] := by decide +kernel
example : C06_exRunFar.map (·.tags) = .ok [some ['x'], none, none] := by decide +kernel
example : C06_exRunFar.bind (·.tagCandidates 1) = .ok [[(['x'], 5), (['y'], 1)]] := by decide +kernel

/-! ## non-vacuity of `C06_tags_local`: `R = 2` bounds the n-gram lengths (2) and relative positions (0, 1 resp. 2, 1) of both
example models; in `mid = "baba"` the token `[1, 2)` (surface `a`, which has a tag model) has `R` characters on either side
of its end (both side conditions hold with equality) -/

example : ∀ m ∈ [C01_exModel, C06_exModelFar], ∀ tm ∈ m.tagModels,
    (∀ d ∈ tm.charNgrams, d.ngram.length ≤ 2 ∧ ∀ w ∈ d.weights, w.rel ≤ 2) ∧
    (∀ d ∈ tm.typeNgrams, d.ngram.length ≤ 2 ∧ ∀ w ∈ d.weights, w.rel ≤ 2) := by decide +kernel
example : 1 < 2 ∧ 2 ≤ 2 ∧ 2 + 2 ≤ ['b', 'a', 'b', 'a'].length := by decide +kernel
example : specTokenTags C01_exModel (['a', 'a'] ++ ['b', 'a', 'b', 'a'] ++ ['b']) (2 + 1) (2 + 2) = [some ['y']] ∧
    specTokenTags C01_exModel ([] ++ ['b', 'a', 'b', 'a'] ++ ['1', 'a']) (0 + 1) (0 + 2) = [some ['y']] := by decide +kernel
example : specTokenTags C06_exModelFar (['a', 'a'] ++ ['b', 'a', 'b', 'a'] ++ ['b']) (2 + 1) (2 + 2) = [some ['x']] ∧
    specTokenTags C06_exModelFar ([] ++ ['b', 'a', 'b', 'a'] ++ ['1', 'a']) (0 + 1) (0 + 2) = [some ['x']] := by decide +kernel
/-- one character fewer on the right (`en + R = mid.length + 1`) and the conclusion fails -/
example : specTokenTags C06_exModelFar ([] ++ ['b', 'a', 'b'] ++ ['a']) (0 + 1) (0 + 2)
    ≠ specTokenTags C06_exModelFar ([] ++ ['b', 'a', 'b'] ++ ['b']) (0 + 1) (0 + 2) := by decide +kernel

/-- the example model with the character tag n-gram (at relative position 0) voting for the first candidate -/
def C06_exModelNear : WModel :=
  { C01_exModel with
    tagModels := [{ token := ['a'], tags := [[['x'], ['y']]], charNgrams := [⟨['b', 'a'], [⟨0, [5, 0]⟩]⟩],
                    typeNgrams := [⟨[2], [⟨1, [0, 1]⟩]⟩], bias := [0, 0] }] }

/-- one character fewer on the left (`en = R - 1`) and the conclusion fails -/
example : specTokenTags C06_exModelNear (['b'] ++ ['a', 'b', 'a'] ++ []) (1 + 0) (1 + 1)
    ≠ specTokenTags C06_exModelNear (['a'] ++ ['a', 'b', 'a'] ++ []) (1 + 0) (1 + 1) := by decide +kernel
/-! ### non-vacuity: the model `C01_exModel0` (character window 0, ill-shaped character n-grams that are ignored, one tag model
for the surface `a` with a character tag n-gram `ba` at relative position 0 and a type tag n-gram one character after the
token) and the sentence `aba` satisfy the hypotheses of `C06_predictTags_window0`, `C06_tags_window0` and `C06_candidates_window0` (`WFModel0 C01_exModel0` and
`SentOK C01_exSentence` are in `C01.lean`), and the model computes what the specification says -/

example : WFTags C01_exModel0 := ⟨by decide +kernel, by decide +kernel, by decide +kernel, by decide +kernel⟩
example : 0 < specNTags C01_exModel0 := by decide +kernel
example : (Predictor.new {} C01_exModel0 true).isOk = true := by decide +kernel
example : ¬ WFModel C01_exModel0 := fun h => absurd h.charW_pos (by decide +kernel)

/-- `predict` then `fill_tags` (storing scores or not) on the example, with boundaries `bs` put in between (`none`: as predicted) -/
def C06_exRun0 (store : Bool) (bs : Option (List B)) : Res Sentence :=
  (Predictor.new {} C01_exModel0 true).bind fun p =>
    (p.predict 0 C01_exSentence).bind fun s1 =>
      ({ p with storeTagScores := store } : Predictor).predictTags { s1 with bounds := bs.getD s1.bounds }

/-- the specification on the example: the predicted boundaries are `[N, W]` (`C01.lean`), so the tokens are `ab` (no tag
model) and the final `a`, whose class scores are those of the character tag n-gram `ba` ending at it — with the bias `[0, 0]`
alone the first candidate `x` would win the tie -/
example : specTokens [B.N, B.W] = [(0, 2), (2, 3)] := by decide +kernel
example : specTagScores (C01_exModel0.tagModels.getD 0 default) C01_exSentence.text 2 = [1, 2] := by decide +kernel
example : specAllTags C01_exModel0 C01_exSentence.text [B.N, B.W] = [none, none, some ['y']] := by decide +kernel

/-- the model: `C06_predictTags_window0` / `C06_tags_window0` (tag count, tags, boundaries kept) … -/
example : (C06_exRun0 true none).map (·.bounds) = .ok [B.N, B.W] := by decide +kernel
example : (C06_exRun0 true none).map (·.nTags) = .ok (specNTags C01_exModel0) := by decide +kernel
example : (C06_exRun0 true none).map (·.tags) = .ok [none, none, some ['y']] := by decide +kernel
example : (C06_exRun0 false none).map (·.tags) = .ok [none, none, some ['y']] := by decide +kernel
example : (C06_exRun0 true none).map (·.tagScores) = .ok (C06L.allScores {} C01_exModel0 C01_exSentence.text [B.N, B.W]) :=
  rfl
/-- … and `C06_candidates_window0` (the character tag n-gram is read although the character window is 0) -/
example : (C06_exRun0 false none).map (·.tagScores) = .ok [] := rfl
example : (C06_exRun0 true none).bind (·.tagCandidates 3) = .ok [[(['x'], 1), (['y'], 2)]] := by decide +kernel
example : (C06_exRun0 true none).bind (·.tagCandidates 2) = .ok [] := by decide +kernel

/-- other boundaries put in after prediction (`bs` is arbitrary in the theorems): both `a` are tokens, the first one gets the
type tag n-gram one character after it, the last one the character tag n-gram -/
example : specAllTags C01_exModel0 C01_exSentence.text [B.W, B.W] = [some ['y'], none, some ['y']] := by decide +kernel
example : (C06_exRun0 true (some [B.W, B.W])).map (·.tags) = .ok [some ['y'], none, some ['y']] := by decide +kernel
example : (C06_exRun0 true (some [B.W, B.W])).bind (·.tagCandidates 1) = .ok [[(['x'], 0), (['y'], 1)]] := by decide +kernel
example : (C06_exRun0 true (some [B.W, B.W])).bind (·.tagCandidates 3) = .ok [[(['x'], 1), (['y'], 2)]] := by decide +kernel

/-! ### both windows 0 and a tag n-gram beyond them: the table has `max(window + 1, rel + 1)` rows, so the character tag n-gram
at relative position 2 (with `charW = 0`) and the type tag n-gram at relative position 1 (with `typeW = 0`) are both read -/

def C06_exModel00 : WModel :=
  { C01_exModel0 with
    typeW := 0,
    tagModels := [{ token := ['a'], tags := [[['x'], ['y']]], charNgrams := [⟨['b', 'a'], [⟨2, [5, 0]⟩]⟩],
                    typeNgrams := [⟨[2], [⟨1, [0, 1]⟩]⟩], bias := [0, 0] }] }

example : WFModel0 C06_exModel00 :=
  { charW_le := by decide +kernel, typeW_le := by decide +kernel, char_nodup := by decide +kernel, char_shape := by decide +kernel,
    type_nodup := by decide +kernel, type_shape := by decide +kernel, dict_nodup := by decide +kernel, dict_shape := by decide +kernel }
example : WFTags C06_exModel00 := ⟨by decide +kernel, by decide +kernel, by decide +kernel, by decide +kernel⟩
example : C06_exModel00.charW = 0 ∧ C06_exModel00.typeW = 0 ∧ 0 < specNTags C06_exModel00 := by decide +kernel
example : specTagScores (C06_exModel00.tagModels.getD 0 default) C01_exSentence.text 0 = [5, 1] := by decide +kernel
example : specAllTags C06_exModel00 C01_exSentence.text [B.W, B.W] = [some ['x'], none, some ['x']] := by decide +kernel

def C06_exRun00 (bs : List B) : Res Sentence :=
  (Predictor.new {} C06_exModel00 true).bind fun p =>
    (p.predict 0 C01_exSentence).bind fun s1 =>
      ({ p with storeTagScores := true } : Predictor).predictTags { s1 with bounds := bs }

example : (C06_exRun00 [B.W, B.W]).map (·.tags) = .ok [some ['x'], none, some ['x']] := by decide +kernel
example : (C06_exRun00 [B.W, B.W]).bind (·.tagCandidates 1) = .ok [[(['x'], 5), (['y'], 1)]] := by decide +kernel
example : (C06_exRun00 [B.W, B.W]).bind (·.tagCandidates 3) = .ok [[(['x'], 0), (['y'], 0)]] := by decide +kernel

/-! ## no `i32` overflow in the tag scores under a bound on the weights of the tag models

The counterpart of the section "no `i32` overflow under a bound on the weights of the model" of `C01.lean` for what
that section does not cover: the `tag_info` maps of `PositionalWeightWithTag` in the weight mergers, the `tag_weight` tables, the bias vectors
of the tag predictors and the per-token score vector of `predict_tags`.

**Masses** (`VProofs/Lemmas/TagBoundSpec.lean`).  `TagModel.mass tm` = `absSum tm.bias` plus `absSum w.weights` over every weight
vector `w` of every character tag n-gram and of every type tag n-gram of `tm` (all relative positions, all classes; entries and
weight vectors that are listed several times count with their multiplicity — `WFTags` does not forbid duplicates, and the code
adds them up).  It is per tag model, i.e. per token surface: the score vector of a token only ever receives weights of the token's
own tag model.  `TagModel.classMass tm c` is the part of it that belongs to class `c` (a sharper bound for the specification).
`WModel.tagMass m` is the MAXIMUM (not the sum) of the masses of the tag models of `m`: also during construction, vectors of
different tag models are stored under different keys `(token_id, rel_position)` and are never added to each other.

Definitions used (in `VProofs/Lemmas/TagBound*.lean`): `tagNgramMass`, `tagNgramClassMass`, `TagModel.mass`, `TagModel.classMass`,
`WModel.tagMass`; `okT`, `okWT` (the tests of the checked `+=`); `PmaScorer.tagWeightsIn`, `TagBuiltFrom`, `TagMergerIn`,
`TagBuildWithin`; `tagCharPhase`, `tagTypePhase`, `TagPassWithin`, `TagRunWithin`. -/

/-- a tag model of `m` weighs at most the tag mass of `m` … -/
theorem C06_mass_le_tagMass (m : WModel) (tm : TagModel) (h : tm ∈ m.tagModels) : tm.mass ≤ m.tagMass :=
  C06B.mass_le_tagMass m tm h

/-- … and the tag mass is the mass of one of them (0 without tag models): it is a maximum, not a sum -/
theorem C06_tagMass_attained (m : WModel) : m.tagMass = 0 ∨ ∃ tm ∈ m.tagModels, m.tagMass = tm.mass :=
  foldl_max_attained TagModel.mass m.tagModels 0

/-- the tag mass does not see the boundary n-grams -/
theorem C06_tagMass_dropW0 (m : WModel) : (dropW0 m).tagMass = m.tagMass := rfl

/-- **1. the specification, per class**: for EVERY tag model (no well-formedness needed), every text and every position, the score
the specification gives class `c` is at most the class mass in absolute value, which is at most the mass.  Reason: one weight
vector `w` of one tag n-gram asks for one end position (`i + w.rel`), so it is added at most once per token. -/
theorem C06_spec_bounded_class (tm : TagModel) (text : List Char) (i c : Nat) :
    (getZ (specTagScores tm text i) (c : Int)).natAbs ≤ tm.classMass c ∧ tm.classMass c ≤ tm.mass :=
  ⟨C06B.specTagScores_class_le tm text i c, C06B.classMass_le_mass tm c⟩

/-- **1. the specification**: every entry of the specified score vector of a token is at most the mass of the token's tag model in
absolute value.  Rust: the final value of every `scores[c]` in `predict_tags`, i.e. the vector handed to `TagPredictor::predict` and
stored in `sentence.tag_scores[i]` (by `C06_predictTags` / `C06_candidates` and their window-0 variants). -/
theorem C06_spec_bounded (tm : TagModel) (text : List Char) (i : Nat) :
    ∀ x ∈ specTagScores tm text i, x.natAbs ≤ tm.mass := by
  intro x hx
  obtain ⟨j, hj, rfl⟩ := C01B.mem_getD _ x hx
  rw [← C01L.getZ_nat]
  exact Nat.le_trans (C06B.specTagScores_class_le tm text i j) (C06B.classMass_le_mass tm j)

/-- … hence at most the tag mass of the model -/
theorem C06_spec_bounded_model (m : WModel) (tm : TagModel) (htm : tm ∈ m.tagModels) (text : List Char) (i : Nat) :
    ∀ x ∈ specTagScores tm text i, x.natAbs ≤ m.tagMass :=
  fun x hx => Nat.le_trans (C06_spec_bounded tm text i x hx) (C06_mass_le_tagMass m tm htm)

/-- **2. construction**: for every model with well-formed tag models from which `Predictor::new(model, true)` succeeds (nothing is
asked of the boundary part), with `M = (dropW0 m).mass` and `T = m.tagMass`, see `TagBuildWithin`:
* every coordinate of the bias vector of every `TagPredictor` (`WeightVector::from(bias)`, zero padding of the fixed layout
  included) is within `T`;
* every coordinate of every weight vector stored in the tables `tag_weight[token_id][rel_position]` of
  `CharScorerBoundaryTag` / `TypeScorerBoundaryTag` (zero padding included) is within `T`;
* each of these two scorers (they are the tag-aware ones unless the model has no tag model at all) is built from the entry list
  `charEntriesT (dropW0 m) (tag n-grams)` resp. `typeEntriesT …`, its table is the result of `fillTagWeights` on the merged
  entries, and running both phases of the weight merger on that list — `merger.add` (`*prev_weight += &weight`) for every entry, then
  `merge()` (`data_to_ref.0 += &data_from.borrow().0`) — with a `PositionalWeightWithTag::add_assign` that checks every coordinate of
  the boundary weight of its result against `M` AND every coordinate of every vector of the `tag_info` map of its result against `T`,
  poisoning the weight for good when a check fails, returns exactly the unchecked weights, none of them poisoned.  The keys of a
  `tag_info` map are distinct, so every elementary `*y += *x` of the inner loop `for (k, v) in &other.tag_info` produces a coordinate
  of the result of that `add_assign` (`C06B.PWT_add_steps`): no `+` performed on tag weights during construction leaves the bound. -/
theorem C06_merged_bounded (cfg : Cfg) (m : WModel) (ht : WFTags m) (p : Predictor)
    (hp : Predictor.new cfg m true = .ok p) :
    TagBuildWithin (within (dropW0 m).mass) (within m.tagMass) cfg (dropW0 m) p :=
  C06B.build_within_tag cfg m (dropW0 m) (dropW0_isDrop m) rfl ht.toL p hp _ _
    (fun x hx => (within_iff _ x).mpr hx) (fun x hx => (within_iff _ x).mpr hx)

/-- the pair `(token_id, tag_predictor)` that `predict_tags` finds for a token surface (`tag_predictor.get(token)`) is the index of a
tag model of `m` — the one the specification uses, `tagModelOf` — together with the predictor made from it -/
theorem C06_token_lookup (cfg : Cfg) (m : WModel) (p : Predictor) (hp : Predictor.new cfg m true = .ok p)
    (tpm : List (List Char × Nat × TagPredictor)) (htpm : p.tagPredictor = some tpm)
    (tok : List Char) (tid : Nat) (tp : TagPredictor) (h : lookupLast tok tpm = some (tid, tp)) :
    ∃ tm, m.tagModels[tid]? = some tm ∧ tp = C06L.mkTP cfg tm ∧ tagModelOf m tok = some tm := by
  obtain ⟨_, h1, _⟩ := C06L.new_tag_ok cfg m p hp
  rw [h1] at htpm
  cases htpm
  rcases C06L.lookup_tpmOf cfg m tok with ⟨h', _⟩ | ⟨tid', tm, h', htid, htm⟩ <;> rw [C06L.tpmOf, h] at h' <;> cases h'
  exact ⟨tm, htid, rfl, htm⟩

/-- **3. tag prediction, every intermediate score vector**: for a model with well-formed tag models, a predictor built from it with
tag prediction, a sentence `s1` that `predict` returned, every sentence `s2` that agrees with `s1` on the text and on the recorded
automaton states (`s1` itself with any boundaries put in, and every intermediate sentence of the loop of `predict_tags`, which writes
`tags` and `tag_scores` only), every tag model `tm` of `m` with its index `tid` (`C06_token_lookup`: these are the pairs
`predict_tags` works with) and every position `i` of a last character, with `M = tm.mass` (the mass of THIS tag model), see
`TagRunWithin`: every entry of the vector `scores` is within `M`
* after `tag_predictor.bias().add_scores(&mut scores)` on the zero vector;
* after ANY prefix of the positions `sentence.char_pma_states[i..]` has been processed by the loop of
  `CharScorerBoundaryTag::add_tag_scores` (`pmaAddTagScores.go` on `(states.drop i).take k` does not fail and leaves a vector within
  `M`) — i.e. after every call of `WeightVector::add_scores`; within one call every slot holds either its old or its new value, so
  every `*y += *x` is covered;
* in the vector the complete character pass leaves;
* from there, after any prefix of the positions of the type pass (`TypeScorerBoundaryTag::add_tag_scores`; the type scorer of such a
  predictor is never the cached one);
* in the final vector, which is `C06L.scoreVec cfg tm s.text i`: the specified scores `specTagScores tm s.text i` followed by the
  zero padding of the fixed layout — the vector `TagPredictor::predict` reads and `sentence.tag_scores[i]` stores. -/
theorem C06_running_bounded (cfg : Cfg) (m : WModel) (ht : WFTags m) (p : Predictor)
    (hp : Predictor.new cfg m true = .ok p) (s s1 : Sentence) (hs : SentOK s) (pid : Nat)
    (h1 : p.predict pid s = .ok s1)
    (s2 : Sentence) (htext : s2.text = s1.text) (hcst : s2.cstates = s1.cstates) (htst : s2.tstates = s1.tstates)
    (tid : Nat) (tm : TagModel) (htid : m.tagModels[tid]? = some tm) (i : Nat) (hi : i < s.text.length) :
    TagRunWithin (within tm.mass) p s2 tid (C06L.mkTP cfg tm) i (C06L.scoreVec cfg tm s.text i) := by
  have hne : m.tagModels ≠ [] := by
    intro h; rw [h] at htid; cases htid
  have hP := C06L.predOK_of_new cfg m ht.toL p hp hne
  obtain ⟨hst, _⟩ := C06L.stOK_of_predict cfg m p hP pid s s1 hs.types_eq h1
  have hst2 : C06L.StOK p s.text s2 :=
    ⟨htext.trans hst.text_eq, fun sc hsc => hcst.trans (hst.cst sc hsc), fun sc hsc => htst.trans (hst.tst sc hsc)⟩
  exact C06B.run_within_tag cfg m p hP ht.toL s.text s2 hst2 tid tm htid i hi _ (fun x hx => (within_iff _ x).mpr hx)

/-- **4. no overflow**: if the tag mass of the model — the largest mass of a single tag model — is below `2^31`, then every value
of 1–3 is in the range of `i32`: the specified class scores; the bias vectors, the `tag_weight` tables and all results of `+=` on
`tag_info` vectors in both phases of the weight mergers (the boundary part unchecked here, see `C06_no_overflow_all`); and every
entry of the score vector of every token after the bias and after any prefix of either `add_tag_scores` pass.  So on every `+` that
`Predictor::new` and `predict_tags` / `fill_tags` perform on tag weights and tag scores, `i32` arithmetic and the unbounded integers of
the model coincide. -/
theorem C06_no_overflow (cfg : Cfg) (m : WModel) (ht : WFTags m) (hmass : m.tagMass < 2 ^ 31) (p : Predictor)
    (hp : Predictor.new cfg m true = .ok p) :
    (∀ tm ∈ m.tagModels, ∀ text i, ∀ x ∈ specTagScores tm text i, I32 x) ∧
    TagBuildWithin (fun _ => true) inI32 cfg (dropW0 m) p ∧
    ∀ s s1 pid, SentOK s → p.predict pid s = .ok s1 →
      ∀ s2 : Sentence, s2.text = s1.text → s2.cstates = s1.cstates → s2.tstates = s1.tstates →
      ∀ tid tm, m.tagModels[tid]? = some tm → ∀ i, i < s.text.length →
        TagRunWithin inI32 p s2 tid (C06L.mkTP cfg tm) i (C06L.scoreVec cfg tm s.text i) := by
  have hQ : ∀ x : Int, x.natAbs ≤ m.tagMass → inI32 x = true :=
    fun x hx => (inI32_iff x).mpr (I32_of_natAbs_le _ hmass x hx)
  refine ⟨fun tm htm text i x hx => I32_of_natAbs_le _ hmass x (C06_spec_bounded_model m tm htm text i x hx),
    C06B.build_within_tag cfg m (dropW0 m) (dropW0_isDrop m) rfl ht.toL p hp _ _ (fun _ _ => rfl) hQ, ?_⟩
  intro s s1 pid hs h1 s2 htext hcst htst tid tm htid i hi
  have hne : m.tagModels ≠ [] := by
    intro h; rw [h] at htid; cases htid
  have hP := C06L.predOK_of_new cfg m ht.toL p hp hne
  obtain ⟨hst, _⟩ := C06L.stOK_of_predict cfg m p hP pid s s1 hs.types_eq h1
  have hst2 : C06L.StOK p s.text s2 :=
    ⟨htext.trans hst.text_eq, fun sc hsc => hcst.trans (hst.cst sc hsc), fun sc hsc => htst.trans (hst.tst sc hsc)⟩
  exact C06B.run_within_tag cfg m p hP ht.toL s.text s2 hst2 tid tm htid i hi _
    (fun x hx => hQ x (Nat.le_trans hx (C06_mass_le_tagMass m tm (List.mem_of_getElem? htid))))

/-- **4'. no overflow, boundaries and tags together**: for a model that is well-formed up to switched-off kinds, with well-formed tag
models, whose boundary mass AND tag mass are both below `2^31`: everything `C01_no_overflow` states for `Predictor::new` and
`Predictor::predict`, everything `C06_no_overflow` states for `Predictor::new`, `predict_tags` and `fill_tags`, and the weight mergers of the
tag-aware scorers run ONCE with a `PositionalWeightWithTag::add_assign` that checks the boundary coordinates and the tag coordinates of
its result against the `i32` range are never poisoned (`TagBuildWithin inI32 inI32`).  So `predict` followed by `fill_tags` never leaves
`i32`. -/
theorem C06_no_overflow_all (cfg : Cfg) (m : WModel) (hm : WFModel0 m) (ht : WFTags m)
    (hmass : (dropW0 m).mass < 2 ^ 31) (htmass : m.tagMass < 2 ^ 31) (p : Predictor)
    (hp : Predictor.new cfg m true = .ok p) :
    ((∀ text b, I32 (specScore (dropW0 m) text b)) ∧
      BuildWithin inI32 cfg (dropW0 m) p ∧
      ∀ s, SentOK s → RunWithin inI32 p s) ∧
    (∀ tm ∈ m.tagModels, ∀ text i, ∀ x ∈ specTagScores tm text i, I32 x) ∧
    TagBuildWithin inI32 inI32 cfg (dropW0 m) p ∧
    ∀ s s1 pid, SentOK s → p.predict pid s = .ok s1 →
      ∀ s2 : Sentence, s2.text = s1.text → s2.cstates = s1.cstates → s2.tstates = s1.tstates →
      ∀ tid tm, m.tagModels[tid]? = some tm → ∀ i, i < s.text.length →
        TagRunWithin inI32 p s2 tid (C06L.mkTP cfg tm) i (C06L.scoreVec cfg tm s.text i) := by
  obtain ⟨a1, _, a3⟩ := C06_no_overflow cfg m ht htmass p hp
  exact ⟨C01_no_overflow cfg m hm hmass true p hp, a1,
    C06B.build_within_tag cfg m (dropW0 m) (dropW0_isDrop m) rfl ht.toL p hp _ _
      (fun x hx => (inI32_iff x).mpr (I32_of_natAbs_le _ hmass x hx))
      (fun x hx => (inI32_iff x).mpr (I32_of_natAbs_le _ htmass x hx)), a3⟩

/-! ### 5. sharpness and non-vacuity

`C06_sharpModel`: the example model with a tag model of mass exactly `2^31 − 1` whose class-0 score on the first token of `aba` is
`2^31 − 1` (bias 7, the character tag n-gram `ba` two characters after the token and the type tag n-gram one character after it all
vote for class 0): the bound of 1 is attained and the hypothesis of `C06_no_overflow` holds.  `C06_overModel`: one more unit of bias,
mass `2^31`, score `2^31` — outside `i32`. -/

def C06_sharpModel : WModel :=
  { C01_exModel with
    tagModels := [{ token := ['a'], tags := [[['x'], ['y']]], charNgrams := [⟨['b', 'a'], [⟨2, [1073741824, 0]⟩]⟩],
                    typeNgrams := [⟨[2], [⟨1, [1073741816, 0]⟩]⟩], bias := [7, 0] }] }

def C06_overModel : WModel :=
  { C01_exModel with
    tagModels := [{ token := ['a'], tags := [[['x'], ['y']]], charNgrams := [⟨['b', 'a'], [⟨2, [1073741824, 0]⟩]⟩],
                    typeNgrams := [⟨[2], [⟨1, [1073741816, 0]⟩]⟩], bias := [8, 0] }] }

example : WFTags C06_sharpModel := ⟨by decide +kernel, by decide +kernel, by decide +kernel, by decide +kernel⟩
example : WFTags C06_overModel := ⟨by decide +kernel, by decide +kernel, by decide +kernel, by decide +kernel⟩
example : WFModel0 C06_sharpModel :=
  { charW_le := by decide +kernel, typeW_le := by decide +kernel, char_nodup := by decide +kernel, char_shape := by decide +kernel,
    type_nodup := by decide +kernel, type_shape := by decide +kernel, dict_nodup := by decide +kernel, dict_shape := by decide +kernel }

/-- the bound is attained: mass `2^31 − 1`, score `2^31 − 1`, an `i32` -/
example : C06_sharpModel.tagMass = 2 ^ 31 - 1 ∧ (C06_sharpModel.tagModels.getD 0 default).mass = 2 ^ 31 - 1 := by decide +kernel
example : (C06_sharpModel.tagModels.getD 0 default).classMass 0 = 2 ^ 31 - 1 ∧
    (C06_sharpModel.tagModels.getD 0 default).classMass 1 = 0 := by decide +kernel
example : specTagScores (C06_sharpModel.tagModels.getD 0 default) C01_exSentence.text 0 = [2 ^ 31 - 1, 0] := by decide +kernel
example : ∀ x ∈ specTagScores (C06_sharpModel.tagModels.getD 0 default) C01_exSentence.text 0, I32 x := by decide +kernel

/-- it cannot be improved: mass `2^31`, score `2^31`, not an `i32` -/
example : C06_overModel.tagMass = 2 ^ 31 := by decide +kernel
example : specTagScores (C06_overModel.tagModels.getD 0 default) C01_exSentence.text 0 = [2 ^ 31, 0] := by decide +kernel
example : ¬ ∀ x ∈ specTagScores (C06_overModel.tagModels.getD 0 default) C01_exSentence.text 0, I32 x := by decide +kernel

/-- non-vacuity of `C06_merged_bounded` / `C06_running_bounded` / `C06_no_overflow` / `C06_no_overflow_all`: the predictor is built
from the sharp model, prediction succeeds, and `fill_tags` computes the score `2^31 − 1` for the first token (boundaries `[W, W]` put
in); the boundary mass of the model is far below `2^31` -/
example : (Predictor.new {} C06_sharpModel true).isOk = true := by decide +kernel
example : (Predictor.new { fixed := false, cache := false, tagPred := true } C06_sharpModel true).isOk = true := by decide +kernel
example : (dropW0 C06_sharpModel).mass = 32 := by decide +kernel

def C06_exRunSharp (bs : List B) : Res Sentence :=
  (Predictor.new {} C06_sharpModel true).bind fun p =>
    (p.predict 0 C01_exSentence).bind fun s1 =>
      ({ p with storeTagScores := true } : Predictor).predictTags { s1 with bounds := bs }

example : (C06_exRunSharp [B.W, B.W]).bind (·.tagCandidates 1) = .ok [[(['x'], 2 ^ 31 - 1), (['y'], 0)]] := by decide +kernel

/-- the three phases of `tagToken` for that token (`token_id` 0, last character 0), as in `TagRunWithin`: the bias, then the character
pass (the tag n-gram `ba`, two positions on), then the type pass -/
def C06_exPhases (f : Predictor → Sentence → Res (List Int)) : Res (List Int) :=
  (Predictor.new {} C06_sharpModel true).bind fun p => (p.predict 0 C01_exSentence).bind fun s1 => f p s1

example : C06_exPhases (fun _ _ => (C06L.mkTP {} (C06_sharpModel.tagModels.getD 0 default)).bias.addScores (List.replicate 8 0))
    = .ok [7, 0, 0, 0, 0, 0, 0, 0] := by decide +kernel
example : C06_exPhases (fun p s1 => tagCharPhase p 0 0 s1 [7, 0, 0, 0, 0, 0, 0, 0])
    = .ok [1073741831, 0, 0, 0, 0, 0, 0, 0] := by decide +kernel
example : C06_exPhases (fun p s1 => tagTypePhase p 0 0 s1 [1073741831, 0, 0, 0, 0, 0, 0, 0])
    = .ok [2 ^ 31 - 1, 0, 0, 0, 0, 0, 0, 0] := by decide +kernel

/-- the tag masses of the example models of this file and of `C01.lean` -/
example : C01_exModel.tagMass = 4 ∧ C01_exModel0.tagMass = 4 ∧ C06_exModelFar.tagMass = 6 ∧ C06_exModelNear.tagMass = 6 ∧
    C06_exModel00.tagMass = 6 := by decide +kernel
/-- a maximum, not a sum: two tag models of masses 4 and 6 -/
example : ({ C01_exModel with tagModels := C01_exModel.tagModels ++ C06_exModelFar.tagModels } : WModel).tagMass = 6 := by decide +kernel
/-- models without tag models (`C01_sharpModel`) have tag mass 0 -/
example : C01_sharpModel.tagMass = 0 := by decide +kernel

/-- the bound of 2 is attained as well, and the checked `+=` does detect a result outside the bound: in these two models the
character tag n-grams `a` and `ba` of the tag model (same relative position 0) make up its whole mass (`2^31 − 1` and `2^31`) in class
0; `a` is a suffix of `ba`, so `merge()` adds the vector of `a` to that of `ba` under the key `(0, 0)`: the merged coordinate equals
the mass, and the merger run with the `i32` check on the tag part is poisoned on the second model only -/
def C06_sharpMerge : WModel :=
  { C01_exModel with
    tagModels := [{ token := ['a'], tags := [[['x'], ['y']]],
                    charNgrams := [⟨['a'], [⟨0, [1073741824, 0]⟩]⟩, ⟨['b', 'a'], [⟨0, [1073741823, 0]⟩]⟩],
                    typeNgrams := [], bias := [0, 0] }] }

def C06_overMerge : WModel :=
  { C01_exModel with
    tagModels := [{ token := ['a'], tags := [[['x'], ['y']]],
                    charNgrams := [⟨['a'], [⟨0, [1073741824, 0]⟩]⟩, ⟨['b', 'a'], [⟨0, [1073741824, 0]⟩]⟩],
                    typeNgrams := [], bias := [0, 0] }] }

/-- the entries `CharScorerBoundaryTag::new` feeds to the merger for a model, after `merger.add` -/
def C06_exAdded (m : WModel) : List (List Char × PWT) :=
  addAll PWT.add (charEntriesT (dropW0 m) (m.tagModels.map (·.charNgrams))) []

example : WFTags C06_sharpMerge := ⟨by decide +kernel, by decide +kernel, by decide +kernel, by decide +kernel⟩
example : WFTags C06_overMerge := ⟨by decide +kernel, by decide +kernel, by decide +kernel, by decide +kernel⟩
example : C06_sharpMerge.tagMass = 2 ^ 31 - 1 ∧ C06_overMerge.tagMass = 2 ^ 31 := by decide +kernel
example : (Predictor.new {} C06_sharpMerge true).isOk = true ∧ (Predictor.new {} C06_overMerge true).isOk = true := by decide +kernel
/-- the scorers are the tag-aware ones (second alternative of `TagBuildWithin`), and the stored table `tag_weight[0]` of the first
model holds the merged coordinate `2^31 − 1` (pattern ids 0 = `a`, 2 = `ba`; two rows, `rel_position` 0 and 1) -/
example : (Predictor.new {} C06_sharpMerge true).map (fun p => p.charScorer.bind (·.tagWeight))
    = .ok (some [[[(0, WV.fixed [1073741824, 0, 0, 0, 0, 0, 0, 0]), (2, WV.fixed [2 ^ 31 - 1, 0, 0, 0, 0, 0, 0, 0])], []]]) := by
  decide +kernel
example : (Merge.mergeEntries PWT.add PWT.empty (C06_exAdded C06_sharpMerge)).map (fun e => (e.1, e.2.tagInfo))
    = [(['a'], [((0, 0), [1073741824, 0])]), (['a', 'b'], []), (['b', 'a'], [((0, 0), [2 ^ 31 - 1, 0])])] := by decide +kernel
example : (Merge.mergeEntries (Merge.addC (okWT (fun _ => true) inI32) PWT.add) none
      (Merge.liftE (C06_exAdded C06_sharpMerge))).map (fun e => (e.1, e.2.isSome))
    = [(['a'], true), (['a', 'b'], true), (['b', 'a'], true)] := by decide +kernel
example : (Merge.mergeEntries PWT.add PWT.empty (C06_exAdded C06_overMerge)).map (fun e => (e.1, e.2.tagInfo))
    = [(['a'], [((0, 0), [1073741824, 0])]), (['a', 'b'], []), (['b', 'a'], [((0, 0), [2 ^ 31, 0])])] := by decide +kernel
example : (Merge.mergeEntries (Merge.addC (okWT (fun _ => true) inI32) PWT.add) none
      (Merge.liftE (C06_exAdded C06_overMerge))).map (fun e => (e.1, e.2.isSome))
    = [(['a'], true), (['a', 'b'], true), (['b', 'a'], false)] := by decide +kernel

end V

/-! ## hash-map iteration orders in predictor construction are not observable

Three kinds of hash maps are involved (predictor.rs, char_scorer/type_scorer `boundary_tag_scorer.rs`):
* `PositionalWeightWithTag::tag_info : HashMap<(token_id, rel_position), Vec<i32>>` — iterated by `add_assign` (the OTHER map) in
  `merger.add` and `merger.merge`, and by `…BoundaryTag::new` when it fills `tag_weight`.  Model: the list `PWT.tagInfo`.
  `PWT.equiv` (same boundary weight, `tagInfo` lists that are permutations with distinct keys) is respected by every stage
  (`C06_taginfo_add_equiv`, `C06_taginfo_addAll_equiv`, `C06_taginfo_merge_equiv`) and the table built from equivalent inputs is
  the SAME (`C06_taginfo_fill_perm`, `C06_taginfo_build_perm`); end to end: `C06_taginfo_perm`.
* the cells `tag_weight[token_id][rel_position] : HashMap<u32, WeightVector>` (pattern id ↦ vector) — only `insert`/`get`.
  Model: a list in insertion order read with `reverse.find?`.  Any other listing gives the same `add_tag_scores`
  (`C06_tagweight_cell_perm`), and for a predictor built by `Predictor.new` the same `predict_tags`/`predict`
  (second half of `C06_taginfo_perm`).
* `tag_predictor : HashMap<String, (u32, TagPredictor)>` — keyed lookup (`C06_tag_predictor_lookup_perm`). -/
namespace V

/-- entry lists with the same keys in the same order and `PWT.equiv` weights -/
abbrev EntriesEquiv {α : Type} (es es' : List (List α × PWT)) : Prop := C06L.ListRel (C06L.ERel PWT.equiv) es es'

/-- `add_assign` respects the equivalence (it iterates `b`'s map: any order of it, and of `a`'s, gives the same map) -/
theorem C06_taginfo_add_equiv (a a' b b' : PWT) (ha : a.equiv a') (hb : b.equiv b') : (a.add b).equiv (a'.add b') :=
  C06L.add_equiv ha hb

/-- `merger.add` (all entries) respects it -/
theorem C06_taginfo_addAll_equiv {α : Type} [DecidableEq α] (es es' init init' : List (List α × PWT))
    (h : EntriesEquiv es es') (hi : EntriesEquiv init init') : EntriesEquiv (addAll PWT.add es init) (addAll PWT.add es' init') :=
  C06L.addAll_rel PWT.equiv PWT.add PWT.add (fun _ _ _ _ ha hb => C06L.add_equiv ha hb) h hi

/-- `merger.merge()` respects it: the merged weight of every pattern is the same map -/
theorem C06_taginfo_merge_equiv {α : Type} [DecidableEq α] (es es' : List (List α × PWT)) (h : EntriesEquiv es es') :
    EntriesEquiv (Merge.mergeEntries PWT.add PWT.empty es) (Merge.mergeEntries PWT.add PWT.empty es') :=
  C06L.mergeEntries_rel PWT.equiv PWT.add PWT.add (fun _ _ _ _ ha hb => C06L.add_equiv ha hb) PWT.empty PWT.empty
    C06L.equiv_empty h

/-- filling `tag_weight` from equivalent merged entries gives the SAME table — not only row-wise permutations: a pattern
contributes at most one entry to a cell, and the patterns are visited in id order — or a panic in both cases -/
theorem C06_taginfo_fill_perm {α : Type} (cfg : Cfg) (es es' : List (List α × PWT)) (h : EntriesEquiv es es') (id : Nat)
    (tw : List (List (List (Nat × WV)))) :
    fillTagWeights cfg es id tw = fillTagWeights cfg es' id tw ∨
    ∃ s₁ s₂, fillTagWeights cfg es id tw = .panic s₁ ∧ fillTagWeights cfg es' id tw = .panic s₂ :=
  C06L.fill_perm cfg h id tw

/-- the site strings can differ: `insertTagWeights` has two panic sites (`tag_weight[token_id]` and
`…[rel_position]`), and on a table that is too small in both directions the entry visited first decides.  (Inside
`…BoundaryTag::new` the table is sized from the entries, `C11_predictor_accepts`.) -/
example :
    let info₁ : List ((Nat × Nat) × List Int) := [((5, 0), [1]), ((0, 9), [1])]
    let info₂ : List ((Nat × Nat) × List Int) := [((0, 9), [1]), ((5, 0), [1])]
    info₁.Perm info₂ ∧ (info₁.map Prod.fst).Nodup ∧
    insertTagWeights {} 0 info₁ [[[]]] = .panic "tag_weight[token_id]" ∧
    insertTagWeights {} 0 info₂ [[[]]] = .panic "tag_weight[token_id][rel_position]: index out of bounds" := by
  refine ⟨by decide +kernel, by decide +kernel, by decide +kernel, by decide +kernel⟩

/-- `…BoundaryTag::new` on equivalent entry lists: the same scorer (patterns, weights and table), or a panic in both cases -/
theorem C06_taginfo_build_perm {α : Type} [DecidableEq α] (cfg : Cfg) (window nTagModels : Nat)
    (es es' : List (List α × PWT)) (h : EntriesEquiv es es') :
    PermL.ResSim (buildBoundaryTag cfg window nTagModels es) (buildBoundaryTag cfg window nTagModels es') := by
  have := C06L.buildBoundaryTagG_sim C06L.addLike_add (shuf := id) C06L.equiv_refl cfg window nTagModels h
  rwa [C06L.buildBoundaryTagG_id] at this

/-- `add_tag_scores` on two scorers that differ only in the listing order of their cells (distinct pattern ids per cell) -/
theorem C06_tagweight_cell_perm {α : Type} (sc sc' : PmaScorer α) (h : C06L.ScorerCellEq sc sc') (tid pos : Nat)
    (states : List (Option Nat)) (scores : List Int) :
    pmaAddTagScores sc tid pos states scores = pmaAddTagScores sc' tid pos states scores :=
  C06L.pmaAddTagScores_cell h tid pos states scores

/-- `Predictor.newG add' shuf` is `Predictor.new` with the two places where a `tag_info` order is chosen made parameters -/
theorem C06_newG_generalises (cfg : Cfg) (m : WModel) (pt : Bool) :
    Predictor.newG PWT.add id cfg m pt = Predictor.new cfg m pt :=
  C06L.newG_id cfg m pt

/-- the outcomes of the two constructions agree: equal, or a panic in both -/
theorem C06_taginfo_perm_outcome (add' : PWT → PWT → PWT) (shuf : PWT → PWT) (hadd : AddLike add') (hshuf : ShufLike shuf)
    (cfg : Cfg) (m : WModel) (pt : Bool) :
    Predictor.new cfg m pt = Predictor.newG add' shuf cfg m pt ∨
    ∃ s₁ s₂, Predictor.new cfg m pt = .panic s₁ ∧ Predictor.newG add' shuf cfg m pt = .panic s₂ :=
  C06L.new_sim hadd hshuf cfg m pt

/-- **order independence, end to end.**  Let `add'` be ANY implementation of `+=` on `PositionalWeightWithTag` that returns the
map of `PWT.add` listed in some order (the order may depend on both operands), and `shuf` ANY re-listing of a merged `tag_info`
before `…BoundaryTag::new` walks it.  If `Predictor.new` returns `p`, then
1. the construction with `add'` and `shuf` returns the same `p` (so every later call agrees trivially), and
2. every predictor `p'` obtained from `p` by re-listing the entries of its cells `tag_weight[token_id][rel_position]`
   (`HashMap<u32, WeightVector>`; a permutation per cell, nothing else assumed) and by listing its token map `tag_predictor` in any
   way that keeps the lookups (`C06L.SameLookup`; e.g. a permutation when the tokens are distinct,
   `C06_tag_predictor_lookup_perm`) tags and segments every sentence exactly as `p` — this is what a serialise/deserialise round
   trip, which re-inserts both kinds of maps in iteration order, does to a predictor. -/
theorem C06_taginfo_perm (add' : PWT → PWT → PWT) (shuf : PWT → PWT) (hadd : AddLike add') (hshuf : ShufLike shuf)
    (cfg : Cfg) (m : WModel) (pt : Bool) (p : Predictor) (hp : Predictor.new cfg m pt = .ok p) :
    Predictor.newG add' shuf cfg m pt = .ok p ∧
    ∀ p', C06L.PredCellPerm p p' → ∀ s, p'.predictTags s = p.predictTags s ∧ ∀ pid, p'.predict pid s = p.predict pid s := by
  refine ⟨((C06L.new_sim hadd hshuf cfg m pt).ok_iff p).mp hp, ?_⟩
  intro p' hpp s
  have h := C06L.predCellEq_of_perm cfg m pt p p' hp hpp
  exact ⟨(C06L.predictTags_cell h s).symm, fun pid => (C06L.predict_cell h pid s).symm⟩

/-- conversely, whatever the permuted construction returns is what `Predictor.new` returns -/
theorem C06_taginfo_perm_conv (add' : PWT → PWT → PWT) (shuf : PWT → PWT) (hadd : AddLike add') (hshuf : ShufLike shuf)
    (cfg : Cfg) (m : WModel) (pt : Bool) (p : Predictor) (hp : Predictor.newG add' shuf cfg m pt = .ok p) :
    Predictor.new cfg m pt = .ok p :=
  ((C06L.new_sim hadd hshuf cfg m pt).ok_iff p).mpr hp

/-- the token map `tag_predictor` (keys: the distinct tokens of the tag models) is read by keyed lookup only -/
theorem C06_tag_predictor_lookup_perm (l l' : List (List Char × Nat × TagPredictor)) (hp : l.Perm l')
    (hnd : (l.map Prod.fst).Nodup) (token : List Char) : lookupLast token l = lookupLast token l' :=
  C06L.lookupLast_perm hp hnd token

/-! ### non-vacuity: a model whose pattern `ba` collects four `tag_info` keys, built with every map listed in REVERSE order -/
namespace C06PermEx

/-- two tag models that share the character n-gram `ba` (at two relative positions each) and the n-gram `a` -/
def model : WModel :=
  { C01_exModel with
    tagModels := [{ token := ['a'], tags := [[['x'], ['y']]],
                    charNgrams := [⟨['b', 'a'], [⟨0, [1, 2]⟩, ⟨1, [3, 0]⟩]⟩, ⟨['a'], [⟨0, [0, 4]⟩]⟩],
                    typeNgrams := [⟨[2], [⟨1, [0, 1]⟩]⟩], bias := [0, 0] },
                  { token := ['b'], tags := [[['u'], ['v']]],
                    charNgrams := [⟨['b', 'a'], [⟨1, [5, 0]⟩, ⟨0, [0, 6]⟩]⟩, ⟨['a'], [⟨1, [7, 7]⟩]⟩],
                    typeNgrams := [], bias := [1, 0] }] }

def addR (a b : PWT) : PWT := { a.add b with tagInfo := (a.add b).tagInfo.reverse }
def shufR (a : PWT) : PWT := { a with tagInfo := a.tagInfo.reverse }

theorem addR_like : AddLike addR := C06L.addLike_of_perm List.reverse List.reverse_perm
theorem shufR_like : ShufLike shufR := C06L.shufLike_of_perm List.reverse List.reverse_perm

def entries : List (List Char × PWT) := charEntriesT (dropW0 model) (model.tagModels.map (·.charNgrams))

/-- the hypotheses hold for a non-trivial `add'`: the merged maps really are listed differently (`ba`: four keys) … -/
example :
    (Merge.mergeEntries PWT.add PWT.empty (addAll PWT.add entries [])).map (fun e => (e.1, e.2.tagInfo.map Prod.fst))
      = [(['a'], [(0, 0), (1, 1)]), (['a', 'b'], []), (['b', 'a'], [(0, 0), (0, 1), (1, 1), (1, 0)])] ∧
    (Merge.mergeEntries addR PWT.empty (addAll addR entries [])).map (fun e => (e.1, e.2.tagInfo.map Prod.fst))
      = [(['a'], [(1, 1), (0, 0)]), (['a', 'b'], []), (['b', 'a'], [(1, 1), (0, 0), (0, 1), (1, 0)])] := by
  refine ⟨by decide +kernel, by decide +kernel⟩

/-- … and yet the table is the same one, with several entries per cell -/
example :
    (Predictor.newG addR shufR {} model true).map (fun p => p.charScorer.bind (·.tagWeight))
      = (Predictor.new {} model true).map (fun p => p.charScorer.bind (·.tagWeight)) ∧
    (Predictor.new {} model true).map (fun p => p.charScorer.bind (·.tagWeight))
      = .ok (some [[[(0, WV.fixed [0, 4, 0, 0, 0, 0, 0, 0]), (2, WV.fixed [1, 6, 0, 0, 0, 0, 0, 0])],
                    [(2, WV.fixed [3, 0, 0, 0, 0, 0, 0, 0])]],
                   [[(2, WV.fixed [0, 6, 0, 0, 0, 0, 0, 0])],
                    [(0, WV.fixed [7, 7, 0, 0, 0, 0, 0, 0]), (2, WV.fixed [12, 7, 0, 0, 0, 0, 0, 0])]]]) := by
  refine ⟨by decide +kernel, by decide +kernel⟩

/-- `PWT.equiv` and `C06_taginfo_add_equiv` on concrete values: both operands re-listed, a key in common (`(0, 1)`) -/
example :
    let a : PWT := { weight := some ⟨-1, [1, 2]⟩, tagInfo := [((0, 0), [1, 2]), ((0, 1), [3, 4]), ((1, 0), [5, 6])] }
    let a' : PWT := { weight := some ⟨-1, [1, 2]⟩, tagInfo := [((1, 0), [5, 6]), ((0, 0), [1, 2]), ((0, 1), [3, 4])] }
    let b : PWT := { weight := none, tagInfo := [((0, 1), [10, 10]), ((2, 2), [7, 8])] }
    let b' : PWT := { weight := none, tagInfo := [((2, 2), [7, 8]), ((0, 1), [10, 10])] }
    a.equiv a' ∧ b.equiv b' ∧ a.tagInfo ≠ a'.tagInfo ∧ b.tagInfo ≠ b'.tagInfo ∧
    (a.add b).tagInfo = [((0, 0), [1, 2]), ((0, 1), [13, 14]), ((1, 0), [5, 6]), ((2, 2), [7, 8])] ∧
    (a'.add b').tagInfo = [((1, 0), [5, 6]), ((0, 0), [1, 2]), ((0, 1), [13, 14]), ((2, 2), [7, 8])] ∧
    (a.add b).tagInfo ≠ (a'.add b').tagInfo := by
  refine ⟨⟨by decide +kernel, by decide +kernel, by decide +kernel⟩, ⟨by decide +kernel, by decide +kernel, by decide +kernel⟩, by decide +kernel, by decide +kernel, by decide +kernel, by decide +kernel,
    by decide +kernel⟩

/-- the distinct-keys clause of `PWT.equiv` is needed: with a repeated key in `b` (impossible for a hash map) the order of `b`
matters, because `zip`-adding keeps the length of the vector that came first -/
example :
    let a : PWT := { weight := none, tagInfo := [] }
    let b : PWT := { weight := none, tagInfo := [((0, 0), [1]), ((0, 0), [2, 3])] }
    let b' : PWT := { weight := none, tagInfo := [((0, 0), [2, 3]), ((0, 0), [1])] }
    b.tagInfo.Perm b'.tagInfo ∧ (a.add b).tagInfo = [((0, 0), [3])] ∧ (a.add b').tagInfo = [((0, 0), [3, 3])] := by
  refine ⟨by decide +kernel, by decide +kernel, by decide +kernel⟩

def cellSc : PmaScorer Char :=
  { pats := [['a']], weights := [none],
    tagWeight := some [[[(0, WV.fixed [1, 2, 0, 0, 0, 0, 0, 0]), (2, WV.fixed [3, 4, 0, 0, 0, 0, 0, 0]),
      (5, WV.fixed [5, 6, 0, 0, 0, 0, 0, 0])], []]] }
def cellSc' : PmaScorer Char :=
  { pats := [['a']], weights := [none],
    tagWeight := some [[[(5, WV.fixed [5, 6, 0, 0, 0, 0, 0, 0]), (0, WV.fixed [1, 2, 0, 0, 0, 0, 0, 0]),
      (2, WV.fixed [3, 4, 0, 0, 0, 0, 0, 0])], []]] }

/-- cells re-listed: `add_tag_scores` reads the same vectors (`C06_tagweight_cell_perm` is not vacuous) -/
example :
    C06L.ScorerCellEq cellSc cellSc' ∧
    pmaAddTagScores cellSc 0 0 [some 2, none] [0, 0, 0, 0, 0, 0, 0, 0] = .ok [3, 4, 0, 0, 0, 0, 0, 0] ∧
    pmaAddTagScores cellSc' 0 0 [some 2, none] [0, 0, 0, 0, 0, 0, 0, 0] = .ok [3, 4, 0, 0, 0, 0, 0, 0] := by
  refine ⟨⟨rfl, rfl, ?_⟩, by decide +kernel, by decide +kernel⟩
  exact .cons (.cons ⟨by decide +kernel, by decide +kernel⟩ (.cons ⟨List.Perm.refl _, by decide +kernel⟩ .nil)) .nil

end C06PermEx

end V
