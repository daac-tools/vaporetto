import VProofs.C16
import VProofs.Lemmas.Examples
import VProofs.Lemmas.EvalCount
import VProofs.Lemmas.CrossFront
import VProofs.Lemmas.EvalFloatBetween
import VProofs.Lemmas.EvalFmtDigits
import VProofs.Lemmas.EvalFmtString
import VProofs.Lemmas.EvalFmtShortest
/-!
# C20 — Command-line tools agree with the library, line by line
-/
namespace V

/-- the specification of one output block of `predict`: the library pipeline on a FRESH sentence for this line alone —
normalise (unless `--no-norm`), `from_raw`, predict, the configured filters, `fill_tags` (with `--predict-tags`); the
tokenised line is written from the ORIGINAL (un-normalised) characters with the predicted boundaries and tags, followed by
its newline, then the optional score block, then the optional tag-score block; a rejected or empty line gives an empty line -/
def libLine (fl : PredictFlags) (p : Predictor) (filters : List PostFilter) (line : List Char) : Res (List Char) :=
  match Sentence.fromRaw (if fl.noNorm then line else Gen.fullwidth line) with
  | .err _ => .ok ['\n']
  | .panic q => .panic q
  | .ub q => .ub q
  | .ok s0 =>
    bindR (p.predict 0 s0) fun s1 =>
    bindR (applyWsconst filters s1) fun s2 =>
    bindR (if fl.predictTags then p.predictTags s2 else .ok s2) fun s3 =>
    bindR (if fl.noNorm then .ok s3 else
        match Sentence.fromRaw line with
        | .ok o =>
          if o.bounds.length ≠ s3.bounds.length then .panic "boundaries_mut().copy_from_slice: length mismatch"
          else if s3.nTags * o.types.length ≠ s3.tags.length then .panic "tags_mut().clone_from_slice: length mismatch"
          else .ok { o with bounds := s3.bounds, tags := s3.tags, nTags := s3.nTags }
        | .err e => .err e
        | .panic q => .panic q
        | .ub q => .ub q) fun shown =>
    bindR shown.writeTokenized fun w =>
    bindR (if fl.scores then printScores s3 else .ok []) fun sc =>
    bindR (if fl.tagScores && fl.predictTags then printTagScores s3 else .ok []) fun ts =>
    .ok (w ++ ['\n'] ++ sc ++ ts)

theorem libLine_eq : libLine = C20L.libLine' := rfl

/-- reusing the sentence objects `s` and `s_orig` across lines is invisible: whatever state the loop is in, the bytes
written for a line are exactly the specification block of that line -/
theorem C20_line_eq_library (fl : PredictFlags) (p : Predictor) (filters : List PostFilter) (st : PredictState)
    (line : List Char) :
    (predictLine fl p filters st line).map (·.out) = (libLine fl p filters line).map (st.out ++ ·) :=
  C20L.line_eq_library fl p filters st line

/-- hence the whole output is the concatenation, in input order, of one block per input line (so: exactly one tokenised
line per input line, an empty line for an empty or rejected input, and the same layout with and without `--no-norm`) -/
theorem C20_output_eq_blocks (cfg : Cfg) (fl : PredictFlags) (m : WModel) (p0 : Predictor)
    (hp : Predictor.new cfg m fl.predictTags = .ok p0) (stdin : List Char) (clusters : List (List Nat)) (out : List Char)
    (h : predictCli cfg fl m stdin clusters = .ok out) :
    ∃ blocks : List (List Char),
      blocks.length = (splitLines stdin).length ∧ out = blocks.flatten ∧
      ∀ i, i < blocks.length →
        ∃ filters, buildPostFilters fl.wsconst ((clusters.drop i).headD []) = .ok filters ∧
          libLine fl { p0 with storeTagScores := fl.tagScores } filters ((splitLines stdin).getD i []) = .ok (blocks.getD i []) := by
  rw [C20L.predictCli_eq, hp] at h
  obtain ⟨st', hgo, hout⟩ := Res.map_eq_ok h
  obtain ⟨blocks, h1, h2, h3⟩ := C20L.go_blocks fl _ _ _ _ _ hgo
  exact ⟨blocks, h1, by rw [← hout, h2]; rfl, h3⟩

/-- the unescaped surfaces of the tokenised line concatenate to the original, un-normalised input line: parsing the line the
tool wrote gives back exactly the input characters (well-formed model, NUL-free non-empty line, without tags) -/
theorem C20_surfaces_concat (cfg : Cfg) (m : WModel) (hm : WFModel m) (p : Predictor)
    (hp : Predictor.new cfg m false = .ok p) (fl : PredictFlags) (hft : fl.predictTags = false) (hfs : fl.scores = false)
    (hfg : fl.tagScores = false) (filters : List PostFilter) (hfil : ∀ f ∈ filters, ∃ t, f = PostFilter.ws t)
    (line : List Char) (hne : line ≠ []) (hnul : '\x00' ∉ line) :
    ∃ w, libLine fl p filters line = .ok (w ++ ['\n']) ∧ ∃ q, parseTokenized w = .ok q ∧ q.text = line := by
  rw [libLine_eq]
  have hnul' : ∀ c ∈ line, c ≠ '\x00' := fun c hc e => hnul (e ▸ hc)
  rcases C20L.libLine_ok cfg m hm fl (fun c => by rw [hft] at c; cases c) p (by rw [hft]; exact hp) p.storeTagScores
      (fun c => by rw [hft] at c; cases c) filters hfil line with ⟨herr, _⟩ | ⟨_, shown, w, sc, ts, h1, h2, hi, htx, hU, htg, hsc, hts⟩
  · have hok : ∃ x, Sentence.fromRaw (if fl.noNorm then line else Gen.fullwidth line) = .ok x := by
      cases fl.noNorm
      · exact ⟨_, C20L.fromRaw_ok _ (C16L.fullwidth_ne_nil line hne) (C16L.fullwidth_no_nul line hnul)⟩
      · exact ⟨_, C20L.fromRaw_ok _ hne hnul⟩
    obtain ⟨x, hx⟩ := hok
    rw [hx] at herr
    cases herr
  · have hwf : WFTok shown :=
      ⟨hi.text_ne, by rw [htx]; exact hnul', hi.bounds_len, hU, hi.tags_len,
        fun t ht => by rw [htg hft] at ht; cases ht⟩
    obtain ⟨w', q, hw, hq, hqt, _⟩ := C03_roundtrip shown hwf
    rw [h2] at hw
    injection hw with hw
    subst hw
    refine ⟨w, ?_, q, hq, hqt.trans htx⟩
    rw [show (⟨p.charScorer, p.typeScorer, p.bias, p.tagPredictor, p.nTags, p.storeTagScores⟩ : Predictor) = p
      from rfl] at *
    rw [h1, hsc hfs, hts hfg, List.append_nil, List.append_nil]

/-- no input line and no flag combination makes `predict` crash: for a well-formed model (and tag models) that the predictor
accepts, every input stream and valid cluster data the tool returns output, never a panic.
The predictor is taken as given — whether `Predictor::new` accepts a model is C11's business, and a start-up error is not
an input line crashing the tool; `fl.predictTags = true → cfg.tagPred = true` follows from `hp`. -/
theorem C20_no_crash (cfg : Cfg) (m : WModel) (hm : WFModel m) (ht : WFTags m) (fl : PredictFlags)
    (p0 : Predictor) (hp : Predictor.new cfg m fl.predictTags = .ok p0)
    (hws : ∀ c ∈ fl.wsconst, c ∈ ['D', 'R', 'H', 'T', 'K', 'O'])
    (stdin : List Char) (clusters : List (List Nat)) :
    ∃ out, predictCli cfg fl m stdin clusters = .ok out := by
  rw [C20L.predictCli_eq, hp]
  obtain ⟨st', h⟩ := C20L.go_total fl { p0 with storeTagScores := fl.tagScores } (fun cl line => by
    obtain ⟨fs, h1, h2⟩ := C20L.buildPostFilters_ws cl fl.wsconst hws
    refine ⟨fs, h1, ?_⟩
    rcases C20L.libLine_ok cfg m hm fl (fun _ => ht) p0 hp fl.tagScores (fun _ => rfl) fs h2 line with
      ⟨_, h⟩ | ⟨_, _, w, sc, ts, h, _⟩
    · exact ⟨_, h⟩
    · exact ⟨_, h⟩) (splitLines stdin) clusters {}
  exact ⟨st'.out, by rw [C20L.bindR_ok, h]; rfl⟩

/-! ## `evaluate`: what the counting loops compute (the loops are mirrored in `VModel/Cli.lean`; here they are
characterised without reference to any loop) -/

/-- `--metric word`: `n_cor` = number of common words with equal tags, `n_sys` / `n_ref` = number of system / reference words,
summed over the lines -/
theorem C20_eval_word_counts (ls : List EvalLine) (h : ∀ l ∈ ls, EvalLineWF l) :
    wordCounts ls = ((ls.map fun l => (corWords l).length).sum,
                     (ls.map fun l => (specTokens l.sysB).length).sum,
                     (ls.map fun l => (specTokens l.refB).length).sum) := by
  rw [C20E.wordCounts_eq_fold, C20E.wordLines ls h]
  simp only [Nat.zero_add]

/-- `--metric char`: true positives = positions where both sides have a word boundary, true negatives = both have none,
false positives = only the system has one, false negatives = only the reference has one -/
theorem C20_eval_char_counts (ls : List EvalLine) :
    charCounts ls =
      ((ls.map fun l => ((l.refB.zip l.sysB).filter fun x => decide (x.1 = x.2) && decide (x.2 = B.W)).length).sum,
       (ls.map fun l => ((l.refB.zip l.sysB).filter fun x => decide (x.1 = x.2) && decide (x.2 ≠ B.W)).length).sum,
       (ls.map fun l => ((l.refB.zip l.sysB).filter fun x => decide (x.1 ≠ x.2) && decide (x.2 = B.W)).length).sum,
       (ls.map fun l => ((l.refB.zip l.sysB).filter fun x => decide (x.1 ≠ x.2) && decide (x.2 ≠ B.W)).length).sum) :=
  C20E.char_counts ls

/-- every line that `evaluate` counts satisfies the hypotheses of `C20_eval_word_counts`: the normaliser keeps the number of
characters, prediction leaves no unknown label, the filters keep the lengths, and both tag tables have one row per character -/
theorem C20_eval_line_wf (cfg : Cfg) (m : WModel) (hm : WFModel m) (ht : WFTags m) (fl : EvalFlags)
    (p : Predictor) (hp : Predictor.new cfg m fl.predictTags = .ok p)
    (filters : List PostFilter) (line : List Char) (e : EvalLine)
    (he : evalLine fl p filters line = .ok e) : EvalLineWF e := by
  unfold evalLine at he
  obtain ⟨r, hr, he⟩ := Res.bind_eq_ok he
  obtain ⟨refT, hrT, he⟩ := Res.bind_eq_ok he
  obtain ⟨s0, hs0, he⟩ := Res.bind_eq_ok he
  obtain ⟨s1, h1, he⟩ := Res.bind_eq_ok he
  obtain ⟨s2, h2, he⟩ := Res.bind_eq_ok he
  obtain ⟨s3, h3, he⟩ := Res.bind_eq_ok he
  obtain ⟨sysT, hsT, he⟩ := Res.bind_eq_ok he
  injection he with he
  subst he
  -- the reference sentence
  have hwf : WFTok r := by
    unfold Sentence.fromTokenized at hr
    cases hp' : parseTokenized line with
    | ok q =>
      rw [hp'] at hr
      obtain ⟨s, hs1, hs2⟩ := C03_parsed_wf line q hp'
      have hr' : Sentence.ofParsed q = .ok r := hr
      rw [hs1] at hr'
      injection hr' with hr'
      rw [← hr']; exact hs2
    | err e => rw [hp'] at hr; cases hr
    | panic q => rw [hp'] at hr; cases hr
    | ub q => rw [hp'] at hr; cases hr
  -- the fresh sentence over the (normalised) reference characters
  have hxlen : (if fl.noNorm then r.text else Gen.fullwidth r.text).length = r.text.length := by
    split
    · rfl
    · exact C16L.fullwidth_length r.text
  generalize hx : (if fl.noNorm then r.text else Gen.fullwidth r.text) = x at hs0 hxlen
  rcases C20L.raw_cases x with ⟨herr, _⟩ | ⟨⟨hne, _⟩, hok, _⟩
  · rw [herr] at hs0; cases hs0
  rw [hok] at hs0
  injection hs0 with hs0
  subst hs0
  obtain ⟨s1', h1', hP⟩ := C20L.predict_stage cfg m hm fl.predictTags p hp x hne
  rw [h1] at h1'
  injection h1' with h1'
  subst h1'
  obtain ⟨bs, e2, hbs, hU'⟩ := C20L.applyPostFilters_relabels filters hP.inv h2
  have hU := hU' hP.noU
  have hb3 : s3.bounds = bs := by
    cases hft : fl.predictTags
    · rw [hft] at h3
      simp only [Bool.false_eq_true, if_false] at h3
      injection h3 with h3
      rw [← h3, e2]
    · rw [hft] at h3 hp
      simp only [if_true] at h3
      rw [e2] at h3
      obtain ⟨s3', h3', hb, _⟩ := C20L.tags_stage cfg m hm ht p hp p.storeTagScores x hne s1 h1 hP bs hbs hU
      rw [show ({ p with storeTagScores := p.storeTagScores } : Predictor) = p from rfl, h3] at h3'
      injection h3' with h3'
      rw [h3', hb]
  have hl1 : s1.bounds.length + 1 = r.bounds.length + 1 := by
    rw [hP.inv.bounds_len, hP.text, hxlen, hwf.bounds_len]
  refine ⟨?_, C20E.tagRows_length r refT hrT, C20E.tagRows_length s3 sysT hsT, hwf.no_unknown, ?_⟩
  · show s3.bounds.length = r.bounds.length
    rw [hb3, hbs]; omega
  · show ∀ b ∈ s3.bounds, b ≠ B.U
    rw [hb3]; exact hU

example : EvalLineWF ⟨[B.N, B.W], [[none], [some ['x']], [none]], [B.W, B.W], [[none], [some ['x']], [none]]⟩ ∧
    wordCounts [⟨[B.N, B.W], [[none], [some ['x']], [none]], [B.W, B.W], [[none], [some ['x']], [none]]⟩] = (1, 3, 2) := by
  refine ⟨by unfold EvalLineWF; decide, by decide⟩

/-! ### the counters are `i32` in the tool, `Nat` in the model: no counter can overflow -/

/-- `--metric char`: the four counters TOGETHER are at most the number of characters (no hypothesis on the lines), hence each
counter and the two sums `n_tp + n_fp`, `n_tp + n_fn` that the tool forms are at most that number -/
theorem C20_eval_char_counts_bounded (ls : List EvalLine) :
    (charCounts ls).1 + (charCounts ls).2.1 + (charCounts ls).2.2.1 + (charCounts ls).2.2.2 ≤ evalChars ls ∧
    (charCounts ls).1 ≤ evalChars ls ∧ (charCounts ls).2.1 ≤ evalChars ls ∧ (charCounts ls).2.2.1 ≤ evalChars ls ∧
    (charCounts ls).2.2.2 ≤ evalChars ls ∧
    (charCounts ls).1 + (charCounts ls).2.2.1 ≤ evalChars ls ∧ (charCounts ls).1 + (charCounts ls).2.2.2 ≤ evalChars ls := by
  have h := C20E.char_total ls
  generalize (charCounts ls).1 = a, (charCounts ls).2.1 = b, (charCounts ls).2.2.1 = c, (charCounts ls).2.2.2 = d at h ⊢
  omega

/-- `--metric word`: `n_cor`, `n_sys`, `n_ref` are at most the number of characters, and `n_cor ≤ n_sys`, `n_cor ≤ n_ref`
(the hypotheses `num ≤ pDen`, `num ≤ rDen` of the theorems on the metrics) — for all lines, well-formed or not -/
theorem C20_eval_word_counts_bounded (ls : List EvalLine) :
    (wordCounts ls).1 ≤ evalChars ls ∧ (wordCounts ls).2.1 ≤ evalChars ls ∧ (wordCounts ls).2.2 ≤ evalChars ls ∧
    (wordCounts ls).1 ≤ (wordCounts ls).2.1 ∧ (wordCounts ls).1 ≤ (wordCounts ls).2.2 := by
  obtain ⟨dc, ds, dr, e, h⟩ := C20E.wordLines_grows ls (0, 0, 0)
  rw [C20E.wordCounts_eq_fold, e]
  simp only [Nat.zero_add]
  omega

/-- hence with fewer than `2^31` characters in the evaluated corpus no `i32` counter of the tool, and neither of the sums
`n_tp + n_fp`, `n_tp + n_fn`, overflows: the `Nat` counts of the model are the `i32` values of the tool, and the operands of
the three divisions are below `2^31` -/
theorem C20_eval_counts_i32 (ls : List EvalLine) (h : evalChars ls < 2 ^ 31) :
    (charCounts ls).1 < 2 ^ 31 ∧ (charCounts ls).2.1 < 2 ^ 31 ∧ (charCounts ls).2.2.1 < 2 ^ 31 ∧
    (charCounts ls).2.2.2 < 2 ^ 31 ∧
    (charCounts ls).1 + (charCounts ls).2.2.1 < 2 ^ 31 ∧ (charCounts ls).1 + (charCounts ls).2.2.2 < 2 ^ 31 ∧
    (wordCounts ls).1 < 2 ^ 31 ∧ (wordCounts ls).2.1 < 2 ^ 31 ∧ (wordCounts ls).2.2 < 2 ^ 31 := by
  obtain ⟨_, c1, c2, c3, c4, c5, c6⟩ := C20_eval_char_counts_bounded ls
  obtain ⟨w1, w2, w3, _, _⟩ := C20_eval_word_counts_bounded ls
  exact ⟨Nat.lt_of_le_of_lt c1 h, Nat.lt_of_le_of_lt c2 h, Nat.lt_of_le_of_lt c3 h, Nat.lt_of_le_of_lt c4 h,
    Nat.lt_of_le_of_lt c5 h, Nat.lt_of_le_of_lt c6 h, Nat.lt_of_le_of_lt w1 h, Nat.lt_of_le_of_lt w2 h,
    Nat.lt_of_le_of_lt w3 h⟩

/-! ## `evaluate`: the three floating-point numbers it prints (`VModel/F64Arith.lean`: `evalMetrics num pDen rDen` is
`(precision, recall, f1)` with `precision = num/pDen`, `recall = num/rDen`, `f1 = ((2.·precision)·recall) / (precision + recall)`
in IEEE-754 binary64, every operation correctly rounded; char metric: `num = n_tp`, `pDen = n_tp + n_fp`, `rDen = n_tp + n_fn`;
word metric: `num = n_cor`, `pDen = n_sys`, `rDen = n_ref`; the counts are `i32`, so below `2^31`, and `num ≤ pDen`,
`num ≤ rDen` hold for both metrics) -/

/-- the arithmetic itself: every result of `f64OfNat`, `f64Mul`, `f64Add` is a binary64 value, the conversion is exact below
`2^53`, `*` and `+` are commutative on all operands, and the IEEE special cases hold (`x + (−x) = +0`, `(−0) + (−0) = −0`,
`0·∞ = NaN`, `∞ − ∞ = NaN`) -/
theorem C20_f64_arith_sane :
    (∀ n, (f64OfNat n).IsDouble) ∧ (∀ n, n < 2 ^ 53 → f64OfNat n = .fin false (n * F64.unit)) ∧
    (∀ x y, (f64Mul x y).IsDouble) ∧ (∀ x y, (f64Add x y).IsDouble) ∧
    (∀ x y, f64Mul x y = f64Mul y x) ∧ (∀ x y, f64Add x y = f64Add y x) ∧
    (∀ s a, f64Add (.fin s a) (f64Neg (.fin s a)) = .fin false 0) ∧ f64Add (.fin true 0) (.fin true 0) = .fin true 0 ∧
    (∀ s t, f64Mul (.fin s 0) (.inf t) = .nan ∧ f64Mul (.inf t) (.fin s 0) = .nan) ∧ (∀ s, f64Sub (.inf s) (.inf s) = .nan) :=
  EvalF.arith_sane

/-- NaN: precision is NaN exactly when its denominator is 0 (then the numerator is 0 too), the same for recall; F1 is NaN
exactly when precision or recall is NaN or the numerator is 0 (`0/0` in the last division); and every one of the three numbers
that is not NaN is a finite, non-negative binary64 value (sign bit clear) — never ±∞, never −0 -/
theorem C20_eval_metrics_nan (num pDen rDen : Nat) (hp : pDen < 2 ^ 31) (hr : rDen < 2 ^ 31)
    (hnp : num ≤ pDen) (hnr : num ≤ rDen) :
    ((evalMetrics num pDen rDen).1 = .nan ↔ pDen = 0) ∧
    ((evalMetrics num pDen rDen).2.1 = .nan ↔ rDen = 0) ∧
    ((evalMetrics num pDen rDen).2.2 = .nan ↔
      ((evalMetrics num pDen rDen).1 = .nan ∨ (evalMetrics num pDen rDen).2.1 = .nan ∨ num = 0)) ∧
    (∀ x, x = (evalMetrics num pDen rDen).1 ∨ x = (evalMetrics num pDen rDen).2.1 ∨ x = (evalMetrics num pDen rDen).2.2 →
      x ≠ .nan → x.Finite ∧ x.sign = false ∧ x.IsDouble) :=
  EvalF.metrics_nan num pDen rDen hp hr hnp hnr

/-- the hypothesis `num ≤ pDen` of `C20_eval_metrics_nan` matters only for a zero denominator: without it the quotient `n/0`
with `n > 0` is `+∞`, not NaN (unreachable in the tool) -/
theorem C20_eval_metrics_zero_den (num rDen : Nat) (hn : num < 2 ^ 31) :
    (evalMetrics num 0 rDen).1 = if num = 0 then .nan else .inf false :=
  EvalF.metrics_zero_den num rDen hn

/-- range: with positive denominators `0 ≤ precision ≤ 1` and `0 ≤ recall ≤ 1` (IEEE comparisons against the doubles `0.0`
and `1.0`), precision is exactly `1.0` iff `num = pDen` and exactly `0.0` iff `num = 0` (no proper fraction of `i32` counts
rounds to 1, no non-zero one underflows), likewise recall; for `num > 0`: `0 < f1 ≤ 1`, and `f1 = 1.0` when
`num = pDen = rDen` -/
theorem C20_eval_metrics_range (num pDen rDen : Nat) (hp : pDen < 2 ^ 31) (hr : rDen < 2 ^ 31)
    (hp0 : 0 < pDen) (hr0 : 0 < rDen) (hnp : num ≤ pDen) (hnr : num ≤ rDen) :
    f64Le (f64OfNat 0) (evalMetrics num pDen rDen).1 = true ∧ f64Le (evalMetrics num pDen rDen).1 (f64OfNat 1) = true ∧
    f64Le (f64OfNat 0) (evalMetrics num pDen rDen).2.1 = true ∧ f64Le (evalMetrics num pDen rDen).2.1 (f64OfNat 1) = true ∧
    ((evalMetrics num pDen rDen).1 = f64OfNat 1 ↔ num = pDen) ∧ ((evalMetrics num pDen rDen).1 = f64OfNat 0 ↔ num = 0) ∧
    ((evalMetrics num pDen rDen).2.1 = f64OfNat 1 ↔ num = rDen) ∧ ((evalMetrics num pDen rDen).2.1 = f64OfNat 0 ↔ num = 0) ∧
    (0 < num → f64Lt (f64OfNat 0) (evalMetrics num pDen rDen).2.2 = true ∧
      f64Le (evalMetrics num pDen rDen).2.2 (f64OfNat 1) = true) ∧
    (0 < num → num = pDen → num = rDen → (evalMetrics num pDen rDen).2.2 = f64OfNat 1) :=
  EvalF.metrics_range num pDen rDen hp hr hp0 hr0 hnp hnr

/-- precision is the correctly rounded quotient of the two integers: `roundUnits (num·2^1074) pDen` units, the double nearest
to the rational `num/pDen` (the five clauses of `C11_f64_rounding`: representable; within half a grid step below and above;
never crossing a representable value from either side); and equal fractions give the same double, so the printed precision
depends only on the ratio (recall is the same function of `num` and `rDen`) -/
theorem C20_eval_metrics_exact_ratio (num pDen rDen : Nat) (hn : num < 2 ^ 31) (hp : pDen < 2 ^ 31) (hp0 : 0 < pDen) :
    (evalMetrics num pDen rDen).1 = .fin false (roundUnits (num * F64.unit) pDen) ∧
    (evalMetrics num rDen pDen).2.1 = (evalMetrics num pDen rDen).1 ∧
    QuantL.RepU (roundUnits (num * F64.unit) pDen) ∧
    (2 * (num * F64.unit) ≤ 2 * (pDen * roundUnits (num * F64.unit) pDen) + pDen ∨
      2 ^ 53 * (num * F64.unit) ≤ 2 ^ 53 * (pDen * roundUnits (num * F64.unit) pDen) + num * F64.unit) ∧
    (2 * (pDen * roundUnits (num * F64.unit) pDen) ≤ 2 * (num * F64.unit) + pDen ∨
      2 ^ 53 * (pDen * roundUnits (num * F64.unit) pDen) ≤ 2 ^ 53 * (num * F64.unit) + num * F64.unit) ∧
    (∀ g, QuantL.RepU g → num * F64.unit ≤ pDen * g → roundUnits (num * F64.unit) pDen ≤ g) ∧
    (∀ g, QuantL.RepU g → pDen * g ≤ num * F64.unit → g ≤ roundUnits (num * F64.unit) pDen) ∧
    (∀ num' pDen' rDen', num' < 2 ^ 31 → pDen' < 2 ^ 31 → 0 < pDen' → num * pDen' = num' * pDen →
      (evalMetrics num' pDen' rDen').1 = (evalMetrics num pDen rDen).1) :=
  ⟨(EvalF.metrics_exact_ratio num pDen rDen hn hp hp0).1, rfl,
    QuantL.roundUnits_rep _ _ hp0, QuantL.roundUnits_lower _ _ hp0, QuantL.roundUnits_upper _ _ hp0,
    fun g hg h => QuantL.roundUnits_le_of_le _ _ g hp0 hg h, fun g hg h => QuantL.le_roundUnits_of_le _ _ g hp0 hg h,
    (EvalF.metrics_exact_ratio num pDen rDen hn hp hp0).2⟩

/-- F1 is symmetric in precision and recall: swapping the two denominators swaps precision and recall and leaves F1 unchanged,
for all `i32` counts (no relation between them needed).  `+` and `*` are commutative (`C20_f64_arith_sane`), but
`2. * precision * recall` is `(2.·p)·r`, and `(2.·p)·r = (2.·r)·p` holds because doubling is exact on quotients of counts — for
arbitrary doubles it fails (see the example below) -/
theorem C20_eval_f1_symmetric (num pDen rDen : Nat) (hn : num < 2 ^ 31) (hp : pDen < 2 ^ 31) (hr : rDen < 2 ^ 31) :
    (evalMetrics num rDen pDen).2.2 = (evalMetrics num pDen rDen).2.2 ∧
    (evalMetrics num rDen pDen).1 = (evalMetrics num pDen rDen).2.1 ∧
    (evalMetrics num rDen pDen).2.1 = (evalMetrics num pDen rDen).1 :=
  ⟨(EvalF.f1_symmetric num pDen rDen hn hp hr).symm, rfl, rfl⟩

/-- F1 against the smaller and the larger of precision and recall.  The exact harmonic mean lies between them; the computed
value went through three roundings and CAN leave `[min p r, max p r]` by one grid step on either side (examples below: counts
1/5/5 and 17/23/23), so the plain statement is false.  True for all counts with `num > 0`: F1 is within a relative
`(1 ± 2^-53)^3` of the interval — on the magnitudes in units of `2^-1074` (all three numbers are finite and non-negative by
`C20_eval_metrics_nan`), without division:
`(2^53 − 1)²·min p r ≤ (2^53 + 1)·2^53·f1` and `(2^53 − 1)·2^53·f1 ≤ (2^53 + 1)²·max p r` -/
theorem C20_eval_f1_between (num pDen rDen : Nat) (hp : pDen < 2 ^ 31) (hr : rDen < 2 ^ 31)
    (hnp : num ≤ pDen) (hnr : num ≤ rDen) (hn : 0 < num) :
    (2 ^ 53 - 1) * (2 ^ 53 - 1) * min (evalMetrics num pDen rDen).1.mag (evalMetrics num pDen rDen).2.1.mag
      ≤ (2 ^ 53 + 1) * 2 ^ 53 * (evalMetrics num pDen rDen).2.2.mag ∧
    (2 ^ 53 - 1) * 2 ^ 53 * (evalMetrics num pDen rDen).2.2.mag
      ≤ (2 ^ 53 + 1) * (2 ^ 53 + 1) * max (evalMetrics num pDen rDen).1.mag (evalMetrics num pDen rDen).2.1.mag := by
  obtain ⟨a, b, f, he, hb⟩ := EvalF.metrics_between_ex (2 ^ 53) rfl num pDen rDen hp hr hnp hnr hn
  rw [he]
  exact hb

/-! ### concrete values (kernel evaluation; `0x…` are IEEE-754 bit patterns, as the driver prints them) -/
namespace C20FloatEx

/-- the bit patterns of the three metrics -/
def bits (num pDen rDen : Nat) : Nat × Nat × Nat :=
  let m := evalMetrics num pDen rDen
  (m.1.toBits, m.2.1.toBits, m.2.2.toBits)

/-- tp = 1, fp = 1, fn = 0: P = 0.5, R = 1.0, F1 = 0.6666666666666666 -/
example : bits 1 2 1 = (0x3FE0000000000000, 0x3FF0000000000000, 0x3FE5555555555555) := by decide +kernel
/-- nothing counted: three NaNs -/
example : bits 0 0 0 = (0x7FF8000000000000, 0x7FF8000000000000, 0x7FF8000000000000) := by decide +kernel
/-- tp = 0, fp = 1, fn = 1: P = R = 0, F1 = NaN -/
example : bits 0 1 1 = (0, 0, 0x7FF8000000000000) := by decide +kernel
/-- a zero denominator on one side only -/
example : bits 0 0 3 = (0x7FF8000000000000, 0, 0x7FF8000000000000) ∧
    bits 0 3 0 = (0, 0x7FF8000000000000, 0x7FF8000000000000) := by decide +kernel
/-- 3/7, 3/11: the exact F1 is 1/3 = `0x3FD5555555555555`, the computed one is one step below -/
example : bits 3 7 11 = (0x3FDB6DB6DB6DB6DB, 0x3FD1745D1745D174, 0x3FD5555555555554) := by decide +kernel
/-- everything right: 1.0, 1.0, 1.0; and the largest `i32` counts -/
example : bits 5 5 5 = (0x3FF0000000000000, 0x3FF0000000000000, 0x3FF0000000000000) ∧
    bits 2147483646 2147483647 2147483647 = (0x3FEFFFFFFFC00000, 0x3FEFFFFFFFC00000, 0x3FEFFFFFFFC00000) := by
  decide +kernel
/-- the text the driver appends -/
example : metricsText (evalMetrics 1 2 1) = "P=3fe0000000000000,R=3ff0000000000000,F=3fe5555555555555" := by decide +kernel
/-- the two front ends of `evalMetrics` -/
example : evalMetricsChar (1, 7, 1, 0) = evalMetrics 1 2 1 ∧ evalMetricsWord (1, 2, 1) = evalMetrics 1 2 1 := ⟨rfl, rfl⟩

/-- `min p r ≤ f1 ≤ max p r` is FALSE for the computed values: P = R = 0.2 (`0x3FC999999999999A`) but F1 =
`0x3FC999999999999B`, one step above both … -/
example : bits 1 5 5 = (0x3FC999999999999A, 0x3FC999999999999A, 0x3FC999999999999B) ∧
    f64Le (evalMetrics 1 5 5).2.2 (evalMetrics 1 5 5).1 = false := by decide +kernel
/-- … and P = R = 17/23 (`0x3FE7A6F4DE9BD37A`) with F1 one step below both -/
example : bits 17 23 23 = (0x3FE7A6F4DE9BD37A, 0x3FE7A6F4DE9BD37A, 0x3FE7A6F4DE9BD379) ∧
    f64Le (evalMetrics 17 23 23).1 (evalMetrics 17 23 23).2.2 = false := by decide +kernel

/-- `(2.·p)·r = (2.·r)·p` is false for arbitrary doubles: with `p` the largest finite double and `r = 0.25` the left product
overflows in its first step, the right one is exact -/
example : f64Mul (f64Mul f64Two (F64.ofBits 0x7FEFFFFFFFFFFFFF)) (F64.ofBits 0x3FD0000000000000) = .inf false ∧
    (f64Mul (f64Mul f64Two (F64.ofBits 0x3FD0000000000000)) (F64.ofBits 0x7FEFFFFFFFFFFFFF)).toBits = 0x7FDFFFFFFFFFFFFF := by
  decide +kernel

/-- the arithmetic on bit patterns: 1.5·(−3.0) = −4.5; 1.0 + 2^-53 = 1.0 (tie to even) and (1.0 + 2^-52) + 2^-53 = 1.0 + 2^-51
(tie to even, upwards); 1.0 + (−1.0) = +0; the least subnormal times 0.5 is 0 and three of them times 0.5 is two (ties to even
under gradual underflow); the largest double times 2 is +∞; 2^53 + 1 → 2^53 and 2^53 + 3 → 2^53 + 4 in `f64OfNat` -/
example :
    (f64Mul (F64.ofBits 0x3FF8000000000000) (F64.ofBits 0xC008000000000000)).toBits = 0xC012000000000000 ∧
    (f64Add (F64.ofBits 0x3FF0000000000000) (F64.ofBits 0x3CA0000000000000)).toBits = 0x3FF0000000000000 ∧
    (f64Add (F64.ofBits 0x3FF0000000000001) (F64.ofBits 0x3CA0000000000000)).toBits = 0x3FF0000000000002 ∧
    (f64Add (F64.ofBits 0x3FF0000000000000) (F64.ofBits 0xBFF0000000000000)).toBits = 0 ∧
    (f64Mul (F64.ofBits 1) (F64.ofBits 0x3FE0000000000000)).toBits = 0 ∧
    (f64Mul (F64.ofBits 3) (F64.ofBits 0x3FE0000000000000)).toBits = 2 ∧
    (f64Mul (F64.ofBits 0x7FEFFFFFFFFFFFFF) (F64.ofBits 0x4000000000000000)).toBits = 0x7FF0000000000000 ∧
    (f64OfNat (2 ^ 53 + 1)).toBits = 0x4340000000000000 ∧ (f64OfNat (2 ^ 53 + 3)).toBits = 0x4340000000000002 := by
  decide +kernel

end C20FloatEx

/-! ## the decimal text of evaluate's floats

`VModel/F64Fmt.lean`: `f64Display` is Rust's `format!("{}", x)` for an `f64` (shortest digits that read back, nearest to the
value, positional notation), `evalReportChar` / `evalReportWord` the complete output of the tool after counting;
`decimalToF64 ds e` is the double nearest to `0.d₁…d_k × 10^e` (what `str::parse::<f64>` computes). -/

/-- the printed digits identify the computed double exactly: for every finite non-zero double (magnitude `a` units of
`2^-1074`) reading the digits and exponent of `format_shortest` back with correct rounding gives that double again -/
theorem C20_eval_display_roundtrip (s : Bool) (a : Nat) (hd : F64.IsDouble (.fin s a)) (ha : 0 < a) :
    decimalToF64 (f64ShortestDigits a).1 (f64ShortestDigits a).2 = .fin false a :=
  FmtL.display_roundtrip a ha hd.1 hd.2

/-- hence different finite doubles have different digits or exponents (on the magnitudes; the sign is printed separately) -/
theorem C20_eval_display_injective (s t : Bool) (a b : Nat) (hx : F64.IsDouble (.fin s a)) (hy : F64.IsDouble (.fin t b))
    (ha : 0 < a) (hb : 0 < b) (h : f64ShortestDigits a = f64ShortestDigits b) : a = b := by
  have h1 := C20_eval_display_roundtrip s a hx ha
  have h2 := C20_eval_display_roundtrip t b hy hb
  rw [h, h2] at h1
  exact (F64.fin.inj h1).2.symm

/-- … and the printed TEXT identifies the double, sign included: two finite doubles with the same `format!("{}", x)` are the
same double (the three layouts `0.000ddd`, `ddd000`, `dd.ddd` of `digits_to_dec_str` determine digits and exponent because
the first and the last digit are not `0`; `0` and `-0` print differently) -/
theorem C20_eval_display_text_injective (s t : Bool) (a b : Nat) (hx : F64.IsDouble (.fin s a))
    (hy : F64.IsDouble (.fin t b)) (h : f64Display (.fin s a) = f64Display (.fin t b)) :
    (F64.fin s a : F64) = .fin t b := by
  obtain ⟨hs, hm⟩ := FmtL.display_fin_inj s t a b hx.2 hy.2 h
  have hab : a = b := FmtL.magText_inj a b hx.2 hy.2 hx.1 hy.1 hm
  rw [hs, hab]

/-- reading back, characterised: a digit string `0.d₁…d_k × 10^e` parses (correctly rounded, ties to even) to the non-zero double
`a` EXACTLY when its value lies in the rounding interval of `a` — between the midpoints to the neighbouring doubles (a quarter
step below a power of two), end points included when the significand of `a` is even.  `round_of_interval` is one direction;
the other: nothing outside the interval rounds to `a` -/
theorem C20_eval_display_interval_iff (s : Bool) (a : Nat) (hd : F64.IsDouble (.fin s a)) (ha : 0 < a)
    (ds : List Nat) (e : Int) :
    decimalToF64 ds e = .fin false a ↔ decInInterval a (ofDigits ds) (e - (ds.length : Int)) = true :=
  FmtL.decimal_interval_iff a ha hd.1 hd.2 ds e

/-- the printed digit string is a SHORTEST one: for a finite non-zero double `a` no digit string with fewer digits than
`format_shortest` produces reads back as `a`, whatever its exponent — under the hypothesis `FmtL.f64ShortestFoundWithinFuel a`
(a `Bool`, checked by evaluation in the examples below): the search of `f64ShortestDec` ends within its 20 rounds instead of
falling back to the exact expansion.  This holds for every double (17 digits always suffice): the next theorem removes the
hypothesis; this one is the part that does not need that fact, hence `_partial`.  The proof: what reads back as `a` lies in the rounding interval
(`C20_eval_display_interval_iff`), rounding is monotone, so with any `k`-digit decimal one of the two `k`-digit neighbours of
`a` at the scale `10^(e−k)` reads back as well and the search would have stopped there; `decExponent a` is the decimal exponent
(`10^(e−1) ≤ a·2^-1074 < 10^e`, `FmtL.decExponent_ok`), so a decimal at a finer scale has more digits and one at a coarser
scale is on the other side of a power of ten, which then is a one-digit decimal that reads back -/
theorem C20_eval_display_shortest_partial (s : Bool) (a : Nat) (hd : F64.IsDouble (.fin s a)) (ha : 0 < a)
    (hok : FmtL.f64ShortestFoundWithinFuel a = true) (ds' : List Nat) (e' : Int)
    (hlen : ds'.length < (f64ShortestDigits a).1.length) (hdig : ∀ d ∈ ds', d < 10) (hne : ds' ≠ []) :
    decimalToF64 ds' e' ≠ .fin false a :=
  FmtL.display_shortest_found a ha hd.1 hd.2 hok ds' e' hlen hdig hne

/-- … and the hypothesis always holds (`FmtL.found_within_fuel`): seventeen digits suffice for every double.  At the scale
`10^(e−17)` the spacing of the decimals is at most `a·10^-16`; the rounding interval of `a = c·2^t` is `2^t` wide and
`a < 2^53·2^t`, `2^53 < 10^16` (just above a power of two the interval is `¾·2^t` wide, but there `a = 2^52·2^t` and
`4·2^52 < 3·10^16`), so one of the two neighbours `⌊x·10^(17−e)⌋`, `⌈x·10^(17−e)⌉` of the double lies strictly inside.
Hence, unconditionally: the printed digit string is a SHORTEST one — for every finite non-zero double `a` no digit string with
fewer digits than `format_shortest` produces reads back as `a`, whatever its exponent -/
theorem C20_eval_display_shortest (s : Bool) (a : Nat) (hd : F64.IsDouble (.fin s a)) (ha : 0 < a)
    (ds' : List Nat) (e' : Int)
    (hlen : ds'.length < (f64ShortestDigits a).1.length) (hdig : ∀ d ∈ ds', d < 10) (hne : ds' ≠ []) :
    decimalToF64 ds' e' ≠ .fin false a :=
  FmtL.display_shortest_found a ha hd.1 hd.2 (FmtL.found_within_fuel a ha hd.2) ds' e' hlen hdig hne

/-- so the fall-back of `f64ShortestDec` to the exact expansion is dead code on doubles, and the printed text has at most
seventeen significant digits -/
theorem C20_eval_display_at_most_17 (s : Bool) (a : Nat) (hd : F64.IsDouble (.fin s a)) (ha : 0 < a) :
    FmtL.f64ShortestFoundWithinFuel a = true ∧ (f64ShortestDigits a).1.length ≤ 17 :=
  ⟨FmtL.found_within_fuel a ha hd.2, FmtL.digits_le_17 a ha hd.2⟩

/-- the hypothesis holds for: 1.0, the least subnormal, the least normal number, the largest double, 0.1, 1/3, 2/3, 2^53,
`(2^51 + 1)/4` (the tie of `F64Fmt.lean`) -/
example : FmtL.f64ShortestFoundWithinFuel F64.unit = true ∧ FmtL.f64ShortestFoundWithinFuel 1 = true ∧
    FmtL.f64ShortestFoundWithinFuel (2 ^ 52) = true ∧ FmtL.f64ShortestFoundWithinFuel ((2 ^ 53 - 1) * 2 ^ 2045) = true ∧
    FmtL.f64ShortestFoundWithinFuel ((2 ^ 52 + 0x999999999999A) * 2 ^ (0x3FB - 1)) = true ∧
    FmtL.f64ShortestFoundWithinFuel ((2 ^ 52 + 0x5555555555555) * 2 ^ (0x3FD - 1)) = true ∧
    FmtL.f64ShortestFoundWithinFuel ((2 ^ 52 + 0x5555555555555) * 2 ^ (0x3FE - 1)) = true ∧
    FmtL.f64ShortestFoundWithinFuel (2 ^ 53 * F64.unit) = true ∧
    FmtL.f64ShortestFoundWithinFuel ((2 ^ 52 + 2) * 2 ^ (0x430 - 1)) = true := by decide +kernel

/-- an instance: `0.1` prints with one digit, `1/3` with sixteen: no digit string of at most fifteen digits parses to `1/3` -/
example : (f64ShortestDigits ((2 ^ 52 + 0x5555555555555) * 2 ^ (0x3FD - 1))).1.length = 16 ∧
    (f64ShortestDigits ((2 ^ 52 + 0x999999999999A) * 2 ^ (0x3FB - 1))).1.length = 1 := by decide +kernel

/-- the text of a double `x` with `0 ≤ x ≤ 1` (magnitude `a ≤ 2^1074` units, sign bit clear): `0` for zero, `1` for one,
otherwise `0.` + zeros + the shortest digits, the last of which is not `0`; and NaN prints as `NaN` -/
theorem C20_eval_display_shape (a : Nat) (hd : F64.IsDouble (.fin false a)) :
    (a = 0 → f64Display (.fin false a) = ['0']) ∧ (a = F64.unit → f64Display (.fin false a) = ['1']) ∧
    (0 < a → a < F64.unit → ∃ (z : Nat) (ds : List Nat) (last : Nat),
      f64Display (.fin false a) = '0' :: '.' :: (List.replicate z '0' ++ ds.map digitChar) ∧
        (∀ d ∈ ds, d < 10) ∧ ds.getLast? = some last ∧ last ≠ 0) ∧
    f64Display .nan = ['N', 'a', 'N'] :=
  FmtL.display_shape a hd

/-- the three numbers that `evaluate` prints, for all `i32` counts with `num ≤ pDen`, `num ≤ rDen` (both metrics, see
`C20_eval_word_counts_bounded`): each of `Precision`, `Recall`, `F1` is `NaN`, `0`, `1` or `0.d…d` with a non-zero last digit -/
theorem C20_eval_report_shape (num pDen rDen : Nat) (hp : pDen < 2 ^ 31) (hr : rDen < 2 ^ 31)
    (hnp : num ≤ pDen) (hnr : num ≤ rDen) :
    UnitText (f64Display (evalMetrics num pDen rDen).1) ∧ UnitText (f64Display (evalMetrics num pDen rDen).2.1) ∧
    UnitText (f64Display (evalMetrics num pDen rDen).2.2) := by
  obtain ⟨n1, n2, n3, n4⟩ := EvalF.metrics_nan num pDen rDen hp hr hnp hnr
  generalize hP : (evalMetrics num pDen rDen).1 = P at n1 n3 n4
  generalize hR : (evalMetrics num pDen rDen).2.1 = R at n2 n3 n4
  generalize hF : (evalMetrics num pDen rDen).2.2 = F at n3 n4
  refine ⟨?_, ?_, ?_⟩
  · apply FmtL.unitText_of_le_one P (n4 P (Or.inl rfl))
    intro hx
    have hp0 : 0 < pDen := Nat.pos_of_ne_zero fun h => hx (n1.mpr h)
    rw [← hP, EvalF.evalMetrics_eq]
    dsimp only
    exact (EvalF.ratio_range num pDen hp hp0 hnp).2.1
  · apply FmtL.unitText_of_le_one R (n4 R (Or.inr (Or.inl rfl)))
    intro hx
    have hr0 : 0 < rDen := Nat.pos_of_ne_zero fun h => hx (n2.mpr h)
    rw [← hR, EvalF.evalMetrics_eq]
    dsimp only
    exact (EvalF.ratio_range num rDen hr hr0 hnr).2.1
  · apply FmtL.unitText_of_le_one F (n4 F (Or.inr (Or.inr rfl)))
    intro hx
    have hp0 : 0 < pDen := Nat.pos_of_ne_zero fun h => hx (n3.mpr (Or.inl (n1.mpr h)))
    have hr0 : 0 < rDen := Nat.pos_of_ne_zero fun h => hx (n3.mpr (Or.inr (Or.inl (n2.mpr h))))
    have hn0 : 0 < num := Nat.pos_of_ne_zero fun h => hx (n3.mpr (Or.inr (Or.inr h)))
    rw [← hF]
    exact ((EvalF.metrics_range num pDen rDen hp hr hp0 hr0 hnp hnr).2.2.2.2.2.2.2.2.1 hn0).2

/-- the `predict` tool and the Tantivy token stream (C16) segment alike: for a line without line-break characters the core
pipeline on which the token stream is built (normalise, predict, line-break filter, configured filters) yields exactly the
sentence whose boundaries the tool prints in its normalising mode (normalise, predict, configured filters) — in every case,
including rejected input -/
theorem C20_agrees_with_token_stream (cfg : Cfg) (m : WModel) (hm : WFModel m) (pt : Bool)
    (p : Predictor) (hp : Predictor.new cfg m pt = .ok p) (filters : List PostFilter) (line : List Char)
    (hnl : ∀ c ∈ line, isLinebreak c = false) :
    pipeline p filters line =
      bindR (Sentence.fromRaw (Gen.fullwidth line)) fun s0 => bindR (p.predict 0 s0) fun s1 => applyWsconst filters s1 :=
  C20X.agrees cfg m hm pt p hp filters line hnl

/-! ## non-vacuity: the well-formed model of `C01.lean` (it has a tag model, see `C06.lean`) through `predictCli`, two
non-empty lines and an empty one -/

/-- `--no-norm --predict-tags --scores --tag-scores --wsconst D`: per line the tokenised line, the score block and the
tag-score block; the empty line gives an empty line -/
example : predictCli {} ⟨true, true, true, true, ['D']⟩ C01_exModel "aba\n\nab".toList [] =
    .ok "a/y ba\n0:ab 1\n1:ba 0\n\na\tx:0,y:1\nba\n\n\na/y b\n0:ab 1\n\na\tx:0,y:1\nb\n\n".toList := by
  -- the kernel decodes a string literal byte by byte: turn the literals into character lists before it evaluates
  repeat rw [String.toList_ofList]
  decide +kernel

/-- with normalisation (and a CRLF line end): the line is written from the original characters (the space escaped), the
scores are printed with the normalised ones -/
example : predictCli {} ⟨false, false, true, false, ['D']⟩ C01_exModel "a b\r\n12".toList [] =
    .ok "a\\ b\n0:ａ  -6\n1: ｂ -7\n\n12\n0:１２ -10\n\n".toList := by
  repeat rw [String.toList_ofList]
  decide +kernel

/-- the hypotheses of `C20_no_crash` / `C20_output_eq_blocks` on the predictor are satisfiable for this model -/
example : (Predictor.new {} C01_exModel true).isOk = true := by decide +kernel

/-- the embedded device (`examples/embedded_device`, C14) is `predict --no-norm --wsconst D`: for EVERY predictor and every text
that the sentence constructor accepts, the line the device writes, followed by a newline, is the block the tool writes for that
line with these flags and no other — in every case: same value, same error, same panic -/
theorem C20_embedded_eq_predict_tool (p : Predictor) (text : List Char) (hne : text ≠ []) (hnul : '\x00' ∉ text) :
    (embeddedTokenize p text).map (· ++ ['\n']) =
      libLine { noNorm := true, predictTags := false, scores := false, tagScores := false, wsconst := ['D'] } p
        [PostFilter.ws 1] text := by
  rw [libLine_eq]
  have h0 := C20L.fromRaw_ok text hne hnul
  unfold embeddedTokenize C20L.libLine' C20L.origCopy applyWsconst
  simp only [if_true, h0, Bool.false_eq_true, if_false, Bool.and_false, applyPostFilters]
  cases p.predict 0 (Sentence.mkRaw text) with
  | ok s1 =>
    simp only [C20L.bindR_ok]
    cases filterWsConst 1 s1 with
    | ok s2 =>
      simp only [C20L.bindR_ok]
      cases s2.writeTokenized with
      | ok w => simp only [C20L.bindR_ok, Res.map, List.append_nil]
      | err e => rfl
      | panic q => rfl
      | ub q => rfl
    | err e => rfl
    | panic q => rfl
    | ub q => rfl
  | err e => rfl
  | panic q => rfl
  | ub q => rfl

/-- the hypothesis on the text is needed: on a rejected text (empty, or with a NUL character) the two programs differ by
design — the device unwraps the constructor's error and panics, the tool prints an empty line -/
theorem C20_embedded_rejected (p : Predictor) (text : List Char) (h : text = [] ∨ '\x00' ∈ text) :
    embeddedTokenize p text = .panic "Sentence::from_raw(text).unwrap()" ∧
    libLine { noNorm := true, predictTags := false, scores := false, tagScores := false, wsconst := ['D'] } p
      [PostFilter.ws 1] text = .ok ['\n'] := by
  rw [libLine_eq]
  have h0 := C20L.fromRaw_rejected text h
  constructor
  · unfold embeddedTokenize
    simp only [h0]
  · unfold C20L.libLine'
    simp only [if_true, h0]

/-- … and with the build script in front (`embeddedDevice`: build, serialise, deserialise, tokenise): for a well-formed model
the whole example is the tool's block under ANY build configuration of the tool (`C14_embedded_cfg_independent`) -/
theorem C20_embedded_device_eq_predict_tool (cfg : Cfg) (m : WModel) (hm : WFModel m) (text : List Char) (hne : text ≠ [])
    (hnul : '\x00' ∉ text) :
    (embeddedDevice m text).map (· ++ ['\n']) =
      bindR (Predictor.new cfg m false) fun p =>
        libLine { noNorm := true, predictTags := false, scores := false, tagScores := false, wsconst := ['D'] } p
          [PostFilter.ws 1] text := by
  rw [ExL.embedded_cfg_independent cfg m hm text, C20L.map_bindR]
  exact C20L.bindR_congr _ _ _ fun p _ => C20_embedded_eq_predict_tool p text hne hnul

/-- the browser worker (`examples/wasm`, C16) is `predict --predict-tags --wsconst GD` in its normalising mode: for a
well-formed model, a non-empty NUL-free message, valid cluster data and ANY state of the worker, the worker answers, the tool
writes a line, the line parses, its characters are the message, and the worker's token surfaces are exactly the tokens of the
line — the same segmentation of the same original characters.
Needs `htag`: no tag of the model is empty or contains NUL.  A NUL inside a tag is written as it is and the parser of the
tokenised format rejects the line — example below; an empty tag is written like an absent one, `C03_roundtrip` excludes it. -/
theorem C20_wasm_eq_predict_tool (m : WModel) (hm : WFModel m) (ht : WFTags m)
    (htag : ∀ tm ∈ m.tagModels, ∀ cands ∈ tm.tags, ∀ t ∈ cands, t ≠ [] ∧ '\x00' ∉ t)
    (p : Predictor) (hp : wasmCreate m = .ok p) (w : WasmWorker) (msg : List Char) (hne : msg ≠ []) (hnul : '\x00' ∉ msg)
    (cl : List Nat) (hpos : ∀ l ∈ cl, 1 ≤ l) (hsum : cl.sum = msg.length) :
    ∃ w' toks n line q,
      wasmReceived p cl w msg = .ok (w', toks, n) ∧
      libLine { noNorm := false, predictTags := true, scores := false, tagScores := false, wsconst := ['G', 'D'] } p
        [PostFilter.graphemes cl, PostFilter.ws 1] msg = .ok (line ++ ['\n']) ∧
      parseTokenized line = .ok q ∧ q.text = msg ∧
      toks.map (·.1) = (iterTokens q.bounds).map fun se => (q.text.drop se.1).take (se.2 - se.1) := by
  obtain ⟨w', toks, n, line, q, h1, h2, h3, h4, h5, _⟩ :=
    ExCli.wasm_eq_tool wasmCfg m hm ht htag p hp w msg hne hnul cl hpos hsum
  exact ⟨w', toks, n, line, q, h1, by rw [libLine_eq]; exact h2, h3, h4, h5⟩

/-- … and the same tags: the tag list the worker sends with its `i`-th token is the tag list written on the `i`-th token of
the line (`tokenTagsTrim`: the fields after the surface, an empty field being an absent tag), absent tags sent as empty strings,
followed by empty strings for the trailing absent tags that the writer drops -/
theorem C20_wasm_tags_eq_predict_tool (m : WModel) (hm : WFModel m) (ht : WFTags m)
    (htag : ∀ tm ∈ m.tagModels, ∀ cands ∈ tm.tags, ∀ t ∈ cands, t ≠ [] ∧ '\x00' ∉ t)
    (p : Predictor) (hp : wasmCreate m = .ok p) (w : WasmWorker) (msg : List Char) (hne : msg ≠ []) (hnul : '\x00' ∉ msg)
    (cl : List Nat) (hpos : ∀ l ∈ cl, 1 ≤ l) (hsum : cl.sum = msg.length) :
    ∃ w' toks n line q,
      wasmReceived p cl w msg = .ok (w', toks, n) ∧
      libLine { noNorm := false, predictTags := true, scores := false, tagScores := false, wsconst := ['G', 'D'] } p
        [PostFilter.graphemes cl, PostFilter.ws 1] msg = .ok (line ++ ['\n']) ∧
      parseTokenized line = .ok q ∧ toks.length = (iterTokens q.bounds).length ∧
      ∀ i, i < toks.length → ∃ k,
        (toks.getD i ([], [])).2 =
          (tokenTagsTrim q.tags (q.tags.length / q.text.length) ((iterTokens q.bounds).getD i (0, 0)).2).map (·.getD [])
            ++ List.replicate k [] := by
  obtain ⟨w', toks, n, line, q, h1, h2, h3, _, h5, h6⟩ :=
    ExCli.wasm_eq_tool wasmCfg m hm ht htag p hp w msg hne hnul cl hpos hsum
  refine ⟨w', toks, n, line, q, h1, by rw [libLine_eq]; exact h2, h3, ?_, h6⟩
  have := congrArg List.length h5
  simpa using this

/-- the device and the tool on the model of `C01.lean`: the same line (the tool adds the newline) -/
example : embeddedDevice C01_exModel "aba 12/3".toList = .ok "a ba\\ 12\\/3".toList ∧
    (bindR (Predictor.new {} C01_exModel false) fun p =>
      libLine ⟨true, false, false, false, ['D']⟩ p [PostFilter.ws 1] "aba 12/3".toList) = .ok "a ba\\ 12\\/3\n".toList ∧
    predictCli {} ⟨true, false, false, false, ['D']⟩ C01_exModel "aba 12/3".toList [] = .ok "a ba\\ 12\\/3\n".toList := by
  repeat rw [String.toList_ofList]
  decide +kernel

/-- a rejected text: the device panics, the tool prints an empty line -/
example : embeddedDevice C01_exModel "a\x00".toList = .panic "Sentence::from_raw(text).unwrap()" ∧
    predictCli {} ⟨true, false, false, false, ['D']⟩ C01_exModel "a\x00".toList [] = .ok "\n".toList := by
  repeat rw [String.toList_ofList]
  decide +kernel

/-- `C16_exTagModel` satisfies `htag` -/
example : ∀ tm ∈ C16_exTagModel.tagModels, ∀ cands ∈ tm.tags, ∀ t ∈ cands, t ≠ [] ∧ '\x00' ∉ t := by decide +kernel

/-- (instance search gives up on the nested answer type without this stepping stone) -/
local instance : DecidableEq (List WasmToken × Nat) := inferInstance

/-- the worker and the tool on `C16_exTagModel`, message "aba": the worker sends "a" with tag "y" and "ba" with an absent tag,
the tool writes `a/y ba`, which parses to the message with the same two tokens -/
example : (match wasmCreate C16_exTagModel with
    | .ok p =>
      decide ((wasmReceived p [1, 1, 1] {} "aba".toList).map (·.2) = .ok ([(['a'], [['y']]), (['b', 'a'], [[]])], 1)) &&
      decide (libLine ⟨false, true, false, false, ['G', 'D']⟩ p [PostFilter.graphemes [1, 1, 1], PostFilter.ws 1]
        "aba".toList = .ok "a/y ba\n".toList)
    | _ => false) = true ∧
    parseTokenized "a/y ba".toList = .ok ⟨"aba".toList, [.W, .N], [some ['y'], none, none]⟩ ∧
    predictCli wasmCfg ⟨false, true, false, false, ['G', 'D']⟩ C16_exTagModel "aba".toList [[1, 1, 1]]
      = .ok "a/y ba\n".toList := by
  repeat rw [String.toList_ofList]
  decide +kernel

/-- the grapheme filter at work: with the clusters "ab" + "a" the boundary inside the first cluster is removed on both sides -/
example : (match wasmCreate C16_exTagModel with
    | .ok p =>
      decide ((wasmReceived p [2, 1] {} "aba".toList).map (·.2) = .ok ([(['a', 'b', 'a'], [[]])], 1)) &&
      decide (libLine ⟨false, true, false, false, ['G', 'D']⟩ p [PostFilter.graphemes [2, 1], PostFilter.ws 1]
        "aba".toList = .ok "aba\n".toList)
    | _ => false) = true := by
  repeat rw [String.toList_ofList]
  decide +kernel

/-- `htag` is needed: a well-formed tag model whose only tag is a NUL character — the worker answers, the tool writes the line,
and the line does not parse -/
def C20_nulTagModel : WModel :=
  { C16_exModel with
    tagModels := [{ token := ['ａ'], tags := [[['\x00']]], charNgrams := [], typeNgrams := [], bias := [] }] }

example : WFModel C20_nulTagModel :=
  { charW_pos := by decide, charW_le := by decide, typeW_pos := by decide, typeW_le := by decide,
    char_nodup := by decide, char_shape := by decide, type_nodup := by decide, type_shape := by decide,
    dict_nodup := by decide, dict_shape := by decide }

example : WFTags C20_nulTagModel :=
  { tokens_nodup := by decide, bias_len := by decide, char_ok := by decide, type_ok := by decide }

example : (match wasmCreate C20_nulTagModel with
    | .ok p =>
      decide ((wasmReceived p [1, 1, 1] {} "aba".toList).map (·.2) = .ok ([(['a'], [['\x00']]), (['b', 'a'], [[]])], 1)) &&
      decide (libLine ⟨false, true, false, false, ['G', 'D']⟩ p [PostFilter.graphemes [1, 1, 1], PostFilter.ws 1]
        "aba".toList = .ok "a/\x00 ba\n".toList)
    | _ => false) = true ∧
    parseTokenized "a/\x00 ba".toList = .err .invalidArgument := by
  repeat rw [String.toList_ofList]
  decide +kernel

end V
