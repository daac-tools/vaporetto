import VProofs.Lemmas.TagAsmCollect
import VProofs.Lemmas.PermTag
/-!
# C12 — Tag models reflect exactly the tags seen in training

Helper lemmas live in `VProofs/Lemmas/TagAsm*.lean` and `VProofs/Lemmas/PermTag.lean`.
-/
namespace V

/-- per tag category the model lists exactly the distinct tags observed for the token, each once -/
theorem C12_candidates (examples : List (List Tag)) :
    (∀ c ∈ collectTags examples, c.Nodup) ∧
    (collectTags examples).length = examples.foldl (fun acc x => max acc x.length) 0 ∧
    ∀ (j : Nat) (t : List Char), t ∈ (collectTags examples).getD j [] ↔ ∃ ts ∈ examples, ts[j]? = some (some t) := by
  open C12L in
  refine ⟨fun c hc => ?_, ?_, fun j t => ?_⟩
  · rw [collectTags_eq, List.mem_map] at hc
    obtain ⟨j, _, rfl⟩ := hc
    exact (cfold_inv j examples [] List.nodup_nil).1
  · rw [collectTags_eq, List.length_map, List.length_range]
  · rw [collectTags_getD]
    split
    · rw [(cfold_inv j examples [] List.nodup_nil).2 t]
      exact ⟨fun h => h.resolve_left (fun h => nomatch h), Or.inr⟩
    · next h =>
      -- no row is long enough to have a slot `j`
      refine ⟨fun h' => (nomatch h'), fun ⟨ts, hts, hj⟩ => absurd ?_ h⟩
      have hlt : j < ts.length := Nat.lt_of_not_le fun h1 => nomatch (List.getElem?_eq_none h1).symm.trans hj
      exact Nat.lt_of_lt_of_le hlt ((le_foldl_max List.length examples 0).2 ts hts)

/-- the assembled tag model of a token: its candidate lists are the observed tags, and the bias and every weight vector
have exactly one entry per trainable candidate (categories with at least two candidates) -/
theorem C12_sizes (token : List Char) (examples : List (List Tag)) (trace : List TagTraceItem) (tm : TagModel)
    (h : assembleTag token examples trace = .ok tm) :
    tm.token = token ∧ tm.tags = collectTags examples ∧ tm.bias.length = nClass tm.tags ∧
    (∀ d ∈ tm.charNgrams, ∀ w ∈ d.weights, w.weights.length = nClass tm.tags) ∧
    (∀ d ∈ tm.typeNgrams, ∀ w ∈ d.weights, w.weights.length = nClass tm.tags) := by
  open C12L in
  obtain ⟨b, c, t, hb, hc, ht, rfl⟩ := assembleTag_ok token examples trace tm h
  rw [charStep_eq] at hc
  rw [typeStep_eq] at ht
  have hnil : ∀ {κ : Type} (n : Nat), VecLen n ([] : List (κ × List Int)) := fun _ _ he => nomatch he
  exact ⟨rfl, rfl, biasFold_len _ _ _ hb,
    groupTagWeights_len _ _ (gfold_inv selC _ (tagUpsert_len ltPairC _) _ c hc (hnil _)),
    groupTagWeights_len _ _ (gfold_inv selT _ (tagUpsert_len ltPairT _) _ t ht (hnil _))⟩

/-- which tokens get a tag model: every surface that occurs with tag slots in the corpus, plus every surface that only
occurs in the tag dictionary with at least one tag; corpus examples win over the dictionary entry; each token once -/
theorem C12_tokens (corpus : List TagExample) (dict : List (List Char × List Tag)) (trace : List TagTraceItem)
    (tms : List TagModel) (h : assembleTags corpus dict trace = .ok tms) :
    (tms.map (·.token)).Nodup ∧
    (∀ tok, tok ∈ tms.map (·.token) ↔
      (∃ e ∈ corpus, e.surface = tok) ∨ (∃ d ∈ dict, d.1 = tok ∧ d.2.any Option.isSome = true)) ∧
    (∀ tm ∈ tms, (∃ e ∈ corpus, e.surface = tm.token) →
      tm.tags = collectTags ((corpus.filter fun e => e.surface = tm.token).map (·.tags))) := by
  open C12L PermL C09L in
  rw [assembleTags_eq] at h
  obtain ⟨hs, hk, hv⟩ := dinv_fold corpus dict
  generalize dict.foldl dstep (corpus.foldl (fun acc e => exInsert e.surface e.tags acc) []) = M at h hs hk hv
  have hnd := keys_nodup_of_sorted _ ltStr_st.irrefl hs
  have htok : tms.map (·.token) = M.map Prod.fst :=
    mapRes_map _ (·.token) (·.1) (fun x y hxy => (C12_sizes _ _ _ _ hxy).1) M tms h
  refine ⟨htok ▸ hnd, fun tok => ?_, fun tm htm hex => ?_⟩
  · rw [htok]
    refine Iff.trans ?_ (hk tok)
    rw [Ne, lookupK_eq_none, List.mem_map]
    exact ⟨fun ⟨e, he, hek⟩ h => h e he hek, fun h => Classical.byContradiction fun hn => h fun e he hek => hn ⟨e, he, hek⟩⟩
  · obtain ⟨p, hp, hpt⟩ := V.mapRes_mem h htm
    have hspec := C12_sizes _ _ _ _ hpt
    rw [hspec.1] at hex ⊢
    have hrows : p.2 = rowsOf corpus p.1 := Option.some.inj ((lookupK_of_mem hnd hp).symm.trans (hv p.1 hex))
    rw [hspec.2.1, hrows]
    rfl

/-- what prediction then does with such a tag model, for ANY class scores: a category seen with a single tag always gets
that tag, a category seen with several gets one of them, a category never seen gets none -/
theorem C12_pick (cats : List (List (List Char))) (scores : List Int) (j : Nat) (cands : List (List Char))
    (hj : cats[j]? = some cands) :
    ∃ r, (specPickTags cats scores)[j]? = some r ∧
      (cands = [] → r = none) ∧
      (∀ t, cands = [t] → r = some t) ∧
      (2 ≤ cands.length → ∃ t ∈ cands, r = some t) := by
  open C12L in
  induction cats generalizing scores j with
  | nil => exact nomatch hj
  | cons c0 rest ih =>
    rw [specPickTags_cons]
    cases j with
    | succ j => exact ih _ j hj
    | zero =>
      cases Option.some.inj hj
      refine ⟨_, rfl, ?_, ?_, ?_⟩
      · intro h
        subst h
        rfl
      · intro t h
        subst h
        rfl
      · intro h2
        rw [if_pos h2]
        -- the scores of the category are cut to its size, and it is not empty
        have hlt : firstMax (scores.take cands.length) < cands.length := by
          by_cases he : scores.take cands.length = []
          · rw [he]
            exact Nat.lt_of_lt_of_le Nat.zero_lt_two h2
          · exact Nat.lt_of_lt_of_le (firstMax_lt _ he) (List.length_take ▸ Nat.min_le_left ..)
        refine ⟨_, ?_, rfl⟩
        rw [List.getD_eq_getElem?_getD, List.getElem?_eq_getElem hlt]
        exact List.getElem_mem hlt

/-! non-vacuity: three tag rows, an absent tag (`none`), a repeated tag, and a second category seen only once -/
example : collectTags [[some ['a'], none], [some ['b'], some ['x']], [some ['a']]] = [[['a'], ['b']], [['x']]] := by
  decide +kernel

example : specPickTags [[['a'], ['b']], [['x']], []] [1, 5] = [some ['b'], some ['x'], none] := by decide +kernel

end V

/-! ## hash-map iteration orders in `tag_trainer.rs` are not observable

`train_tag` walks `feature_ids` — a hashbrown `HashMap` filled by `gen_feature_vecs` — once per classifier (one classifier per
token and tag category, i.e. per `(token, class_offset)`); for every feature it writes one weight per class.  The tokens come
from a `BTreeMap` and the categories and classes from `Vec`s, so the real code can only reorder the FEATURES (the runs of
trace items of one feature) inside one classifier.  The theorems below allow more: ANY permutation of the whole trace, as long
as no two items write the same cell `(token, feature-or-bias, class_offset + cls)` — which holds for every real trace, whose
features are the distinct keys of a map and whose class slots are distinct.  The outcomes are equal as `Res` values (all panics
of one of the three folds carry the same site string, so no "which panic first" effect as in C09). -/
namespace V

/-- **order independence (trace)**, for the model of one token (`train_tag`): any permutation of a trace whose items write
pairwise different cells gives the same tag model (or the same panic) -/
theorem C12_assembleTag_perm (token : List Char) (examples : List (List Tag)) (trace₁ trace₂ : List TagTraceItem)
    (hp : trace₁.Perm trace₂) (hnd : (trace₁.map fun t => (t.token, t.feat, t.offset + t.cls)).Nodup) :
    assembleTag token examples trace₁ = assembleTag token examples trace₂ := by
  open C12L in
  have pm : (trace₁.filter fun t => t.token = token).Perm (trace₂.filter fun t => t.token = token) := hp.filter _
  have hpw : (trace₁.filter fun t => decide (t.token = token)).Pairwise Rcell := by
    rw [List.nodup_iff_pairwise_ne, List.pairwise_map] at hnd
    refine (hnd.sublist List.filter_sublist).imp_of_mem ?_
    intro x y hx hy hne hf heq
    have tx : x.token = token := of_decide_eq_true (List.mem_filter.mp hx).2
    have ty : y.token = token := of_decide_eq_true (List.mem_filter.mp hy).2
    exact hne (by rw [tx, ty, hf, heq])
  rw [assembleTag_eq, assembleTag_eq, biasFold_perm _ pm hpw, charStep_eq, typeStep_eq,
    gfold_perm ltPairC_st _ selC selC_inj pm hpw, gfold_perm ltPairT_st _ selT selT_inj pm hpw]

/-- the same for all tag models -/
theorem C12_assemble_perm (corpus : List TagExample) (dict : List (List Char × List Tag)) (trace₁ trace₂ : List TagTraceItem)
    (hp : trace₁.Perm trace₂) (hnd : (trace₁.map fun t => (t.token, t.feat, t.offset + t.cls)).Nodup) :
    assembleTags corpus dict trace₁ = assembleTags corpus dict trace₂ := by
  rw [C12L.assembleTags_eq, C12L.assembleTags_eq]
  exact congrArg (mapRes · _) (funext fun e => C12_assembleTag_perm e.1 e.2 trace₁ trace₂ hp hnd)

/-- exactly what the real code can do: inside one classifier (between the items `pre` written before and `post` written after)
the per-feature runs `runs₁` come in another order `runs₂` -/
theorem C12_assemble_perm_features (corpus : List TagExample) (dict : List (List Char × List Tag))
    (pre post : List TagTraceItem) (runs₁ runs₂ : List (List TagTraceItem)) (hp : runs₁.Perm runs₂)
    (hnd : ((pre ++ runs₁.flatten ++ post).map fun t => (t.token, t.feat, t.offset + t.cls)).Nodup) :
    assembleTags corpus dict (pre ++ runs₁.flatten ++ post) = assembleTags corpus dict (pre ++ runs₂.flatten ++ post) :=
  C12_assemble_perm corpus dict _ _ (((List.Perm.refl pre).append hp.flatten).append (List.Perm.refl post)) hnd

/-- **order independence (`default_tags`)**: `TagTrainer::train` walks the `HashMap` `default_tags` to add the dictionary-only
tokens; any order of its (distinct) keys gives the same tag models -/
theorem C12_assemble_dict_perm (corpus : List TagExample) (dict₁ dict₂ : List (List Char × List Tag)) (trace : List TagTraceItem)
    (hp : dict₁.Perm dict₂) (hnd : (dict₁.map Prod.fst).Nodup) :
    assembleTags corpus dict₁ trace = assembleTags corpus dict₂ trace := by
  open C12L PermL in
  rw [assembleTags_eq, assembleTags_eq]
  rw [List.nodup_iff_pairwise_ne, List.pairwise_map] at hnd
  rw [foldl_perm_gen dstep Eq (KSorted (lexLt ltChar)) (fun x y => x.1 ≠ y.1) (fun _ => rfl)
    (fun _ _ _ h₁ h₂ => h₁.trans h₂) (fun _ _ _ _ _ h => h ▸ rfl) dstep_sorted (fun _ _ h => h.symm)
    (fun s x y hs hxy => dstep_comm s x y hs hxy) hp hnd _ (cinv_fold corpus).1]

-- (for the `decide`d examples only)
deriving instance DecidableEq for TagTraceItem

namespace C12PermEx

def corpus : List TagExample :=
  [{ surface := ['a'], tags := [some ['x']], feats := [] }, { surface := ['a'], tags := [some ['y']], feats := [] },
   { surface := ['b'], tags := [some ['x']], feats := [] }, { surface := ['b'], tags := [some ['z']], feats := [] }]
def it (tok : List Char) (cls : Nat) (f : Option TagFeat) (w : Int) : TagTraceItem :=
  { token := tok, offset := 0, cls := cls, feat := f, weight := w }
def biasA : List TagTraceItem := [it ['a'] 0 none 3, it ['a'] 1 none (-2)]
def run1 : List TagTraceItem := [it ['a'] 0 (some (.charNgram ['a'] 0)) 5, it ['a'] 1 (some (.charNgram ['a'] 0)) 7]
def run2 : List TagTraceItem := [it ['a'] 0 (some (.charNgram ['b', 'a'] 0)) 0, it ['a'] 1 (some (.charNgram ['b', 'a'] 0)) 1]
def run3 : List TagTraceItem := [it ['a'] 0 (some (.typeNgram [1] 0)) 2, it ['a'] 1 (some (.typeNgram [1] 0)) 4]
def run4 : List TagTraceItem := [it ['a'] 0 (some (.charNgram ['a'] 1)) 9, it ['a'] 1 (some (.charNgram ['a'] 1)) 0]
def tokB : List TagTraceItem := [it ['b'] 0 none 1, it ['b'] 1 none 1, it ['b'] 1 (some (.charNgram ['b'] 0)) 6]

/-- non-vacuity of `C12_assemble_perm_features`: four feature runs of token `a` in two different orders (a rotation composed
with a swap), distinct cells, a value (not a panic) on both sides, with several entries per table -/
example :
    [run1, run2, run3, run4].Perm [run3, run1, run4, run2] ∧
    ((biasA ++ [run1, run2, run3, run4].flatten ++ tokB).map fun t => (t.token, t.feat, t.offset + t.cls)).Nodup ∧
    assembleTags corpus [] (biasA ++ [run1, run2, run3, run4].flatten ++ tokB)
      = assembleTags corpus [] (biasA ++ [run3, run1, run4, run2].flatten ++ tokB) ∧
    assembleTags corpus [] (biasA ++ [run1, run2, run3, run4].flatten ++ tokB) =
      .ok [{ token := ['a'], tags := [[['x'], ['y']]],
             charNgrams := [⟨['a'], [⟨0, [5, 7]⟩, ⟨1, [9, 0]⟩]⟩, ⟨['b', 'a'], [⟨0, [0, 1]⟩]⟩],
             typeNgrams := [⟨[1], [⟨0, [2, 4]⟩]⟩], bias := [3, -2] },
           { token := ['b'], tags := [[['x'], ['z']]], charNgrams := [⟨['b'], [⟨0, [0, 6]⟩]⟩], typeNgrams := [],
             bias := [1, 1] }] := by
  have hp : [run1, run2, run3, run4].Perm [run3, run1, run4, run2] := by decide +kernel
  have hnd : ((biasA ++ [run1, run2, run3, run4].flatten ++ tokB).map
      fun t => (t.token, t.feat, t.offset + t.cls)).Nodup := by decide +kernel
  exact ⟨hp, hnd, C12_assemble_perm_features corpus [] biasA tokB _ _ hp hnd, by decide +kernel⟩

/-- the hypothesis is needed: two items that write the SAME cell do not commute (the later one wins); a real trace has no such
pair -/
example :
    [it ['a'] 0 none 3, it ['a'] 0 none 4].Perm [it ['a'] 0 none 4, it ['a'] 0 none 3] ∧
    assembleTags corpus [] [it ['a'] 0 none 3, it ['a'] 0 none 4] ≠ assembleTags corpus [] [it ['a'] 0 none 4, it ['a'] 0 none 3] := by
  refine ⟨List.Perm.swap _ _ _, by decide +kernel⟩

/-- non-vacuity of `C12_assemble_dict_perm`: four dictionary entries (one without any tag, so skipped; one whose token the corpus
already has) in two orders -/
example :
    let d₁ : List (List Char × List Tag) := [(['q'], [some ['n']]), (['a'], [some ['w']]), (['c'], [none]), (['d'], [some ['v']])]
    let d₂ : List (List Char × List Tag) := [(['d'], [some ['v']]), (['c'], [none]), (['q'], [some ['n']]), (['a'], [some ['w']])]
    d₁.Perm d₂ ∧ (d₁.map Prod.fst).Nodup ∧ assembleTags corpus d₁ biasA = assembleTags corpus d₂ biasA ∧
    (assembleTags corpus d₁ biasA).isOk = true := by
  intro d₁ d₂
  have hp : d₁.Perm d₂ := by decide +kernel
  have hnd : (d₁.map Prod.fst).Nodup := by decide +kernel
  exact ⟨hp, hnd, C12_assemble_dict_perm corpus d₁ d₂ biasA hp hnd, by decide +kernel⟩

end C12PermEx

end V
