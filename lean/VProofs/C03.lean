import VModel.Sentence
import VProofs.Lemmas.TokRound
/-!
# C03 — Tokenized text format round-trips

Helper lemmas live in `VProofs/Lemmas/Tok*.lean` (namespace `V.C03L`), `ParserTotal.lean` and `TagTable.lean`.
-/
namespace V

/-- tags of the token that ends at character `en` (they live on its last character), without trailing absent tags -/
def tokenTagsTrim (tags : List Tag) (nTags en : Nat) : List Tag :=
  trimNone ((tags.drop ((en - 1) * nTags)).take nTags)

/-- `tokenTagsTrim` is the `tagsAt` the lemma files work with -/
theorem tokenTagsTrim_eq : tokenTagsTrim = C03L.tagsAt := rfl

/-- writing any fully segmented sentence and parsing the text again yields the same raw text, the same
boundaries and, for every token, the same tag sequence up to trailing absent tags -/
theorem C03_roundtrip (s : Sentence) (h : WFTok s) :
    ∃ w p, s.writeTokenized = .ok w ∧ parseTokenized w = .ok p ∧
      p.text = s.text ∧ p.bounds = s.bounds ∧
      ∀ se ∈ iterTokens s.bounds,
        tokenTagsTrim p.tags (p.tags.length / p.text.length) se.2 = tokenTagsTrim s.tags s.nTags se.2 :=
  C03L.roundtrip s h

/-- every string the parser accepts yields a sentence in the domain of `C03_roundtrip` -/
theorem C03_parsed_wf (x : List Char) (p : Parsed) (h : parseTokenized x = .ok p) :
    ∃ s, Sentence.ofParsed p = .ok s ∧ WFTok s := by
  exact C03L.parsed_wf x p h

/-- write-after-parse is idempotent on every string the parser accepts -/
theorem C03_idempotent (x : List Char) (s : Sentence) (h : Sentence.fromTokenized x = .ok s) :
    ∃ w s', s.writeTokenized = .ok w ∧ Sentence.fromTokenized w = .ok s' ∧ s'.writeTokenized = .ok w :=
  C03L.idempotent x s h

/-! ## non-vacuity -/

example : Sentence.fromTokenized "a\\ b/x\\/y c".toList =
    .ok { Sentence.default with text := "a bc".toList, types := [2, 6, 2, 2], bounds := [.N, .N, .W],
                                tags := [none, none, some "x/y".toList, none], nTags := 1 } := by
  -- the kernel would decode each literal from UTF-8; as lists of characters they evaluate directly
  repeat rw [String.toList_ofList]
  decide +kernel

end V
