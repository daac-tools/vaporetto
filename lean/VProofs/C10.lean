import VProofs.Lemmas.FeatGen
import VProofs.Lemmas.TrainCli
/-!
# C10 — Training uses exactly the annotated boundaries with the documented features

The lemmas behind them are in `VProofs/Lemmas/Feat*.lean` and, for the `train` tool, `TrainCli.lean`.
-/
namespace V

/-- the examples handed to the learner are exactly one per annotated boundary, in order, labelled by that annotation -/
theorem C10_examples (cfg : TrainCfg) (s : Sentence) :
    (examplesOf cfg s).map Prod.snd = s.bounds.filter (fun b => b ≠ B.U) ∧
    ∀ e ∈ examplesOf cfg s, ∃ i, i < s.bounds.length ∧ s.bounds[i]? = some e.2 ∧ e.2 ≠ B.U ∧ e.1 = genFeatures cfg s.text i :=
  ⟨C10L.examples_snd cfg s.text s.bounds 0, C10L.examples_mem cfg s⟩

/-- a sentence without annotations contributes no example, so adding it does not change the training problem -/
theorem C10_unknown_neutral (cfg : TrainCfg) (s : Sentence) (h : ∀ b ∈ s.bounds, b = B.U)
    (corpus₁ corpus₂ : List Sentence) :
    (corpus₁ ++ s :: corpus₂).flatMap (examplesOf cfg) = (corpus₁ ++ corpus₂).flatMap (examplesOf cfg) := by
  simp only [List.flatMap_append, List.flatMap_cons, C10L.examples_nil cfg s h, List.nil_append]

/-- character n-gram features of boundary `i`: exactly the n-grams `[j, j+ℓ)` with `1 ≤ ℓ ≤ N` that lie inside the window
`[i+1−W, i+1+W)` clipped to the text, each once, with relative position `j − i − 1` -/
theorem C10_char_ngram_spec (cfg : TrainCfg) (text : List Char) (i : Nat) (g : List Char) (rel : Int) :
    (genFeatures cfg text i).count (Feature.charNgram g rel) ≤ 1 ∧
    (Feature.charNgram g rel ∈ genFeatures cfg text i ↔
      ∃ j l, 1 ≤ l ∧ l ≤ cfg.charN ∧ i + 1 ≤ j + cfg.charW ∧ j + l ≤ min text.length (i + 1 + cfg.charW) ∧
          g = (text.drop j).take l ∧ rel = (j : Int) - (i : Int) - 1) := by
  have hc := C10L.count_char_genFeatures cfg text i g rel
  refine ⟨hc ▸ C10L.count_ngramFeats_le_one _ _ _ _ _, ?_⟩
  rw [C10L.mem_iff_of_count_eq hc]
  exact C10L.mem_ngramFeats _ _ _ _ _ _

/-- the same for character-type n-grams with their own window and size -/
theorem C10_type_ngram_spec (cfg : TrainCfg) (text : List Char) (i : Nat) (g : List Nat) (rel : Int) :
    (genFeatures cfg text i).count (Feature.typeNgram g rel) ≤ 1 ∧
    (Feature.typeNgram g rel ∈ genFeatures cfg text i ↔
      ∃ j l, 1 ≤ l ∧ l ≤ cfg.typeN ∧ i + 1 ≤ j + cfg.typeW ∧ j + l ≤ min text.length (i + 1 + cfg.typeW) ∧
          g = ((typesOf text).drop j).take l ∧ rel = (j : Int) - (i : Int) - 1) := by
  have hc := C10L.count_type_genFeatures cfg text i g rel
  refine ⟨hc ▸ C10L.count_ngramFeats_le_one _ _ _ _ _, ?_⟩
  rw [C10L.mem_iff_of_count_eq hc, C10L.mem_ngramFeats, typesOf_length]

/-- dictionary features: one per dictionary-word occurrence `[st, en)` touching the boundary — left if the boundary is just
before the word, inside if it is strictly inside, right if it is just after the word and not the end of the text — by
length bucket `min(en − st, max_len)`; occurrences are counted with multiplicity -/
theorem C10_dict_spec (cfg : TrainCfg) (text : List Char) (i : Nat) (len : Nat) (pos : DPos) :
    (genFeatures cfg text i).count (Feature.dictWord len pos) =
      ((dictMatches cfg.dictWords text).filter fun se =>
        decide (min (se.2 - se.1) cfg.dictMaxLen = len) &&
        (match pos with
         | .left => decide (se.1 ≠ 0 ∧ i = se.1 - 1)
         | .inside => decide (se.1 ≤ i ∧ i + 1 < se.2)
         | .right => decide (se.2 ≠ text.length ∧ i = se.2 - 1))).length := by
  rw [C10L.count_dict_genFeatures, C10L.count_dictFeats]
  rfl

/-- `dictMatches` are exactly the occurrences of dictionary words: `(st, en)` with multiplicity one per word equal to `text[st, en)` -/
theorem C10_dict_matches (words : List (List Char)) (text : List Char) (st en : Nat) :
    (dictMatches words text).count (st, en) =
      if st < en ∧ en ≤ text.length then words.count ((text.drop st).take (en - st)) else
      if st = en ∧ 1 ≤ en ∧ en ≤ text.length then words.count [] else 0 := by
  rw [C10L.count_dictMatches_aux]
  by_cases hA : st < en ∧ en ≤ text.length
  · have hB : 1 ≤ en ∧ en ≤ text.length := by omega
    rw [if_pos hA, if_pos hB, List.count_eq_countP]
    apply List.countP_congr
    intro w _
    have := C10L.suffix_slice_iff text w st en hA.1 hA.2
    simp only [Bool.and_eq_true, decide_eq_true_eq, beq_iff_eq]
    exact this
  · rw [if_neg hA]
    by_cases hC : st = en ∧ 1 ≤ en ∧ en ≤ text.length
    · have hB : 1 ≤ en ∧ en ≤ text.length := by omega
      rw [if_pos hC, if_pos hB, List.count_eq_countP]
      apply List.countP_congr
      intro w _
      simp only [Bool.and_eq_true, decide_eq_true_eq, beq_iff_eq, List.isSuffixOf_iff_suffix]
      constructor
      · rintro ⟨_, hl⟩
        have : w.length = 0 := by omega
        exact List.length_eq_zero_iff.1 this
      · rintro rfl
        exact ⟨List.nil_suffix, by simp; omega⟩
    · rw [if_neg hC]
      split
      · rename_i hB
        rw [List.countP_eq_zero]
        intro w _
        simp only [Bool.and_eq_true, decide_eq_true_eq, not_and]
        intro _
        omega
      · rfl

/-- non-vacuity: with window 2 and n-gram size 2 the bigram `ab` is a feature of boundary 0 of `abc`, exactly once,
and the dictionary word `bc` gives a `left` feature there -/
example :
    let cfg : TrainCfg := { charW := 2, charN := 2, typeW := 1, typeN := 1, dictWords := [['b', 'c']], dictMaxLen := 4 }
    Feature.charNgram ['a', 'b'] (-1) ∈ genFeatures cfg ['a', 'b', 'c'] 0 ∧
    (genFeatures cfg ['a', 'b', 'c'] 0).count (Feature.charNgram ['a', 'b'] (-1)) = 1 ∧
    (genFeatures cfg ['a', 'b', 'c'] 0).count (Feature.dictWord 2 .left) = 1 ∧
    dictMatches cfg.dictWords ['a', 'b', 'c'] = [(1, 3)] := by
  decide +kernel

/-! ## the `train` tool: what reaches the learner is what the input lines say (loading stage, hook H5) -/

/-- one input line of the `train` tool.  With `--no-norm` the sentence handed to the trainer is the parsed line itself; without
it, it is a consistent sentence over the *normalised* text that carries the labels, the tag count and the tags of the parsed
line (so the examples of C10 are those of the normalised sentence with the line's annotation); a line the parser rejects is
an error of the tool; nothing panics (both length-checked slice copies always fit, because normalisation keeps the number of
characters) -/
theorem C10_train_tool_line (k : CorpusKind) (line : List Char) :
    loadLine k true line = parseLine k line ∧
    (∀ e, parseLine k line = .err e → ∀ nn, loadLine k nn line = .err e) ∧
    (∀ r, parseLine k line = .ok r → ∃ s', loadLine k false line = .ok s' ∧ s'.text = Gen.fullwidth r.text ∧
        s'.types = typesOf (Gen.fullwidth r.text) ∧ s'.bounds = r.bounds ∧ s'.nTags = r.nTags ∧ s'.tags = r.tags ∧ Inv s') ∧
    (∀ nn, (loadLine k nn line).Safe) := by
  refine ⟨TrainCliL.loadLine_true k line, fun e he nn => TrainCliL.loadLine_err he nn, fun r hr => ?_,
    fun nn => TrainCliL.loadLine_safe k nn line⟩
  obtain ⟨s', h1, h2, h3, h4, h5, h6, _, h8⟩ := TrainCliL.loadLine_false_ok hr
  exact ⟨s', h1, h2, h3, h4, h5, h6, h8⟩

/-- the sentences given to `add_example` are the lines of the `--tok` files followed by the lines of the `--part` files, one
sentence per line, in order -/
theorem C10_train_tool_corpus (nn : Bool) (tok part dict : List (List Char)) (inp : TrainInputs)
    (h : trainCliInputs nn tok part dict = .ok inp) :
    ∃ ts ps, mapRes (loadLine .tok nn) (tok.flatMap splitLines) = .ok ts ∧
      mapRes (loadLine .part nn) (part.flatMap splitLines) = .ok ps ∧ inp.corpus = ts ++ ps ∧
      inp.corpus.length = (tok.flatMap splitLines).length + (part.flatMap splitLines).length := by
  obtain ⟨ts, ps, ds, hts, hps, _, rfl⟩ := TrainCliL.trainCliInputs_ok h
  refine ⟨ts, ps, hts, hps, rfl, ?_⟩
  rw [← mapRes_length hts, ← mapRes_length hps]
  exact List.length_append

/-- non-vacuity: the tok line `ab c/X` reaches the trainer as the full-width text `ａｂｃ` with the line's labels and tag; a
tok file and a part file give two examples in that order; a line with two consecutive spaces ends the tool with an error -/
example :
    (loadLine .tok false ['a', 'b', ' ', 'c', '/', 'X']).map (fun s => (s.text, s.bounds, s.tags, s.nTags)) =
      .ok (['ａ', 'ｂ', 'ｃ'], [B.N, B.W], [none, none, some ['X']], 1) ∧
    (trainCliInputs false [['a', 'b', ' ', 'c', '/', 'X', '\n']] [['a', '|', 'b', '-', 'c', '\n']] []).map
        (fun i => i.corpus.map (fun s => (s.text, s.bounds))) =
      .ok [(['ａ', 'ｂ', 'ｃ'], [B.N, B.W]), (['ａ', 'ｂ', 'ｃ'], [B.W, B.N])] ∧
    (trainCliInputs false [['a', 'b', ' ', ' ', 'c', '\n']] [] []).map (fun i => i.corpus) = .err .invalidArgument := by
  decide +kernel

end V
