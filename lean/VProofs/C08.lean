import VModel.History
import VProofs.Lemmas.Inv
/-!
# C08 — Reusing a sentence or sharing a predictor never changes results
-/
namespace V

/-- whatever a sentence object went through before — any state `s`, reachable or not — `update_raw(x)` makes it exactly the
sentence `from_raw(x)` constructs, so everything that follows (predict with any predictor, fill_tags, every observation)
is identical to the run on a freshly created sentence -/
theorem C08_reuse (env : List Predictor) (s : Sentence) (x : List Char) (k : Nat) (fill : Bool)
    (hx : ∃ s0, Sentence.fromRaw x = .ok s0) : probe env s x k fill = probeFresh env x k fill := by
  obtain ⟨s0, h0⟩ := hx
  have hu := updateRaw_eq s x
  rw [fromRaw_eq] at h0
  split at h0
  · next h =>
    rw [if_pos h] at hu
    unfold probe probeFresh
    rw [fromRaw_eq, if_pos h]
    simp only [List.cons_append, List.nil_append, runHistory, HOp.apply, hu]
  · cases h0

/-- in particular after any history of calls on one sentence object -/
theorem C08_reuse_history (env : List Predictor) (ops : List HOp) (s : Sentence)
    (_hr : runHistory env Sentence.default ops = .ok s) (x : List Char) (k : Nat) (fill : Bool)
    (hx : ∃ s0, Sentence.fromRaw x = .ok s0) : probe env s x k fill = probeFresh env x k fill :=
  C08_reuse env s x k fill hx

/-! ## one predictor shared by many threads

A predictor is an immutable value and every call is a function of the predictor and the caller's own sentence.  A system
state is one sentence per thread; a schedule is any interleaving of calls, each executed by one thread on its own
sentence.  (Interleavings below call granularity are not modelled; they are irrelevant exactly when `predict` writes no
shared state, which is what `Predictor: Sync` without interior mutability guarantees — checked by rustc and a source scan.) -/

/-- a call that does not return leaves the caller's sentence as it was -/
def stepLocal (env : List Predictor) (s : Sentence) (op : HOp) : Sentence :=
  match op.apply env s with
  | .ok (s', _) => s'
  | _ => s

def stepSys (env : List Predictor) (st : List Sentence) (c : Nat × HOp) : List Sentence :=
  match st[c.1]? with
  | some s => st.set c.1 (stepLocal env s c.2)
  | none => st

def runSys (env : List Predictor) (st : List Sentence) (sched : List (Nat × HOp)) : List Sentence :=
  sched.foldl (stepSys env) st

/-- the calls of thread `i`, in their own order -/
def projOps (sched : List (Nat × HOp)) (i : Nat) : List HOp := (sched.filter (fun c => c.1 = i)).map Prod.snd

/-- every interleaving gives every thread exactly the result of running its own calls sequentially -/
theorem C08_interleaving (env : List Predictor) (sched : List (Nat × HOp)) (st : List Sentence) (i : Nat) (s : Sentence)
    (h : st[i]? = some s) :
    (runSys env st sched)[i]? = some ((projOps sched i).foldl (stepLocal env) s) := by
  induction sched generalizing st s with
  | nil => simpa [runSys, projOps] using h
  | cons c cs ih =>
    obtain ⟨j, op⟩ := c
    simp only [runSys, List.foldl_cons]
    by_cases hj : j = i
    · subst hj
      have hst : stepSys env st (j, op) = st.set j (stepLocal env s op) := by
        simp [stepSys, h]
      have hget : (stepSys env st (j, op))[j]? = some (stepLocal env s op) := by
        rw [hst]
        have hlt : j < st.length := by
          rcases List.getElem?_eq_some_iff.mp h with ⟨hl, _⟩; exact hl
        simp [hlt]
      have := ih (stepSys env st (j, op)) (stepLocal env s op) hget
      simpa [runSys, projOps] using this
    · have hget : (stepSys env st (j, op))[i]? = some s := by
        unfold stepSys
        cases hjs : st[j]? with
        | none => simpa using h
        | some sj =>
          simp only []
          rw [List.getElem?_set_ne hj]
          exact h
      have := ih (stepSys env st (j, op)) s hget
      have hp : projOps ((j, op) :: cs) i = projOps cs i := by
        simp [projOps, hj]
      rw [hp]
      simpa [runSys] using this

end V
