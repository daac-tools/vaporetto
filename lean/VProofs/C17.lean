import VProofs.Lemmas.KyConvert
import VProofs.Lemmas.KyRead
/-!
# C17 — KyTea model conversion preserves the word-segmentation model

Model: `VModel/Kytea.lean` (`readKytea` = `KyteaModel::read`, `dumpItems` = `Dictionary::dump_items`,
`convert` = `impl TryFrom<KyteaModel> for Model`, `convertBytes` = read, then convert; `AbsKytea`, `encodeKytea`,
`expectedModel` = the harness's abstract description, its independent encoder and the model the file is meant to encode;
`WFKytea` = the descriptions that stand for a KyTea model; `reprKytea` = the record structure of the file).
Helper lemmas live in `VProofs/Lemmas/Ky*.lean` (namespace `V.C17L`).

* `C17_dump`, `C17_dump_sorted`, `C17_fuel_enough`, `C17_trie_items` — the trie walk;
* `C17_read_encode` — the reader inverts the encoder;
* `C17_convert_any` — any record structure: a successful conversion contains exactly the encoded items;
* `C17_convert_partial` (on the record structure) and `C17_convert` (on the bytes) — the converted model IS
  `expectedModel k` (same entries, same order, same weights), hence every text is segmented as those weights dictate;
  `C17_char_ngrams`, `C17_type_ngrams`, `C17_dict_words` spell out what `expectedModel` contains;
* `C17_truncated` — every proper prefix of the file is rejected with an error.
-/
namespace V
open V.Ky V.C17L
open V.Bin (Bytes)

/-! ## the trie walk -/

/-- **soundness and completeness of `dump_items`**, for an arbitrary state table (cyclic, shared, out of range …):
whenever the walk returns, it lists exactly the `(word, entry)` pairs the table encodes below state 0 -/
theorem C17_dump {τ : Type} (states : List KState) (entries : List τ) (fuel : Nat) (res : List (List Char × τ))
    (h : dumpItems states entries fuel [(0, [])] [] = .ok res) :
    ∀ x, x ∈ res ↔ Enc states entries 0 [] x :=
  dump_correct states entries fuel res h

/-- when every state lists its gotos in strictly ascending character order (what `gotos.sort_unstable()` establishes
when no character repeats), the walk emits the words in strictly ascending code-point order -/
theorem C17_dump_sorted {τ : Type} (states : List KState) (entries : List τ)
    (hasc : ∀ (i : Nat) (st : KState), states[i]? = some st →
      st.gotos.Pairwise fun a b => a.1.toNat < b.1.toNat)
    (fuel : Nat) (res : List (List Char × τ)) (h : dumpItems states entries fuel [(0, [])] [] = .ok res) :
    res.Pairwise fun a b => lexLt a.1 b.1 = true :=
  dump_sorted states entries hasc fuel res h

/-- on the tries the encoder builds, the walk returns within `n_states` pops (it neither panics nor runs out of fuel) -/
theorem C17_fuel_enough {τ : Type} (keys : List (List Char)) (entries : List τ) (hlen : entries.length = keys.length)
    (fuel : Nat) (hf : (trieStates keys).length ≤ fuel) :
    ∃ res, dumpItems (trieStates keys) entries fuel [(0, [])] [] = .ok res :=
  dump_terminates (trieStates_tree keys entries hlen) fuel hf

/-- … and, for distinct keys, returns exactly the encoded `(key, entry)` pairs, in ascending key order -/
theorem C17_trie_items {α τ : Type} (l : List α) (key : α → List Char) (entry : α → τ) (hnd : (l.map key).Nodup)
    (fuel : Nat) (hf : (trieStates (l.map key)).length ≤ fuel) :
    dumpItems (trieStates (l.map key)) (l.map entry) fuel [(0, [])] []
      = .ok (sortByKey (l.map fun y => (key y, entry y))) := by
  have T := trieStates_tree (l.map key) (l.map entry) (by simp)
  obtain ⟨res, hres⟩ := dump_terminates T fuel hf
  rw [hres]
  congr 1
  apply eq_sortByKey
  · simpa [List.map_map, Function.comp_def] using hnd
  · exact dump_sorted _ _ (trieStates_asc _) fuel res hres
  · intro x; rw [dump_correct _ _ fuel res hres x, enc_trie_items l key entry hnd]

/-! ## reading what the encoder wrote -/

/-- the reader inverts the encoder and leaves the rest of the input untouched -/
theorem C17_read_encode (k : AbsKytea) (wf : WFKytea k) (rest : Bytes) :
    readKytea (encodeKytea k ++ rest) = .ok (reprKytea k, rest) :=
  (strict_kytea k wf).1 rest

/-! ## the conversion -/

/-- the conversion of the record structure of a well-formed description returns the model the description stands for -/
theorem C17_convert_partial (k : AbsKytea) (wf : WFKytea k) (fuel : Nat) (hf : trieFuel k ≤ fuel) :
    ∃ m, convert fuel (reprKytea k) = .ok m ∧ expectedModel k = some m := by
  obtain ⟨hfc, hft⟩ := Nat.max_le.1 hf
  obtain ⟨hft, hfw⟩ := Nat.max_le.1 hft
  have hcd : KDict.dump (⟨0, trieStates (k.charNgrams.map (·.1)), k.charNgrams.map (·.2)⟩ : KDict (List Int)) fuel
      = .ok (sortByKey k.charNgrams) := by
    have := C17_trie_items k.charNgrams (·.1) (·.2) wf.charKeys fuel hfc
    rwa [List.map_id'' (fun _ => rfl)] at this
  obtain ⟨cn, hcn1, hcn2⟩ := mapRes_mapOpt (f := charNgramOf k.charW) (g := expCharNgram k)
    (l := sortByKey k.charNgrams) (fun x hx => charNgram_item (wf.charNgrams x (mem_sortByKey.1 hx)))
  have htd : KDict.dump (⟨0, trieStates (k.typeNgrams.map (·.1)), k.typeNgrams.map (·.2)⟩ : KDict (List Int)) fuel
      = .ok (sortByKey k.typeNgrams) := by
    have := C17_trie_items k.typeNgrams (·.1) (·.2) wf.typeKeys fuel hft
    rwa [List.map_id'' (fun _ => rfl)] at this
  obtain ⟨tn, htn1, htn2⟩ := filterMapRes_filterMapOpt (f := typeNgramOf k.typeW) (g := expTypeNgram k)
    (l := sortByKey k.typeNgrams)
    (fun x hx => typeNgram_item (wf.typeNgrams x (mem_sortByKey.1 hx)).1 (wf.typeNgrams x (mem_sortByKey.1 hx)).2)
  obtain ⟨dw, hdw1, hdw2⟩ := mapRes_mapOpt
    (f := fun e => dictWordOf k.dictN k.nDicts k.dictVec (e.1, reprTagEntry k e)) (g := expWord k)
    (l := sortByKey k.words) (fun x hx => dictWord_item wf (mem_sortByKey.1 hx))
  have hdict : convertDict fuel k.dictN k.dictVec (reprKytea k).dict = .ok dw := by
    simp only [reprKytea]
    by_cases hw : k.words = []
    · rw [hw] at hdw1 ⊢
      exact hdw1
    · rw [reprDict_ne_nil _ (mt List.map_eq_nil_iff.1 hw)]
      have hwd := C17_trie_items k.words (·.1) (reprTagEntry k) wf.wordKeys fuel hfw
      simp only [convertDict, KDict.dump, hwd, Res.bind_ok]
      rw [sortByKey_map (reprTagEntry k), mapRes_map]
      exact hdw1
  refine ⟨{ charNgrams := cn, typeNgrams := tn, dict := dw, bias := k.bias, charW := k.charW, typeW := k.typeW,
            tagModels := [] }, ?_, ?_⟩
  · exact convert_of_parts fuel (reprKytea k) (ws := reprWordseg k) (fl := reprLookup k) (bias := k.bias)
      rfl rfl rfl (reprDict_ne_nil 0 (mt List.map_eq_nil_iff.1 wf.charSome) _)
      (reprDict_ne_nil 0 (mt List.map_eq_nil_iff.1 wf.typeSome) _) hcd hcn1 htd htn1 hdict
  · simp only [expectedModel, hcn2, htn2, hdw2, Option.bind_some]

/-- **conversion of a KyTea model file**: reading and converting the file of a well-formed description (with any
trailing bytes, and any fuel of at least the length of the file) returns exactly the model the description stands for:
the same n-grams, dictionary words, weights, bias and window sizes, in the same order -/
theorem C17_convert (k : AbsKytea) (wf : WFKytea k) (rest : Bytes) (fuel : Nat) (hf : (encodeKytea k).length ≤ fuel) :
    ∃ m, convertBytes fuel (encodeKytea k ++ rest) = .ok m ∧ expectedModel k = some m := by
  obtain ⟨m, h1, h2⟩ := C17_convert_partial k wf fuel (Nat.le_trans (trieFuel_le k) hf)
  refine ⟨m, ?_, h2⟩
  simp only [convertBytes, C17_read_encode k wf rest, h1]

/-- … so that every predictor built from the converted model is the predictor built from the encoded weights -/
theorem C17_same_predictor (k : AbsKytea) (wf : WFKytea k) (rest : Bytes) (fuel : Nat)
    (hf : (encodeKytea k).length ≤ fuel) (cfg : Cfg) (predictTags : Bool) :
    ∃ m, expectedModel k = some m ∧
      (convertBytes fuel (encodeKytea k ++ rest)).bind (fun m' => Predictor.new cfg m' predictTags)
        = Predictor.new cfg m predictTags := by
  obtain ⟨m, h1, h2⟩ := C17_convert k wf rest fuel hf
  exact ⟨m, h2, by rw [h1]; rfl⟩

/-- **any file**: whenever the conversion of a record structure succeeds (whatever file it was read from: state tables
with sharing, entries longer than needed, several dictionaries …), the converted model has the window sizes and the
first bias of the file and contains exactly the items its three state tables encode (`Enc`), each cut to the window
(`charNgramOf`), mapped to type codes unless it contains U+0004 (`typeNgramOf`), or with the summed dictionary weights
(`dictWordOf`) -/
theorem C17_convert_any (fuel : Nat) (km : KyteaModel) (m : WModel) (h : convert fuel km = .ok m) :
    ∃ ws fl cd td, km.wordseg = some ws ∧ ws.featureLookup = some fl ∧ fl.charDict = some cd ∧ fl.typeDict = some td ∧
      fl.biases.head? = some m.bias ∧ m.charW = km.config.charW ∧ m.typeW = km.config.typeW ∧ m.tagModels = [] ∧
      (∀ y, y ∈ m.charNgrams ↔ ∃ x, Enc cd.states cd.entries 0 [] x ∧ charNgramOf km.config.charW x = .ok y) ∧
      (∀ y, y ∈ m.typeNgrams ↔ ∃ x, Enc td.states td.entries 0 [] x ∧ typeNgramOf km.config.typeW x = .ok (some y)) ∧
      (∀ y, y ∈ m.dict ↔ ∃ kd x, km.dict = some kd ∧ Enc kd.states kd.entries 0 [] x ∧
        dictWordOf km.config.dictN kd.nDicts fl.dictVec x = .ok y) := by
  simp only [convert] at h
  obtain ⟨ws, hws, h⟩ := Res.bind_eq_ok h
  obtain ⟨fl, hfl, h⟩ := Res.bind_eq_ok h
  obtain ⟨bias, hbias, h⟩ := Res.bind_eq_ok h
  obtain ⟨cd, hcd, h⟩ := Res.bind_eq_ok h
  obtain ⟨td, htd, h⟩ := Res.bind_eq_ok h
  obtain ⟨citems, hci, h⟩ := Res.bind_eq_ok h
  obtain ⟨cn, hcn, h⟩ := Res.bind_eq_ok h
  obtain ⟨titems, hti, h⟩ := Res.bind_eq_ok h
  obtain ⟨tn, htn, h⟩ := Res.bind_eq_ok h
  obtain ⟨dw, hdw, h⟩ := Res.bind_eq_ok h
  cases h
  refine ⟨ws, fl, cd, td, getOr_eq_ok hws nofun, getOr_eq_ok hfl nofun, getOr_eq_ok hcd nofun,
    getOr_eq_ok htd nofun, getOr_eq_ok hbias nofun, rfl, rfl, rfl, ?_, ?_, ?_⟩
  · intro y
    rw [mem_mapRes hcn y]
    exact exists_congr fun x => and_congr_left' (dump_correct _ _ fuel citems hci x)
  · intro y
    rw [mem_filterMapRes htn y]
    exact exists_congr fun x => and_congr_left' (dump_correct _ _ fuel titems hti x)
  · intro y
    cases hd : km.dict with
    | none =>
      rw [hd] at hdw
      cases hdw
      simp
    | some kd =>
      rw [hd] at hdw
      obtain ⟨items, hit, hdw⟩ := Res.bind_eq_ok hdw
      rw [mem_mapRes hdw y]
      constructor
      · rintro ⟨x, hx, hy⟩; exact ⟨kd, x, rfl, (dump_correct _ _ fuel items hit x).1 hx, hy⟩
      · rintro ⟨kd', x, hk, hx, hy⟩
        cases hk
        exact ⟨x, (dump_correct _ _ fuel items hit x).2 hx, hy⟩

/-! ### what `expectedModel` contains -/

/-- window sizes, bias, no tag models -/
theorem C17_header (k : AbsKytea) (m : WModel) (h : expectedModel k = some m) :
    m.charW = k.charW ∧ m.typeW = k.typeW ∧ m.bias = k.bias ∧ m.tagModels = [] :=
  (expectedModel_parts h).2.2.2

/-- exactly the character n-grams of the file, each with the first `2w − ℓ + 1` weights the file stores -/
theorem C17_char_ngrams (k : AbsKytea) (m : WModel) (h : expectedModel k = some m) (y : NgramData Char) :
    y ∈ m.charNgrams ↔ ∃ e ∈ k.charNgrams, y = ⟨e.1, e.2.take (2 * k.charW + 1 - e.1.length)⟩ := by
  rw [mem_mapOpt (fun _ _ => expCharNgram_some) (expectedModel_parts h).1 y]
  simp only [mem_sortByKey]

/-- exactly the type n-grams of the file that do not contain U+0004, letters mapped to type codes -/
theorem C17_type_ngrams (k : AbsKytea) (m : WModel) (h : expectedModel k = some m) (y : NgramData Nat) :
    y ∈ m.typeNgrams ↔ ∃ e ∈ k.typeNgrams, Char.ofNat 4 ∉ e.1 ∧
      y = ⟨e.1.map letterCode, e.2.take (2 * k.typeW + 1 - e.1.length)⟩ := by
  rw [mem_filterMapOpt (fun _ _ => expTypeNgram_some) (expectedModel_parts h).2.1 y]
  simp only [mem_sortByKey]
  refine exists_congr fun e => and_congr_right fun _ => ?_
  by_cases h4 : Char.ofNat 4 ∈ e.1
  · simp only [h4, if_true, not_true, false_and, reduceCtorEq]
  · simp only [h4, if_false, not_false_eq_true, true_and, Option.some.injEq, eq_comm]

/-- exactly the dictionary words of the file; the weights are `left, inside × (ℓ − 1), right`, each the sum, over the
dictionaries `j < n_dicts` the word belongs to, of the entry of `dict_vec` for dictionary `j` and length bucket
`min(ℓ, dict_n) − 1` -/
theorem C17_dict_words (k : AbsKytea) (m : WModel) (h : expectedModel k = some m) (y : DictWord) :
    y ∈ m.dict ↔ ∃ e ∈ k.words,
      y = ⟨e.1, wordWeights e.1.length (dictTotals k e.2 (min e.1.length k.dictN - 1)), []⟩ := by
  rw [mem_mapOpt (fun _ _ => expWord_some) (expectedModel_parts h).2.2.1 y]
  simp only [mem_sortByKey]

/-! ## truncated files -/

/-- every proper prefix of the file of a well-formed description is rejected by the reader with an error
(never a panic, never a value) -/
theorem C17_truncated (k : AbsKytea) (wf : WFKytea k) (p : Bytes) (hp : p <+: encodeKytea k)
    (hne : p ≠ encodeKytea k) : ∃ e, readKytea p = .err e :=
  (strict_kytea k wf).2 p hp hne

/-- … and so is its conversion -/
theorem C17_truncated_convert (k : AbsKytea) (wf : WFKytea k) (n : Nat) (hn : n < (encodeKytea k).length)
    (fuel : Nat) : ∃ e, convertBytes fuel ((encodeKytea k).take n) = .err e := by
  obtain ⟨e, he⟩ := C17_truncated k wf ((encodeKytea k).take n) (List.take_prefix _ _) (by
    intro h
    have := congrArg List.length h
    simp only [List.length_take] at this
    omega)
  exact ⟨e, by simp only [convertBytes, he]⟩

/-! ## non-vacuity -/

/-- a small description: window 1, two dictionaries, a type n-gram with the stray U+0004 -/
def C17_example : AbsKytea :=
  { charW := 1, charN := 3, typeW := 1, typeN := 3, dictN := 2, nTags := 1, nDicts := 2,
    charMap := ['a', 'b', 'H', 'K', Char.ofNat 4], bias := -7,
    charNgrams := [(['b'], [1, -2]), (['a', 'b'], [3]), (['a'], [4, 5])],
    typeNgrams := [(['K', 'H'], [6]), (['H'], [7, 8]), ([Char.ofNat 4], [9, 9])],
    dictVec := [1, 2, 3, 4, 5, 6, 10, 20, 30, 40, 50, 60],
    words := [(['b', 'a'], 3), (['a'], 2)] }

/-- the model it stands for -/
def C17_example_model : WModel :=
  { charNgrams := [⟨['a'], [4, 5]⟩, ⟨['a', 'b'], [3]⟩, ⟨['b'], [1, -2]⟩]
    typeNgrams := [⟨[3], [7, 8]⟩, ⟨[5, 3], [6]⟩]
    dict := [⟨['a'], [10, 30], []⟩, ⟨['b', 'a'], [44, 55, 66], []⟩]
    bias := -7, charW := 1, typeW := 1, tagModels := [] }

theorem C17L.example_length : (encodeKytea C17_example).length = 510 := by decide +kernel

/-- the hypotheses of the theorems above are satisfiable -/
theorem C17_example_wf : WFKytea C17_example := by
  constructor
  · decide +kernel
  · decide +kernel
  · decide +kernel
  · decide +kernel
  · decide +kernel
  · decide +kernel
  · decide +kernel
  · decide +kernel
  · decide +kernel
  · decide +kernel
  · intro e he
    simp only [C17_example, List.mem_cons, List.not_mem_nil, or_false] at he
    rcases he with rfl | rfl | rfl <;> constructor <;> decide +kernel
  · decide +kernel
  · decide +kernel
  · intro e he
    simp only [C17_example, List.mem_cons, List.not_mem_nil, or_false] at he
    rcases he with rfl | rfl | rfl <;> refine ⟨?_, ?_⟩ <;> first | decide +kernel | (constructor <;> decide +kernel)
  · decide +kernel
  · decide +kernel
  · decide +kernel
  · decide +kernel
  · decide +kernel
  · decide +kernel
  · rw [C17L.example_length]
    decide

theorem C17L.example_expected : expectedModel C17_example = some C17_example_model := by decide +kernel

/-- the whole pipeline on its 510-byte file: an instance of `C17_convert` -/
example : convertBytes 510 (encodeKytea C17_example) = .ok C17_example_model := by
  obtain ⟨m, h1, h2⟩ := C17_convert C17_example C17_example_wf [] 510 (Nat.le_of_eq C17L.example_length)
  rw [List.append_nil] at h1
  rw [h1, Option.some.inj (h2.symm.trans C17L.example_expected)]
example : expectedModel C17_example = some C17_example_model := C17L.example_expected
/-- … and on a truncation of it -/
example : convertBytes 510 ((encodeKytea C17_example).take 100) = .err .io := by decide +kernel
/-- truncation inside a multi-byte character of the character map is a UTF-8 error -/
example : (readKytea ([0x0a, 1, 0, 0, 0, 0, 0, 1, 3, 1, 3, 1, 1, 0, 0, 0, 0, 0, 0, 0, 0, 1, 0xe3, 0x81])).map (·.1.config.nTags)
    = .err .utf8 := by decide +kernel
/-- a cyclic table exhausts any fuel (the Rust loop does not terminate), a character index 0 panics -/
example : dumpItems [⟨0, [('a', 0)], [], false⟩] ([] : List Nat) 5 [(0, [])] [] = .err .fuel := by decide +kernel
example : (readChar ['a'] [0, 0]).map (·.1) = .panic "cidx - 1" := by decide +kernel
/-- a file without feature lookup is an invalid model; an n-gram longer than the window panics -/
example : convert 10 { reprKytea C17_example with wordseg := none } = .err .invalidModel := by decide +kernel
example : charNgramOf 1 (['a', 'b', 'c'], [1, 2, 3]) = .panic "w * 2 - len" := by decide +kernel

end V
