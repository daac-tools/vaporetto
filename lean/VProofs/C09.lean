import VProofs.Lemmas.AsmMain
/-!
# C09 — A trained model computes exactly the function the learner produced

The lemmas behind them are in `VProofs/Lemmas/Asm*.lean` and, for the order of the trace, `PermAsm.lean`.
The learner is the universally quantified `trace : List (Feature × Int)` (one quantised weight per feature) and `bias`.
-/
namespace V

/-- the quantised weight the learner assigned to a feature (0 for a feature it never saw) -/
def wqOf (trace : List (Feature × Int)) (f : Feature) : Int :=
  match trace.find? (fun e => e.1 = f) with
  | some e => e.2
  | none => 0

/-- a feature that the trainer can extract under this configuration (from some text at some boundary) -/
def Generable (cfg : TrainCfg) (f : Feature) : Prop := ∃ text i, i + 1 < text.length ∧ f ∈ genFeatures cfg text i

/-- configurations `Trainer::new` accepts, with a length bucket of at least 1 -/
structure CfgOK (cfg : TrainCfg) : Prop where
  words_ne : ∀ w ∈ cfg.dictWords, w ≠ []
  words_nodup : cfg.dictWords.Nodup
  maxlen_pos : 1 ≤ cfg.dictMaxLen

/-- assembling the model never panics on features the trainer itself produced under the same configuration, whatever
weights the learner assigned and whatever the two window sizes are -/
theorem C09_assemble_total (cfg : TrainCfg) (hc : CfgOK cfg) (trace : List (Feature × Int)) (bias : Int)
    (tms : List TagModel) (hg : ∀ e ∈ trace, Generable cfg e.1) :
    ∃ m, assembleBoundary cfg trace bias tms = .ok m :=
  C09L.assemble_total cfg hc.words_ne hc.maxlen_pos trace bias tms hg

/-- every stored n-gram weight vector covers exactly the positions of its OWN window: `2·window − ℓ + 1` entries -/
theorem C09_vector_shape (cfg : TrainCfg) (trace : List (Feature × Int)) (bias : Int) (tms : List TagModel) (m : WModel)
    (h : assembleBoundary cfg trace bias tms = .ok m) :
    (∀ d ∈ m.charNgrams, d.weights.length = 2 * cfg.charW - d.ngram.length + 1 ∧ d.ngram.length ≤ 2 * cfg.charW) ∧
    (∀ d ∈ m.typeNgrams, d.weights.length = 2 * cfg.typeW - d.ngram.length + 1 ∧ d.ngram.length ≤ 2 * cfg.typeW) ∧
    (∀ d ∈ m.dict, d.weights.length = d.word.length + 1) ∧
    m.charW = cfg.charW ∧ m.typeW = cfg.typeW ∧ m.bias = bias ∧ m.dict.map (·.word) = cfg.dictWords := by
  obtain ⟨a, dict, ha, hd, rfl⟩ := C09L.assemble_ok cfg trace bias tms m h
  have hwf := C09L.asmFold_induction cfg (C09L.AsmWF cfg) trace _ a
    (fun fw _ a a' hw hs => C09L.asmStep_wf cfg a a' hw fw hs) (C09L.asmWF_init cfg) ha
  refine ⟨?_, ?_, ?_, rfl, rfl, rfl, ?_⟩
  · intro d hd'
    obtain ⟨e, he, rfl⟩ := List.mem_map.mp hd'
    exact hwf.chars.shape e he
  · intro d hd'
    obtain ⟨e, he, rfl⟩ := List.mem_map.mp hd'
    exact hwf.types.shape e he
  · intro d hd'
    obtain ⟨w, _, hw⟩ := mapRes_mem hd hd'
    obtain ⟨h1, h2⟩ := C09L.dictRecord_shape _ _ _ hw
    rw [h1]
    exact h2
  · exact C09L.mapRes_map_inv _ (·.word) (fun x y hxy => (C09L.dictRecord_shape _ _ _ hxy).1) _ _ hd

/-- **main theorem**: the model returned by training scores every boundary of every text as the learned quantised bias
plus the learned quantised weight of each feature the trainer extracts for that boundary (with multiplicity) -/
theorem C09_scores (cfg : TrainCfg) (hc : CfgOK cfg) (trace : List (Feature × Int)) (bias : Int) (tms : List TagModel)
    (hnd : (trace.map Prod.fst).Nodup) (hg : ∀ e ∈ trace, Generable cfg e.1) (m : WModel)
    (h : assembleBoundary cfg trace bias tms = .ok m) (text : List Char) (b : Nat) (hb : b + 1 < text.length) :
    specScore m text b = bias + ((genFeatures cfg text b).map (wqOf trace)).sum := by
  rw [C09L.scores_main cfg hc.words_ne hc.maxlen_pos trace bias tms hg m h text b hb,
    show trace.foldl C09L.stepF (fun _ => 0) = wqOf trace from funext fun f => C09L.foldl_stepF_zero f trace hnd]

/-! ## non-vacuity: a configuration with different character and type windows -/
namespace C09Ex

def cfg : TrainCfg :=
  { charW := 2, charN := 2, typeW := 1, typeN := 1, dictWords := [['a', 'b'], ['b']], dictMaxLen := 1 }
def text : List Char := ['c', 'a', 'b', 'd']
def trace : List (Feature × Int) :=
  [(.charNgram ['a', 'b'] (-1), 5), (.charNgram ['b'] 0, -3), (.charNgram ['d'] 1, 7), (.charNgram ['c'] (-2), 0),
   (.typeNgram [2] (-1), 11), (.typeNgram [2] 0, 0),
   (.dictWord 1 .inside, 13), (.dictWord 1 .right, 17), (.dictWord 1 .left, 19)]
/-- character vectors have `2·2 − ℓ + 1` entries, the type vector `2·1 − 1 + 1` -/
def model : WModel :=
  { charNgrams := [⟨['a', 'b'], [0, 5, 0]⟩, ⟨['b'], [0, -3, 0, 0]⟩, ⟨['d'], [7, 0, 0, 0]⟩],
    typeNgrams := [⟨[2], [0, 11]⟩],
    dict := [⟨['a', 'b'], [19, 13, 17], []⟩, ⟨['b'], [19, 17], []⟩],
    bias := 100, charW := 2, typeW := 1, tagModels := [] }

/-- the hypotheses of `C09_scores` are satisfiable, the assembled model is the expected one, and boundary 1 of `cabd`
scores `100 + 5 − 3 + 7 + 0 + 11 + 0 + 13 + 19 = 152` on both sides -/
example :
    CfgOK cfg ∧ (trace.map Prod.fst).Nodup ∧ (∀ e ∈ trace, Generable cfg e.1) ∧
    assembleBoundary cfg trace 100 [] = .ok model ∧
    specScore model text 1 = 152 ∧ 100 + ((genFeatures cfg text 1).map (wqOf trace)).sum = 152 := by
  refine ⟨⟨by decide +kernel, by decide +kernel, by decide +kernel⟩, by decide +kernel, ?_, by decide +kernel, by decide +kernel, by decide +kernel⟩
  intro e he
  have hgen : ∀ i, i + 1 < text.length → ∀ f, f ∈ genFeatures cfg text i → Generable cfg f :=
    fun i hi f hf => ⟨text, i, hi, hf⟩
  have : ∀ e ∈ trace, e.1 ∈ genFeatures cfg text 0 ∨ e.1 ∈ genFeatures cfg text 1 ∨ e.1 ∈ genFeatures cfg text 2 := by
    decide +kernel
  rcases this e he with h | h | h
  · exact hgen 0 (by decide +kernel) _ h
  · exact hgen 1 (by decide +kernel) _ h
  · exact hgen 2 (by decide +kernel) _ h

end C09Ex

end V

/-! ## the iteration order of `feature_ids` (a hashbrown `HashMap`) in `Trainer::train` is not observable

`for (feature, fid) in self.feature_ids` decides in which order the quantised weights are written into the two `BTreeMap`s
and the dictionary buckets.  The model takes the order of the trace; these theorems show that every other order of the same
(pairwise distinct) features gives the same outcome.  No hypothesis on the features is needed.  The literal equality of the
two `Res` values fails in exactly one way (`C09_assemble_perm_site_differs`): when at least two entries panic, the panic
*site* reported is that of the entry visited first. -/
namespace V

/-- **order independence**: on two permutations of a trace with pairwise distinct features `assembleBoundary` returns the same
outcome (the same model, or a panic in both cases — "panics for one order iff for the other") -/
theorem C09_assemble_perm (cfg : TrainCfg) (feats₁ feats₂ : List (Feature × Int)) (bias : Int) (tms : List TagModel)
    (hp : feats₁.Perm feats₂) (hnd : (feats₁.map Prod.fst).Nodup) :
    assembleBoundary cfg feats₁ bias tms = assembleBoundary cfg feats₂ bias tms ∨
    ∃ s₁ s₂, assembleBoundary cfg feats₁ bias tms = .panic s₁ ∧ assembleBoundary cfg feats₂ bias tms = .panic s₂ :=
  C09L.assemble_perm cfg hp hnd bias tms

/-- if one order yields a model, every other order yields the same model -/
theorem C09_assemble_perm_ok (cfg : TrainCfg) (feats₁ feats₂ : List (Feature × Int)) (bias : Int) (tms : List TagModel)
    (hp : feats₁.Perm feats₂) (hnd : (feats₁.map Prod.fst).Nodup) (m : WModel)
    (h : assembleBoundary cfg feats₁ bias tms = .ok m) : assembleBoundary cfg feats₂ bias tms = .ok m :=
  ((C09L.assemble_perm cfg hp hnd bias tms).ok_iff m).mp h

/-- one order panics iff the other does -/
theorem C09_assemble_perm_panic_iff (cfg : TrainCfg) (feats₁ feats₂ : List (Feature × Int)) (bias : Int) (tms : List TagModel)
    (hp : feats₁.Perm feats₂) (hnd : (feats₁.map Prod.fst).Nodup) :
    (∃ s, assembleBoundary cfg feats₁ bias tms = .panic s) ↔ (∃ s, assembleBoundary cfg feats₂ bias tms = .panic s) :=
  (C09L.assemble_perm cfg hp hnd bias tms).panic_iff

/-- for the features the trainer itself extracts (no panic, `C09_assemble_total`) the two outcomes are equal -/
theorem C09_assemble_perm_eq (cfg : TrainCfg) (hc : CfgOK cfg) (feats₁ feats₂ : List (Feature × Int)) (bias : Int)
    (tms : List TagModel) (hp : feats₁.Perm feats₂) (hnd : (feats₁.map Prod.fst).Nodup)
    (hg : ∀ e ∈ feats₁, Generable cfg e.1) :
    assembleBoundary cfg feats₁ bias tms = assembleBoundary cfg feats₂ bias tms := by
  obtain ⟨m, hm⟩ := C09_assemble_total cfg hc feats₁ bias tms hg
  rw [hm, C09_assemble_perm_ok cfg feats₁ feats₂ bias tms hp hnd m hm]

/-- the unconditional equality of the two `Res` values is FALSE: two entries that both panic (a character n-gram outside its
window and a dictionary feature of length 0 — neither is `Generable`) report the site of whichever is visited first -/
theorem C09_assemble_perm_site_differs :
    ∃ (cfg : TrainCfg) (feats₁ feats₂ : List (Feature × Int)), feats₁.Perm feats₂ ∧ (feats₁.map Prod.fst).Nodup ∧
      assembleBoundary cfg feats₁ 0 [] = .panic "usize::try_from(window - len - rel).unwrap()" ∧
      assembleBoundary cfg feats₂ 0 [] = .panic "dict_weights[length - 1]" :=
  ⟨{ charW := 1, charN := 1, typeW := 1, typeN := 1, dictWords := [], dictMaxLen := 1 },
   [(.charNgram ['a'] 5, 1), (.dictWord 0 .left, 1)], [(.dictWord 0 .left, 1), (.charNgram ['a'] 5, 1)],
   by decide +kernel, by decide +kernel, by decide +kernel, by decide +kernel⟩

/-- non-vacuity: the trace of `C09Ex` reversed and rotated (two non-trivial permutations; the features are distinct) assembles
to the same model, entries of the same n-gram (`['b']` has one entry, the dictionary bucket 1 has three) included -/
example :
    C09Ex.trace.reverse.Perm C09Ex.trace ∧ (C09Ex.trace.reverse.map Prod.fst).Nodup ∧
    C09Ex.trace.reverse ≠ C09Ex.trace ∧
    assembleBoundary C09Ex.cfg C09Ex.trace.reverse 100 [] = .ok C09Ex.model ∧
    assembleBoundary C09Ex.cfg (C09Ex.trace.rotateLeft 4) 100 [] = .ok C09Ex.model ∧
    assembleBoundary C09Ex.cfg C09Ex.trace 100 [] = .ok C09Ex.model := by
  refine ⟨by decide +kernel, by decide +kernel, by decide +kernel, by decide +kernel, by decide +kernel, by decide +kernel⟩

end V
