import VProofs.Lemmas.SerEnvelope
import VProofs.Lemmas.Examples
/-!
# C14 — A serialised predictor behaves exactly like the original

The property theorems and their non-vacuity examples; helper lemmas live in `VProofs/Lemmas/Ser*.lean` (on the strict decoders
of `Bin*.lean`) and, for the embedded example, in `VProofs/Lemmas/Examples.lean`.
-/
namespace V
open V.Bin

/-- a weight vector survives the wire (trailing zeros trimmed, then re-padded): same vector, same length -/
theorem C14_weightvector (cfg : Cfg) (l : List Int) :
    (WV.ofList cfg l).reser cfg = WV.ofList cfg l :=
  C14L.ofList_reser cfg l

/-- every predictor built from a model is a fixed point of serialise → deserialise (plain, cached and tagged scorer
variants; every build configuration) … -/
theorem C14_roundtrip (cfg : Cfg) (m : WModel) (pt : Bool) (p : Predictor) (hp : Predictor.new cfg m pt = .ok p) :
    p.reser cfg = p :=
  C14L.new_reser hp

/-- … hence it gives identical scores, boundaries, tags and tag scores on every sentence, whatever the score-storing flag -/
theorem C14_same_behaviour (cfg : Cfg) (m : WModel) (pt : Bool) (p : Predictor) (hp : Predictor.new cfg m pt = .ok p)
    (store : Bool) (pid : Nat) (s : Sentence) :
    ({ p.reser cfg with storeTagScores := store } : Predictor).predict pid s
        = ({ p with storeTagScores := store } : Predictor).predict pid s ∧
    ({ p.reser cfg with storeTagScores := store } : Predictor).predictTags s
        = ({ p with storeTagScores := store } : Predictor).predictTags s := by
  rw [C14_roundtrip cfg m pt p hp]
  exact ⟨rfl, rfl⟩

/-- the outer record decides the consumed length: decoding `serialised ++ rest` returns the record and exactly `rest`,
for arbitrary scorer blobs and arbitrary trailing bytes -/
theorem C14_remainder (e : Envelope) (h : EnvOK e) (rest : Bytes) :
    decEnvelope (encEnvelope e ++ rest) = .ok (e, rest) :=
  C14L.strict_envelope.rt e rest (C14L.okEnvelope_of_envOK h) h.size

section NonVacuity

/-- inner zeros are kept, trailing zeros are trimmed on the wire and re-padded to 8 entries -/
example : (WV.ofList {} [1, 0, 2, 0, 0]).wire = [1, 0, 2] := by decide +kernel
example : (WV.ofList {} [1, 0, 2, 0, 0]).reser {} = .fixed [1, 0, 2, 0, 0, 0, 0, 0] := by decide +kernel
/-- without `fix-weight-length` (or beyond 8 entries) the vector goes through untouched, trailing zeros included -/
example : (WV.ofList { fixed := false } [1, 0, 2, 0, 0]).reser { fixed := false } = .variable [1, 0, 2, 0, 0] := by decide +kernel
example : (WV.ofList {} [1, 0, 2, 0, 0, 0, 0, 0, 0]).reser {} = .variable [1, 0, 2, 0, 0, 0, 0, 0, 0] := by decide +kernel
/-- the fixed point property is about vectors built by `From<Vec<i32>>`: an ill-formed `Fixed` vector is repaired -/
example : (WV.fixed [1, 0]).reser {} ≠ .fixed [1, 0] := by decide +kernel

private def exModel : WModel :=
  { charNgrams := [⟨['a'], [1, 0, 2, 0]⟩, ⟨['a', 'b'], [0, 0, 3]⟩], typeNgrams := [⟨[1], [4, 0]⟩],
    dict := [⟨['a', 'b'], [5, 0, 0], []⟩], bias := 7, charW := 2, typeW := 2,
    tagModels := [⟨['a'], [[['x'], ['y']]], [⟨['a'], [⟨0, [1, 0]⟩]⟩], [⟨[1], [⟨1, [0, 2, 0]⟩]⟩], [3, 0]⟩] }

/-- the hypothesis of `C14_roundtrip` is satisfiable: tagged, cached and variable-length builds all succeed -/
example : (Predictor.new {} exModel true).isOk = true
    ∧ (Predictor.new {} exModel false).isOk = true
    ∧ (Predictor.new { fixed := false, cache := false } exModel true).isOk = true := by decide +kernel

example : ∃ p, Predictor.new {} exModel true = .ok p ∧ p.reser {} = p := by
  have hok : (Predictor.new {} exModel true).isOk = true := by decide +kernel
  cases h : Predictor.new {} exModel true with
  | ok p => exact ⟨p, rfl, C14_roundtrip _ _ _ p h⟩
  | err e => rw [h] at hok; cases hok
  | panic e => rw [h] at hok; cases hok
  | ub e => rw [h] at hok; cases hok

private def exEnv : Envelope :=
  { charScorer := some [1, 2, 3], typeScorer := none, bias := -5,
    tagPredictor := some [(['a'], 0, ⟨[[['x'], ['y']]], [3, -4]⟩)], nTags := 1 }

/-- a tiny envelope followed by two trailing bytes: the record and exactly the trailing bytes come back -/
example : decEnvelope (encEnvelope exEnv ++ [9, 9]) = .ok (exEnv, [9, 9]) := by decide +kernel
/-- a truncated envelope is an error, not a panic -/
example : decEnvelope ((encEnvelope exEnv).take 10) = .err .decode := by decide +kernel

/-- the hypothesis of `C14_remainder` is satisfiable -/
example : EnvOK exEnv where
  bias := by decide
  nTags := by decide
  ids := by
    intro l hl x hx
    simp only [exEnv, Option.some.injEq] at hl
    subst hl
    simp only [List.mem_singleton] at hx
    subst hx
    decide
  i32 := by
    intro l hl x hx w hw
    simp only [exEnv, Option.some.injEq] at hl
    subst hl
    simp only [List.mem_singleton] at hx
    subst hx
    simp only [List.mem_cons, List.not_mem_nil, or_false] at hw
    rcases hw with rfl | rfl <;> decide
  size := by decide +kernel

end NonVacuity

/-! ## the embedded example (examples/embedded_device) -/

/-- the device only ever sees the bytes the build script wrote; it behaves as the predictor the build script built
(`C14_roundtrip`), for every model and text, including the models `Predictor::new` rejects -/
theorem C14_embedded_device (m : WModel) (text : List Char) :
    embeddedDevice m text = bindR (Predictor.new embeddedCfg m false) fun p => embeddedTokenize p text :=
  ExL.embedded_device m text

/-- the feature set of the example (`alloc` only: variable-length weight vectors, no type-score cache, no tag prediction)
does not matter: for a well-formed model every build configuration — the default one in particular — tokenises every text
identically, rejected texts included -/
theorem C14_embedded_cfg_independent (cfg : Cfg) (m : WModel) (hm : WFModel m) (text : List Char) :
    embeddedDevice m text = bindR (Predictor.new cfg m false) fun p => embeddedTokenize p text :=
  ExL.embedded_cfg_independent cfg m hm text

/-- on the device every non-empty NUL-free text is tokenised without a panic, and the line it writes parses back to
exactly the text -/
theorem C14_embedded_total (m : WModel) (hm : WFModel m) (text : List Char) (hne : text ≠ []) (hnul : '\x00' ∉ text) :
    ∃ w q, embeddedDevice m text = .ok w ∧ parseTokenized w = .ok q ∧ q.text = text := by
  open C20L ExL in
  obtain ⟨p, hp⟩ := new_plain_total embeddedCfg m hm
  obtain ⟨s1, e1, hP⟩ := predict_stage embeddedCfg m hm false p hp text hne
  obtain ⟨_, e2, bs, rfl, l2, hU'⟩ := wsconst_relabels 1 hP.inv
  have hU := hU' hP.noU
  have hwf : WFTok ({ s1 with bounds := bs } : Sentence) :=
    ⟨hP.inv.text_ne, by
      show ∀ c ∈ s1.text, c ≠ '\x00'
      rw [hP.text]
      exact fun c hc e => hnul (e ▸ hc),
     by
      show bs.length + 1 = s1.text.length
      rw [l2]
      exact hP.inv.bounds_len,
     hU, hP.inv.tags_len, fun t ht => by
      have ht' : some t ∈ s1.tags := ht
      rw [hP.tags] at ht'
      cases ht'⟩
  obtain ⟨w, q, hw, hq, hqt, _⟩ := C03_roundtrip _ hwf
  refine ⟨w, q, ?_, hq, hqt.trans hP.text⟩
  rw [embedded_device, hp, bindR_ok]
  simp only [embeddedTokenize, fromRaw_ok text hne hnul, e1, e2, bindR_ok, hw]

/-- the model of `C01.lean` on the device: a boundary after "a"; the digit filter joins the digits; special characters
are escaped in the written line -/
example : embeddedDevice C01_exModel "ab1".toList = .ok "a b1".toList := by
  -- the kernel would decode each string literal from its UTF-8 bytes
  repeat rw [String.toList_ofList]
  decide +kernel
example : embeddedDevice C01_exModel "aba 12/3".toList = .ok "a ba\\ 12\\/3".toList := by
  repeat rw [String.toList_ofList]
  decide +kernel
/-- the default build (fixed-length vectors, type-score cache) writes the same line -/
example : (bindR (Predictor.new {} C01_exModel false) fun p => embeddedTokenize p "aba 12/3".toList)
    = .ok "a ba\\ 12\\/3".toList := by
  repeat rw [String.toList_ofList]
  decide +kernel
/-- `from_raw(text).unwrap()`: a rejected text is a panic of the example -/
example : embeddedDevice C01_exModel "a\x00".toList = .panic "Sentence::from_raw(text).unwrap()" := by
  repeat rw [String.toList_ofList]
  decide +kernel
/-- `hm` is needed in `C14_embedded_cfg_independent`: with a duplicated type n-gram the cached type scorer (built from the
unmerged n-grams) is refused while the build of the example (which merges them first) is accepted -/
example :
    let m : WModel := { C01_exModel with typeNgrams := [⟨[2], [3, 4]⟩, ⟨[2], [3, 4]⟩] }
    embeddedDevice m "ab".toList = .ok "a b".toList ∧
    (bindR (Predictor.new {} m false) fun p => embeddedTokenize p "ab".toList) = .err .invalidModel := by
  repeat rw [String.toList_ofList]
  decide +kernel

end V
