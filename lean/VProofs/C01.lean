import VProofs.Lemmas.ScoreOverwrite
import VProofs.Lemmas.ScoreLocal
import VProofs.Lemmas.ScoreBoundMain
/-!
# C01 — Boundary scores and decisions equal the pointwise linear model

The models and sentences quantified over (`WFModel`, `WFModel0`, `dropW0`, `SentOK`), the property theorems and their
non-vacuity examples; the proofs rest on `VProofs/Lemmas/Score*.lean`.
-/
namespace V

/-- the models C01 quantifies over: window sizes 1..255; unique n-grams of length `1 ≤ ℓ ≤ 2·window` with one weight per
covered position (`2·window − ℓ + 1`); type codes in 1..6; unique dictionary words with one weight per boundary of the
word (`ℓ + 1`; the code rejects words longer than 32767 characters with an error) -/
structure WFModel (m : WModel) : Prop where
  charW_pos : 1 ≤ m.charW
  charW_le : m.charW ≤ 255
  typeW_pos : 1 ≤ m.typeW
  typeW_le : m.typeW ≤ 255
  char_nodup : (m.charNgrams.map (·.ngram)).Nodup
  char_shape : ∀ d ∈ m.charNgrams, 1 ≤ d.ngram.length ∧ d.ngram.length ≤ 2 * m.charW ∧
    d.weights.length = 2 * m.charW - d.ngram.length + 1
  type_nodup : (m.typeNgrams.map (·.ngram)).Nodup
  type_shape : ∀ d ∈ m.typeNgrams, 1 ≤ d.ngram.length ∧ d.ngram.length ≤ 2 * m.typeW ∧
    d.weights.length = 2 * m.typeW - d.ngram.length + 1 ∧ ∀ t ∈ d.ngram, 1 ≤ t ∧ t ≤ 6
  dict_nodup : (m.dict.map (·.word)).Nodup
  dict_shape : ∀ d ∈ m.dict, 1 ≤ d.word.length ∧ d.word.length ≤ 32767 ∧ d.weights.length = d.word.length + 1

/-- a sentence as the constructors leave it for a non-empty text (any labels, any tags, any earlier scores) -/
structure SentOK (s : Sentence) : Prop where
  text_ne : s.text ≠ []
  types_eq : s.types = typesOf s.text
  bounds_len : s.bounds.length + 1 = s.text.length

/-! ## window size 0: a kind of n-gram whose window is 0 is switched off

`CharScorer::new` / `TypeScorer::new` ignore the n-grams of a kind whose window size is 0 (dictionary words and tag n-grams
still count).  `WFModel` requires both windows to be at least 1; `WFModel0` covers 0 as well. -/

/-- `WFModel` with windows 0..255: the requirements on the n-grams of a kind apply only when that kind's window is at least 1
(with window 0 the list is ignored by the predictor, so it is arbitrary); the dictionary requirements are unchanged -/
structure WFModel0 (m : WModel) : Prop where
  charW_le : m.charW ≤ 255
  typeW_le : m.typeW ≤ 255
  char_nodup : 1 ≤ m.charW → (m.charNgrams.map (·.ngram)).Nodup
  char_shape : 1 ≤ m.charW → ∀ d ∈ m.charNgrams, 1 ≤ d.ngram.length ∧ d.ngram.length ≤ 2 * m.charW ∧
    d.weights.length = 2 * m.charW - d.ngram.length + 1
  type_nodup : 1 ≤ m.typeW → (m.typeNgrams.map (·.ngram)).Nodup
  type_shape : 1 ≤ m.typeW → ∀ d ∈ m.typeNgrams, 1 ≤ d.ngram.length ∧ d.ngram.length ≤ 2 * m.typeW ∧
    d.weights.length = 2 * m.typeW - d.ngram.length + 1 ∧ ∀ t ∈ d.ngram, 1 ≤ t ∧ t ≤ 6
  dict_nodup : (m.dict.map (·.word)).Nodup
  dict_shape : ∀ d ∈ m.dict, 1 ≤ d.word.length ∧ d.word.length ≤ 32767 ∧ d.weights.length = d.word.length + 1

/-- the model with the n-grams of every switched-off kind (window 0) removed; everything else, the windows included, is kept -/
def dropW0 (m : WModel) : WModel :=
  { m with charNgrams := if m.charW = 0 then [] else m.charNgrams,
           typeNgrams := if m.typeW = 0 then [] else m.typeNgrams }

/-- `WFModel0` is the weaker of the two: every `WFModel` satisfies it … -/
theorem WFModel.toWFModel0 {m : WModel} (hm : WFModel m) : WFModel0 m :=
  { charW_le := hm.charW_le, typeW_le := hm.typeW_le, char_nodup := fun _ => hm.char_nodup,
    char_shape := fun _ => hm.char_shape, type_nodup := fun _ => hm.type_nodup, type_shape := fun _ => hm.type_shape,
    dict_nodup := hm.dict_nodup, dict_shape := hm.dict_shape }

/-- … and coincides with it when both windows are at least 1, where `dropW0` is the identity -/
theorem WFModel0.toWFModel {m : WModel} (hm : WFModel0 m) (hc : 1 ≤ m.charW) (ht : 1 ≤ m.typeW) : WFModel m :=
  { charW_pos := hc, charW_le := hm.charW_le, typeW_pos := ht, typeW_le := hm.typeW_le, char_nodup := hm.char_nodup hc,
    char_shape := hm.char_shape hc, type_nodup := hm.type_nodup ht, type_shape := hm.type_shape ht,
    dict_nodup := hm.dict_nodup, dict_shape := hm.dict_shape }

theorem dropW0_of_pos (m : WModel) (hc : 1 ≤ m.charW) (ht : 1 ≤ m.typeW) : dropW0 m = m := by
  unfold dropW0
  rw [if_neg (by omega), if_neg (by omega)]

/-- `dropW0` is also the identity on models that have no n-grams of a switched-off kind (e.g. the models training returns) -/
theorem dropW0_of_empty (m : WModel) (hc : m.charW = 0 → m.charNgrams = []) (ht : m.typeW = 0 → m.typeNgrams = []) :
    dropW0 m = m := by
  unfold dropW0
  rw [ite_eq_right_iff.mpr fun h => (hc h).symm, ite_eq_right_iff.mpr fun h => (ht h).symm]

/-- `+=` on positional weights adds the functions they denote (covers every offset/length case at once) -/
theorem C01_addAssign_denote (a b : PW) (x : Int) : (a.add b).denote x = a.denote x + b.denote x :=
  C01L.PW_add_denote a b x

/-- `add_score`, both layouts: when the start position satisfies the bounds the layout needs, the call does not panic,
keeps the buffer length and adds to every buffer slot `j` exactly the weight's value at relative position `j − end` -/
theorem C01_addScore (cfg : Cfg) (pw : PW) (endPos : Int) (ys : List Int)
    (hvar : endPos + pw.offset ≤ ys.length)
    (hfix : cfg.fixed = true → pw.weight.length ≤ fixedLen →
      0 ≤ endPos + pw.offset ∧ endPos + pw.offset + fixedLen ≤ ys.length) :
    ∃ r, (pw.toPWV cfg).addScore endPos ys = .ok r ∧ r.length = ys.length ∧
      ∀ j, j < ys.length → r.getD j 0 = ys.getD j 0 + pw.denote ((j : Int) - endPos) :=
  C01L.addScore_ok cfg pw endPos ys hvar hfix

/-- the merged weight of every pattern denotes the sum of the original weights of all patterns that are suffixes of it -/
theorem C01_merge_correct {α : Type} [DecidableEq α] (entries : List (List α × PW))
    (hnd : (entries.map Prod.fst).Nodup) (hne : [] ∉ entries.map Prod.fst) (x : Int) :
    ∀ k ∈ entries.map Prod.fst,
      (Merge.lookupD ⟨0, []⟩ (Merge.mergeEntries PW.add ⟨0, []⟩ entries) k).denote x
        = ((entries.filter (fun e => e.1.isSuffixOf k)).map (fun e => e.2.denote x)).sum := fun k hk =>
  (Merge.mergeEntries_correct PW.add ⟨0, []⟩ (fun pw => pw.denote x) (fun _ _ => True)
    (fun _ _ _ _ _ _ _ => trivial) (fun _ _ a b _ _ _ => C01_addAssign_denote a b x) entries hnd hne
    (fun _ _ => trivial) k hk).2

set_option linter.unusedVariables false in
/-- the type-score cache: every visible boundary receives exactly the type n-gram part of the specification -/
theorem C01_cache_correct (m : WModel) (hm : WFModel m) (hw : m.typeW ≤ 3) (types : List Nat)
    (ht : ∀ t ∈ types, 1 ≤ t ∧ t ≤ 6) (hne : types ≠ []) (buf : List Int)
    (hbuf : buf.length = padding * 2 + types.length - 1) :
    ∃ r, cacheAddScores m.typeNgrams m.typeW types (types.length - 1) buf = .ok r ∧ r.length = buf.length ∧
      ∀ b, b < types.length - 1 →
        r.getD (padding + b) 0 = buf.getD (padding + b) 0 + ngramScore m.typeW m.typeNgrams types b :=
  C01L.cache_correct m.typeNgrams m.typeW types hm.type_shape ht (types.length - 1) buf
    (by rw [hbuf, C01L.padding_eq]; omega)

/-- **main theorem**: for every well-formed model, every build configuration, every predictor built from it (with or
without tag prediction) and every sentence over a non-empty text, `predict` does not panic, the reported scores equal
the pointwise linear model, a boundary is `W` exactly when its score is strictly positive and `N` otherwise
(whatever labels the sentence had before; no `U` remains), and nothing else observable changes -/
theorem C01_scores (cfg : Cfg) (m : WModel) (hm : WFModel m) (pt : Bool) (p : Predictor)
    (hp : Predictor.new cfg m pt = .ok p) (s : Sentence) (hs : SentOK s) (pid : Nat) :
    ∃ s', p.predict pid s = .ok s' ∧
      s'.boundaryScores = .ok (specScores m s.text) ∧
      s'.bounds = specBounds m s.text ∧
      s'.text = s.text ∧ s'.types = s.types ∧ s'.tags = s.tags ∧ s'.nTags = s.nTags ∧ s'.pred = some pid :=
  C01L.predict_correct cfg m hm.charW_pos hm.char_shape hm.typeW_pos hm.type_shape
    (fun d hd => (hm.dict_shape d hd).1) pt p hp s hs.text_ne hs.types_eq hs.bounds_len pid

/-- prediction leaves no boundary unknown -/
theorem C01_no_unknown (cfg : Cfg) (m : WModel) (hm : WFModel m) (pt : Bool) (p : Predictor)
    (hp : Predictor.new cfg m pt = .ok p) (s s' : Sentence) (hs : SentOK s) (pid : Nat)
    (h : p.predict pid s = .ok s') : ∀ b ∈ s'.bounds, b ≠ B.U := by
  obtain ⟨s'', h1, _, h2, _⟩ := C01_scores cfg m hm pt p hp s hs pid
  rw [h1] at h
  simp only [Res.ok.injEq] at h
  subst h
  intro b hb
  rw [h2] at hb
  unfold specBounds at hb
  obtain ⟨x, _, hx⟩ := List.mem_map.mp hb
  rw [← hx]
  split <;> simp

/-- **main theorem, windows 0..255**: as `C01_scores`, for every model that is well-formed up to the n-grams of switched-off
kinds; the specification is the pointwise linear model of `dropW0 m`, i.e. the n-grams of a kind with window 0 contribute
nothing, whatever they are, while the dictionary and the other kind count as before (with or without tag prediction) -/
theorem C01_scores_window0 (cfg : Cfg) (m : WModel) (hm : WFModel0 m) (pt : Bool) (p : Predictor)
    (hp : Predictor.new cfg m pt = .ok p) (s : Sentence) (hs : SentOK s) (pid : Nat) :
    ∃ s', p.predict pid s = .ok s' ∧
      s'.boundaryScores = .ok (specScores (dropW0 m) s.text) ∧
      s'.bounds = specBounds (dropW0 m) s.text ∧
      s'.text = s.text ∧ s'.types = s.types ∧ s'.tags = s.tags ∧ s'.nTags = s.nTags ∧ s'.pred = some pid :=
  C01L.predict_correct0 cfg m hm.char_shape hm.type_shape (fun d hd => (hm.dict_shape d hd).1) pt p hp s hs.text_ne
    hs.types_eq hs.bounds_len pid

/-! ## overwriting and locality

The overwriting theorems do not mention the specification, so their statements for `WFModel0` and for `WFModel` coincide;
locality for `WFModel0` is that of the linear model of `dropW0 m`, which is what the predictor computes. -/

/-- `C01_predict_overwrites_fields` (stated next) for windows 0..255 -/
theorem C01_predict_overwrites_fields_window0 (cfg : Cfg) (m : WModel) (hm : WFModel0 m) (pt : Bool) (p q : Predictor)
    (hp : Predictor.new cfg m pt = .ok p) (s s1 : Sentence) (hs : SentOK s) (pid qid : Nat)
    (h1 : q.predict qid s = .ok s1) :
    ∃ r r1, p.predict pid s = .ok r ∧ p.predict pid s1 = .ok r1 ∧
      r1 = { r with cstates := r1.cstates, tstates := r1.tstates } ∧
      (p.writesCharStates = true → r1.cstates = r.cstates) ∧
      (p.writesCharStates = false → r.cstates = s.cstates ∧ r1.cstates = s1.cstates) ∧
      (p.writesTypeStates = true → r1.tstates = r.tstates) ∧
      (p.writesTypeStates = false → r.tstates = s.tstates ∧ r1.tstates = s1.tstates) := by
  obtain ⟨e1, e2, e3⟩ := C01O.predict_same_input q qid s s1 h1
  -- both predictions of `p` return, with the labels of the specification on the same text
  obtain ⟨r, hr, _, hrb, _⟩ := C01_scores_window0 cfg m hm pt p hp s hs pid
  obtain ⟨r1, hr1, _, hrb1, _⟩ := C01_scores_window0 cfg m hm pt p hp s1
    ⟨e1 ▸ hs.text_ne, by rw [e1, e2]; exact hs.types_eq, by rw [e1, e3]; exact hs.bounds_len⟩ pid
  exact ⟨r, r1, hr, hr1, C01O.overwrites_fields p q s s1 r r1 pid qid h1 hr hr1 (by rw [hrb, hrb1, e1])⟩

/-- a prediction overwrites whatever an earlier prediction left in the sentence: predicting with `p` a sentence `s1` that
any predictor `q` has already predicted gives the sentence that `p` produces from the fresh one in every field except possibly
the two automaton-state vectors — scores (the whole padded buffer), padding, labels, text, types, tags, tag scores, number
of tags and predictor id are equal.  A state vector is equal as well whenever `p` writes it (`writesCharStates` /
`writesTypeStates`: the state-recording scorers and the cached type scorer); otherwise `p` hands through the vector it
found, so the two results carry what `s1` and `s` carried.  (Remark, not part of the statement: a vector that `p` does not
write is one that `p`'s own tag prediction does not read — in `tagToken` the plain and the cached scorers refuse
`add_tag_scores` with "unsupported" before looking at the states, and a missing scorer is skipped.) -/
theorem C01_predict_overwrites_fields (cfg : Cfg) (m : WModel) (hm : WFModel m) (pt : Bool) (p q : Predictor)
    (hp : Predictor.new cfg m pt = .ok p) (s s1 : Sentence) (hs : SentOK s) (pid qid : Nat)
    (h1 : q.predict qid s = .ok s1) :
    ∃ r r1, p.predict pid s = .ok r ∧ p.predict pid s1 = .ok r1 ∧
      r1 = { r with cstates := r1.cstates, tstates := r1.tstates } ∧
      (p.writesCharStates = true → r1.cstates = r.cstates) ∧
      (p.writesCharStates = false → r.cstates = s.cstates ∧ r1.cstates = s1.cstates) ∧
      (p.writesTypeStates = true → r1.tstates = r.tstates) ∧
      (p.writesTypeStates = false → r.tstates = s.tstates ∧ r1.tstates = s1.tstates) :=
  C01_predict_overwrites_fields_window0 cfg m hm.toWFModel0 pt p q hp s s1 hs pid qid h1

/-- `C01_predict_overwrites` (stated next) for windows 0..255 -/
theorem C01_predict_overwrites_window0 (cfg : Cfg) (m : WModel) (hm : WFModel0 m) (pt : Bool) (p q : Predictor)
    (hp : Predictor.new cfg m pt = .ok p)
    (hwc : q.writesCharStates = true → p.writesCharStates = true)
    (hwt : q.writesTypeStates = true → p.writesTypeStates = true)
    (s s1 : Sentence) (hs : SentOK s) (pid qid : Nat) (h1 : q.predict qid s = .ok s1) :
    p.predict pid s1 = p.predict pid s := by
  obtain ⟨r, r1, hr, hr1, hf⟩ := C01_predict_overwrites_fields_window0 cfg m hm pt p q hp s s1 hs pid qid h1
  exact C01O.overwrites_eq p q s s1 r r1 pid qid h1 hr hr1 hf hwc hwt

/-- the same as an equality of results (all fields, state vectors included) when `p` writes every state vector that `q`
wrote.  Without that hypothesis the equality fails: see the counterexample below. -/
theorem C01_predict_overwrites (cfg : Cfg) (m : WModel) (hm : WFModel m) (pt : Bool) (p q : Predictor)
    (hp : Predictor.new cfg m pt = .ok p)
    (hwc : q.writesCharStates = true → p.writesCharStates = true)
    (hwt : q.writesTypeStates = true → p.writesTypeStates = true)
    (s s1 : Sentence) (hs : SentOK s) (pid qid : Nat) (h1 : q.predict qid s = .ok s1) :
    p.predict pid s1 = p.predict pid s :=
  C01_predict_overwrites_window0 cfg m hm.toWFModel0 pt p q hp hwc hwt s s1 hs pid qid h1

/-- `C01_predict_twice` (stated next) for windows 0..255 -/
theorem C01_predict_twice_window0 (cfg : Cfg) (m : WModel) (hm : WFModel0 m) (pt : Bool) (p : Predictor)
    (hp : Predictor.new cfg m pt = .ok p) (s s1 : Sentence) (hs : SentOK s) (pid pid' : Nat)
    (h1 : p.predict pid s = .ok s1) : p.predict pid' s1 = p.predict pid' s :=
  C01_predict_overwrites_window0 cfg m hm pt p p hp id id s s1 hs pid' pid h1

/-- in particular predicting again with the same predictor is the same as predicting once -/
theorem C01_predict_twice (cfg : Cfg) (m : WModel) (hm : WFModel m) (pt : Bool) (p : Predictor)
    (hp : Predictor.new cfg m pt = .ok p) (s s1 : Sentence) (hs : SentOK s) (pid pid' : Nat)
    (h1 : p.predict pid s = .ok s1) : p.predict pid' s1 = p.predict pid' s :=
  C01_predict_overwrites cfg m hm pt p p hp id id s s1 hs pid' pid h1

/-- which predictors write the state vectors, in terms of how they were built: the character states only with tag
prediction on a model that has tag models; the type states in that case or with the cached type scorer -/
theorem C01_states_written (cfg : Cfg) (m : WModel) (pt : Bool) (p : Predictor) (hp : Predictor.new cfg m pt = .ok p) :
    (p.writesCharStates = true → pt = true ∧ cfg.tagPred = true ∧ m.tagModels ≠ []) ∧
    (p.writesTypeStates = true →
      (pt = true ∧ cfg.tagPred = true ∧ m.tagModels ≠ []) ∨ (cfg.cache = true ∧ m.typeW ≤ 3)) := by
  obtain ⟨_, hc, ht, _⟩ := C01L.new_inv cfg m pt p hp
  unfold Predictor.writesCharStates Predictor.writesTypeStates
  constructor
  · intro hw
    rcases C01L.charScorerNew_cases cfg m _ _ hc with ⟨h0, _⟩ | ⟨sc, _, a, b, _⟩ | ⟨sc, h0, _, hsc⟩
    · rw [h0] at hw; cases hw
    · exact ⟨(C01L.tagList_ne pt cfg m _ b).1, a, (C01L.tagList_ne pt cfg m _ b).2⟩
    · rw [h0] at hw
      simp only [C01L.buildBoundary_tagWeight cfg _ sc hsc] at hw
      cases hw
  · intro hw
    rcases C01L.typeScorerNew_cases cfg m _ _ ht with ⟨h0, _⟩ | ⟨sc, _, a, b, _⟩ | ⟨_, _, a, b, _⟩ | ⟨sc, h0, _, _, hsc⟩
    · rw [h0] at hw; cases hw
    · exact Or.inl ⟨(C01L.tagList_ne pt cfg m _ b).1, a, (C01L.tagList_ne pt cfg m _ b).2⟩
    · exact Or.inr ⟨a, b⟩
    · rw [h0] at hw
      simp only [C01L.buildBoundary_tagWeight cfg _ sc hsc] at hw
      cases hw

/-- **locality, windows 0..255**: as `C01_score_local` (stated next), for the linear model of `dropW0 m` — the one the predictor computes
(`C01_scores_window0`).  `R` bounds both windows and every dictionary word; a window of 0 satisfies its bound
trivially, and the n-grams of that kind, having been dropped, cannot reach across any distance. -/
theorem C01_score_local_window0 (m : WModel) (hm : WFModel0 m) (R : Nat)
    (hc : m.charW ≤ R) (ht : m.typeW ≤ R) (hd : ∀ d ∈ m.dict, d.word.length ≤ R)
    (pre pre' mid post post' : List Char) (k : Nat) (hk1 : R ≤ k + 1) (hk2 : k + 1 + R ≤ mid.length) :
    specScore (dropW0 m) (pre ++ mid ++ post) (pre.length + k)
      = specScore (dropW0 m) (pre' ++ mid ++ post') (pre'.length + k) :=
  have key : ∀ pre post : List Char,
      specScore (dropW0 m) (pre ++ mid ++ post) (pre.length + k) = specScore (dropW0 m) mid k := fun pre post =>
    C01Loc.specScore_local (dropW0 m)
      (fun d h => hm.char_shape (C01L.mem_ite_nil h).1 d (C01L.mem_ite_nil h).2)
      (fun d h =>
        have hs := hm.type_shape (C01L.mem_ite_nil h).1 d (C01L.mem_ite_nil h).2
        ⟨hs.1, hs.2.1, hs.2.2.1⟩)
      (fun d h => ⟨(hm.dict_shape d h).1, (hm.dict_shape d h).2.2⟩) R hc ht hd pre mid post k hk1 hk2
  (key pre post).trans (key pre' post').symm

/-- locality of the linear model: the score of a boundary depends only on the `R` characters on either side of it, where `R`
bounds both windows and the length of every dictionary word — whatever precedes and follows that stretch of text, and however
long the text is.  (With `C01_scores` the same holds for the predictor's scores and decisions.) -/
theorem C01_score_local (m : WModel) (hm : WFModel m) (R : Nat)
    (hc : m.charW ≤ R) (ht : m.typeW ≤ R) (hd : ∀ d ∈ m.dict, d.word.length ≤ R)
    (pre pre' mid post post' : List Char) (k : Nat) (hk1 : R ≤ k + 1) (hk2 : k + 1 + R ≤ mid.length) :
    specScore m (pre ++ mid ++ post) (pre.length + k) = specScore m (pre' ++ mid ++ post') (pre'.length + k) := by
  have h := C01_score_local_window0 m hm.toWFModel0 R hc ht hd pre pre' mid post post' k hk1 hk2
  rwa [dropW0_of_pos m hm.charW_pos hm.typeW_pos] at h

/-! ## non-vacuity: a concrete well-formed model (with a tag model, so that both the plain and the tag-aware scorers are
built) and a sentence satisfying the hypotheses of `C01_scores` -/

def C01_exModel : WModel :=
  { charNgrams := [⟨['a'], [1, -2]⟩, ⟨['a', 'b'], [5]⟩], typeNgrams := [⟨[2], [3, 4]⟩, ⟨[2, 2], [-1]⟩],
    dict := [⟨['a', 'b'], [1, 2, 3], []⟩], bias := -10, charW := 1, typeW := 1,
    tagModels := [{ token := ['a'], tags := [[['x'], ['y']]], charNgrams := [⟨['b', 'a'], [⟨0, [1, 2]⟩]⟩],
                    typeNgrams := [⟨[2], [⟨1, [0, 1]⟩]⟩], bias := [0, 0] }] }

def C01_exSentence : Sentence :=
  { Sentence.default with text := ['a', 'b', 'a'], types := typesOf ['a', 'b', 'a'], bounds := [B.U, B.U] }

example : WFModel C01_exModel :=
  { charW_pos := by decide, charW_le := by decide, typeW_pos := by decide, typeW_le := by decide,
    char_nodup := by decide, char_shape := by decide, type_nodup := by decide, type_shape := by decide,
    dict_nodup := by decide, dict_shape := by decide }

example : SentOK C01_exSentence := ⟨by decide, rfl, rfl⟩

/-- fixed layout + cache, no tags; variable layout, no cache; tag-aware scorers -/
example : (Predictor.new {} C01_exModel false).isOk = true := by decide +kernel
example : (Predictor.new { fixed := false, cache := false, tagPred := false } C01_exModel false).isOk = true := by decide +kernel
example : (Predictor.new {} C01_exModel true).isOk = true := by decide +kernel

example : specScores C01_exModel C01_exSentence.text = [1, 0] := by decide +kernel

/-- non-vacuity of `C01_score_local`: `R = 2` bounds both windows (1) and the dictionary word (2 characters); in
`mid = "abab"` the boundary `k = 1` has `R` characters on either side (both side conditions hold with equality) -/
example : C01_exModel.charW ≤ 2 ∧ C01_exModel.typeW ≤ 2 ∧ (∀ d ∈ C01_exModel.dict, d.word.length ≤ 2) ∧
    2 ≤ 1 + 1 ∧ 1 + 1 + 2 ≤ ['a', 'b', 'a', 'b'].length := by decide +kernel
example : specScore C01_exModel (['b', 'a'] ++ ['a', 'b', 'a', 'b'] ++ ['a']) (2 + 1) = 1 ∧
    specScore C01_exModel ([] ++ ['a', 'b', 'a', 'b'] ++ ['b', 'b']) (0 + 1) = 1 := by decide +kernel
/-- one character fewer on the right (`k + 1 + R = mid.length + 1`) and the conclusion fails -/
example : specScore C01_exModel ([] ++ ['a', 'b', 'a'] ++ ['b']) (0 + 1)
    ≠ specScore C01_exModel ([] ++ ['a', 'b', 'a'] ++ ['a']) (0 + 1) := by decide +kernel
/-- one character fewer on the left (`k + 1 = R - 1`) and the conclusion fails -/
example : specScore C01_exModel (['a'] ++ ['b', 'a', 'b'] ++ []) (1 + 0)
    ≠ specScore C01_exModel (['b'] ++ ['b', 'a', 'b'] ++ []) (1 + 0) := by decide +kernel
example : specBounds C01_exModel C01_exSentence.text = [B.W, B.N] := by decide +kernel

/-! ## non-vacuity of `C01_predict_overwrites` and the counterexample to the unconditional equality -/

/-- the predictors of the three configurations above, and the sentence after a first prediction -/
def C01_exPredict (cfg : Cfg) (pt : Bool) (pid : Nat) (s : Sentence) : Res Sentence :=
  match Predictor.new cfg C01_exModel pt with
  | .ok p => p.predict pid s
  | .err e => .err e
  | .panic x => .panic x
  | .ub x => .ub x

def C01_exWrites (cfg : Cfg) (pt : Bool) : Option (Bool × Bool) :=
  match Predictor.new cfg C01_exModel pt with
  | .ok p => some (p.writesCharStates, p.writesTypeStates)
  | _ => none

/-- the first prediction succeeds (hypothesis `h1`), for a tag-aware and for a plain `q` -/
example : (C01_exPredict {} true 7 C01_exSentence).isOk = true := by decide +kernel
example : (C01_exPredict {} false 7 C01_exSentence).isOk = true := by decide +kernel

/-- tag-aware: both vectors written; fixed + cache: the type vector only; variable layout without cache: neither.  So the
hypotheses `hwc`, `hwt` hold e.g. for `p` tag-aware and any `q`, for `p = q`, and for a plain `q` without cache and any `p` -/
example : C01_exWrites {} true = some (true, true) := by decide +kernel
example : C01_exWrites {} false = some (false, true) := by decide +kernel
example : C01_exWrites { fixed := false, cache := false, tagPred := false } false = some (false, false) := by decide +kernel

/-- the conclusion on the example: `q` plain and cached, `p` tag-aware -/
example : (C01_exPredict {} false 7 C01_exSentence).bind (C01_exPredict {} true 3)
    = C01_exPredict {} true 3 C01_exSentence := by decide +kernel

/-- **counterexample** to the equality without `hwc`: `q` tag-aware leaves `char_pma_states = [0, 1, 2]` in the sentence,
the plain `p` hands them through, whereas from the fresh sentence it hands through `[]` -/
example : (C01_exPredict {} true 7 C01_exSentence).bind (C01_exPredict {} false 3)
    ≠ C01_exPredict {} false 3 C01_exSentence := by decide +kernel
example : ((C01_exPredict {} true 7 C01_exSentence).bind (C01_exPredict {} false 3)).map (·.cstates)
    = .ok [some 0, some 1, some 2] := by decide +kernel
example : (C01_exPredict {} false 3 C01_exSentence).map (·.cstates) = .ok [] := by decide +kernel

/-! ### non-vacuity: character window 0 with (ill-shaped, repeated) character n-grams that must be ignored, a type n-gram,
a dictionary word and a tag model with character and type tag n-grams -/

def C01_exModel0 : WModel :=
  { charNgrams := [⟨['a'], [1000, -2000, 5]⟩, ⟨[], []⟩, ⟨['a'], [7]⟩], typeNgrams := [⟨[2], [3, 4]⟩, ⟨[2, 2], [-1]⟩],
    dict := [⟨['a', 'b'], [1, 2, 3], []⟩], bias := -8, charW := 0, typeW := 1,
    tagModels := [{ token := ['a'], tags := [[['x'], ['y']]], charNgrams := [⟨['b', 'a'], [⟨0, [1, 2]⟩]⟩],
                    typeNgrams := [⟨[2], [⟨1, [0, 1]⟩]⟩], bias := [0, 0] }] }

example : WFModel0 C01_exModel0 :=
  { charW_le := by decide, typeW_le := by decide, char_nodup := by decide, char_shape := by decide,
    type_nodup := by decide, type_shape := by decide, dict_nodup := by decide, dict_shape := by decide }

/-- it is not a `WFModel`, and its character n-grams are indeed dropped -/
example : ¬ WFModel C01_exModel0 := fun h => absurd h.charW_pos (by decide)
example : (dropW0 C01_exModel0).charNgrams = [] ∧ (dropW0 C01_exModel0).typeNgrams = C01_exModel0.typeNgrams ∧
    (dropW0 C01_exModel0).dict = C01_exModel0.dict := by decide +kernel

def C01_exPredict0 (cfg : Cfg) (pt : Bool) (pid : Nat) (s : Sentence) : Res Sentence :=
  match Predictor.new cfg C01_exModel0 pt with
  | .ok p => p.predict pid s
  | .err e => .err e
  | .panic x => .panic x
  | .ub x => .ub x

/-- the predictor is built in the three configurations (fixed layout + cache, variable layout without cache, tag-aware
scorers), and on `aba` it reports the numbers of the specification: bias −8, type n-grams `[2]` (3 + 4 at either boundary)
and `[2, 2]` (−1 at either boundary), dictionary word `ab` (2 inside, 3 at its right end); a score of 0 is not a boundary -/
example : specScores (dropW0 C01_exModel0) C01_exSentence.text = [0, 1] := by decide +kernel
example : specBounds (dropW0 C01_exModel0) C01_exSentence.text = [B.N, B.W] := by decide +kernel
example : (C01_exPredict0 {} false 7 C01_exSentence).bind (·.boundaryScores) = .ok [0, 1] := by decide +kernel
example : (C01_exPredict0 { fixed := false, cache := false, tagPred := false } false 7 C01_exSentence).bind
    (·.boundaryScores) = .ok [0, 1] := by decide +kernel
example : (C01_exPredict0 {} true 7 C01_exSentence).bind (·.boundaryScores) = .ok [0, 1] := by decide +kernel
example : (C01_exPredict0 {} true 7 C01_exSentence).map (·.bounds) = .ok [B.N, B.W] := by decide +kernel

/-! ## no `i32` overflow under a bound on the weights of the model

In the model the `i32` scores and weights of the Rust code are unbounded integers.  The theorems of this section show that
every value which `Predictor::new` and `Predictor::predict` hold in an `i32` variable for boundary scores (tag scores are not
covered) is at most the **mass** of the model in absolute value — `WModel.mass`: `|bias|` plus `absSum` (the sum of the absolute
values) of the weights of all character n-grams, type n-grams and dictionary words, taken on `dropW0 m`, i.e. without the
n-grams of a kind whose window is 0.  So for a model whose mass is below `2^31` the unbounded model and `i32` arithmetic
coincide on every `+` performed (`C01_no_overflow`), and the bound `2^31 − 1` on the mass cannot be improved (examples below).

Definitions used (in `VProofs/Lemmas/ScoreBound*.lean`): `absSum`, `ngramMass`, `dictMass`, `WModel.mass`, `I32`;
`charEntries` / `charEntriesT` / `typeEntries` / `typeEntriesT` (the entries the constructors feed to the weight merger),
`BuiltFrom` (in `ScoreBuild.lean`), `cacheTerms`, `cacheAdds`, `pmaStates0`; `PmaScorer.weightsIn`, `MergerIn`, `BuildWithin`, `RunWithin`
(the collections of values, parametrised by a test `P : Int → Bool`); `Merge.addC` (the checked `+=`), `Merge.liftE`, `C01B.okW` (its test). -/

/-- the test "at most `M` in absolute value" -/
def within (M : Nat) (x : Int) : Bool := decide (x.natAbs ≤ M)

/-- the test "in the range of `i32`" -/
def inI32 (x : Int) : Bool := decide (I32 x)

theorem within_iff (M : Nat) (x : Int) : within M x = true ↔ x.natAbs ≤ M := by simp [within]
theorem inI32_iff (x : Int) : inI32 x = true ↔ I32 x := by simp [inI32]

theorem dropW0_isDrop (m : WModel) : C01B.IsDropW0 m (dropW0 m) := ⟨rfl, rfl, rfl, rfl, rfl, rfl⟩

/-- the mass of `dropW0 m` spelled out -/
theorem C01_mass_window0 (m : WModel) :
    (dropW0 m).mass = m.bias.natAbs + ngramMass (if m.charW = 0 then [] else m.charNgrams)
      + ngramMass (if m.typeW = 0 then [] else m.typeNgrams) + dictMass m.dict := rfl

/-- **1. the specification**: for EVERY model (no well-formedness needed), every text and every boundary the score of the
pointwise linear model is at most the mass of the model in absolute value.  Reason: the occurrences of one entry end at
different positions, hence read its weight vector at different indices, so for one boundary each weight is counted at most once.
Rust: the final value of `sentence.boundary_scores[score_padding + b]` (by `C01_scores` / `C01_scores_window0`). -/
theorem C01_spec_bounded (m : WModel) (text : List Char) (b : Nat) : (specScore m text b).natAbs ≤ m.mass :=
  open C01B in
  natAbs_add_le _ _ _ _
    (natAbs_add_le _ _ _ _
      (natAbs_add_le _ _ _ _ (Nat.le_refl _) (ngramScore_abs_le m.charW m.charNgrams text b))
      (ngramScore_abs_le m.typeW m.typeNgrams (typesOf text) b))
    (dictScore_abs_le m.dict text b)

/-- … in particular for the model the predictor realises when windows may be 0 (`C01_scores_window0`) -/
theorem C01_spec_bounded_window0 (m : WModel) (text : List Char) (b : Nat) :
    (specScore (dropW0 m) text b).natAbs ≤ (dropW0 m).mass :=
  C01_spec_bounded (dropW0 m) text b

/-- **2. construction**: for every model from which `Predictor.new` succeeds (no well-formedness needed), with
`M = (dropW0 m).mass`, see `BuildWithin`:
* every coordinate of every merged weight stored in the character scorer and in the pattern-matching type scorer (field
  `weights` of `CharScorerBoundary[Tag]` / `TypeScorerBoundary[Tag]`, zero padding of the fixed layout included) is within `M`;
* each of these scorers is built from the entry list `charEntries (dropW0 m)` etc., and running both phases of the weight merger
  on that list — `CharWeightMerger::add` (`*prev_weight += &weight`) for every entry, then `merge()`
  (`data_to_ref.0 += &data_from.borrow().0`) — with a `PositionalWeight::add_assign` that checks every coordinate `*y += *x` of
  its result against `M` and poisons the weight for good when the check fails, returns exactly the unchecked weights, none of them
  poisoned: no `+` performed during construction leaves the bound (operands are coordinates of earlier results, of model entries,
  or the zeros of `resize`);
* for the cached type scorer (`TypeScorerBoundaryCache::new`): every table entry `scores[seqid]` and every partial sum `y` of
  the loop `y += *w` that computes it is within `M`. -/
theorem C01_merged_bounded (cfg : Cfg) (m : WModel) (pt : Bool) (p : Predictor)
    (hp : Predictor.new cfg m pt = .ok p) : BuildWithin (within (dropW0 m).mass) cfg (dropW0 m) p :=
  C01B.build_within cfg m (dropW0 m) (dropW0_isDrop m) pt p hp _ (fun x hx => (within_iff _ x).mpr hx)

/-- **3. prediction, every intermediate buffer**: for every `WFModel0`, every predictor built from it and every sentence over a
non-empty text, with `M = (dropW0 m).mass`, see `RunWithin`: every slot of `sentence.boundary_scores` (the padding on both sides
included) is within `M`
* after the fill with the bias;
* after ANY prefix of the automaton matches of the character pass has been processed (`pmaAddScores.go` on `matches.take k`
  does not fail and leaves a buffer within `M`) — i.e. after every call of `add_score`; within one call every slot holds either its
  old or its new value, so every `*y += *x` of the loop is covered;
* in the buffer `buf1` the complete character pass leaves (`k ≥` number of matches);
* from `buf1`, after any prefix of the matches of the pattern-matching type pass, and for the cached type scorer after any number
  `k` of boundaries (`*y += self.get_score(seqid)`);
* in the buffer that `predict` finally stores in the sentence. -/
theorem C01_running_bounded (cfg : Cfg) (m : WModel) (hm : WFModel0 m) (pt : Bool) (p : Predictor)
    (hp : Predictor.new cfg m pt = .ok p) (s : Sentence) (hs : SentOK s) :
    RunWithin (within (dropW0 m).mass) p s :=
  C01B.run_within cfg m (dropW0 m) (dropW0_isDrop m) hm.char_shape hm.type_shape (fun d hd => (hm.dict_shape d hd).1)
    pt p hp s hs.text_ne hs.types_eq hs.bounds_len _ (fun x hx => (within_iff _ x).mpr hx)

theorem I32_of_natAbs_le (M : Nat) (hM : M < 2 ^ 31) (x : Int) (hx : x.natAbs ≤ M) : I32 x := by
  unfold I32
  omega

/-- **4. no overflow**: if the mass of the model (without the n-grams of switched-off kinds) is below `2^31`, then every value
of 1–3 is in the range of `i32`: the specification scores; all stored merged weights, all results of `+=` in both phases of the
weight merger (checked against the `i32` range) and all partial sums of the cache table; and every slot of the score buffer after
any prefix of either pass.  So on every `+` that `Predictor::new` and `Predictor::predict` perform for boundary scores, `i32`
arithmetic and the unbounded integers of the model coincide.  (Tag scores are not covered.) -/
theorem C01_no_overflow (cfg : Cfg) (m : WModel) (hm : WFModel0 m) (hmass : (dropW0 m).mass < 2 ^ 31) (pt : Bool)
    (p : Predictor) (hp : Predictor.new cfg m pt = .ok p) :
    (∀ text b, I32 (specScore (dropW0 m) text b)) ∧
    BuildWithin inI32 cfg (dropW0 m) p ∧
    ∀ s, SentOK s → RunWithin inI32 p s :=
  have hP : ∀ x : Int, x.natAbs ≤ (dropW0 m).mass → inI32 x = true :=
    fun x hx => (inI32_iff x).mpr (I32_of_natAbs_le _ hmass x hx)
  ⟨fun text b => I32_of_natAbs_le _ hmass _ (C01_spec_bounded_window0 m text b),
   C01B.build_within cfg m (dropW0 m) (dropW0_isDrop m) pt p hp inI32 hP,
   fun s hs => C01B.run_within cfg m (dropW0 m) (dropW0_isDrop m) hm.char_shape hm.type_shape
     (fun d hd => (hm.dict_shape d hd).1) pt p hp s hs.text_ne hs.types_eq hs.bounds_len inI32 hP⟩

/-! ### 5. sharpness and non-vacuity

`C01_sharpModel`: a well-formed model of mass exactly `2^31 − 1` whose score on `aa` is `2^31 − 1` (the bound of 1 is attained, and
the hypothesis of `C01_no_overflow` holds); `C01_overModel`: one more unit of weight, mass `2^31`, score `2^31` — outside `i32`.
The character n-gram `a` and the dictionary word `a` share a key, so the weight merger adds their vectors; in both models the
merged coordinates (`2^31 − 24` and 11 or 12) stay inside `i32`: it is the running score that leaves it.  The pair on which
the `i32`-checked merger itself is poisoned is `C01_sharpMerge` / `C01_overMerge` below. -/

def C01_sharpModel : WModel :=
  { charNgrams := [⟨['a'], [1073741824, 1]⟩], typeNgrams := [⟨[2], [3, 4]⟩],
    dict := [⟨['a'], [1073741800, 10], []⟩], bias := 5, charW := 1, typeW := 1, tagModels := [] }

def C01_overModel : WModel :=
  { C01_sharpModel with dict := [⟨['a'], [1073741800, 11], []⟩] }

example : WFModel C01_sharpModel :=
  { charW_pos := by decide, charW_le := by decide, typeW_pos := by decide, typeW_le := by decide,
    char_nodup := by decide, char_shape := by decide, type_nodup := by decide, type_shape := by decide,
    dict_nodup := by decide, dict_shape := by decide }

example : WFModel C01_overModel :=
  { charW_pos := by decide, charW_le := by decide, typeW_pos := by decide, typeW_le := by decide,
    char_nodup := by decide, char_shape := by decide, type_nodup := by decide, type_shape := by decide,
    dict_nodup := by decide, dict_shape := by decide }

/-- the bound is attained: mass `2^31 − 1`, score `2^31 − 1` -/
example : C01_sharpModel.mass = 2 ^ 31 - 1 ∧ (dropW0 C01_sharpModel).mass = 2 ^ 31 - 1 := by decide +kernel
example : specScore C01_sharpModel ['a', 'a'] 0 = 2 ^ 31 - 1 := by decide +kernel
example : I32 (specScore C01_sharpModel ['a', 'a'] 0) := by decide +kernel

/-- it cannot be improved: mass `2^31`, score `2^31`, not an `i32` -/
example : C01_overModel.mass = 2 ^ 31 ∧ (dropW0 C01_overModel).mass = 2 ^ 31 := by decide +kernel
example : specScore C01_overModel ['a', 'a'] 0 = 2 ^ 31 := by decide +kernel
example : ¬ I32 (specScore C01_overModel ['a', 'a'] 0) := by decide +kernel

/-- non-vacuity of `C01_merged_bounded` / `C01_running_bounded` / `C01_no_overflow`: the predictor is built from the sharp model
in the three configurations, and also from the example models above (whose masses are far below `2^31`) -/
example : (Predictor.new {} C01_sharpModel false).isOk = true := by decide +kernel
example : (Predictor.new { fixed := false, cache := false, tagPred := false } C01_sharpModel false).isOk = true := by decide +kernel
example : (Predictor.new {} C01_sharpModel true).isOk = true := by decide +kernel
example : (dropW0 C01_exModel).mass = 32 ∧ (dropW0 C01_exModel0).mass = 22 := by decide +kernel

/-- the bound of 2 is attained as well, and the checked `+=` does detect a result outside the bound: in these two models the
character n-gram `a` and the dictionary word `a` make up the whole mass (`2^31 − 1` and `2^31`) in one coordinate; the merged
coordinate equals the mass, and the merger run with the `i32` check is poisoned on the second model only -/
def C01_sharpMerge : WModel :=
  { charNgrams := [⟨['a'], [1073741824, 0]⟩], typeNgrams := [], dict := [⟨['a'], [1073741823, 0], []⟩], bias := 0,
    charW := 1, typeW := 1, tagModels := [] }

def C01_overMerge : WModel :=
  { C01_sharpMerge with dict := [⟨['a'], [1073741824, 0], []⟩] }

example : WFModel C01_overMerge :=
  { charW_pos := by decide, charW_le := by decide, typeW_pos := by decide, typeW_le := by decide,
    char_nodup := by decide, char_shape := by decide, type_nodup := by decide, type_shape := by decide,
    dict_nodup := by decide, dict_shape := by decide }

example : (dropW0 C01_sharpMerge).mass = 2 ^ 31 - 1 ∧ (dropW0 C01_overMerge).mass = 2 ^ 31 := by decide +kernel
example : addAll (Merge.addC (C01B.okW inI32 some) PW.add) (Merge.liftE (charEntries (dropW0 C01_sharpMerge))) []
    = [(['a'], some ⟨-1, [2 ^ 31 - 1, 0]⟩)] := by decide +kernel
example : addAll (Merge.addC (C01B.okW inI32 some) PW.add) (Merge.liftE (charEntries (dropW0 C01_overMerge))) []
    = [(['a'], none)] := by decide +kernel
example : addAll PW.add (charEntries (dropW0 C01_overMerge)) [] = [(['a'], ⟨-1, [2 ^ 31, 0]⟩)] := by decide +kernel

/-! ### non-vacuity of `C01_predict_overwrites_fields_window0`, `C01_predict_overwrites_window0` and `C01_predict_twice_window0`
on `C01_exModel0` (character window 0; `WFModel0 C01_exModel0` and `SentOK C01_exSentence` are shown above), and the
counterexample to the unconditional equality with character window 0 -/

def C01_exWrites0 (cfg : Cfg) (pt : Bool) : Option (Bool × Bool) :=
  match Predictor.new cfg C01_exModel0 pt with
  | .ok p => some (p.writesCharStates, p.writesTypeStates)
  | _ => none

/-- `hp` and `h1`: the predictors are built and the first prediction succeeds, for a tag-aware and for a plain `q` -/
example : (Predictor.new {} C01_exModel0 true).isOk = true ∧ (Predictor.new {} C01_exModel0 false).isOk = true ∧
    (Predictor.new { fixed := false, cache := false, tagPred := false } C01_exModel0 false).isOk = true := by decide +kernel
example : (C01_exPredict0 {} true 7 C01_exSentence).isOk = true := by decide +kernel
example : (C01_exPredict0 {} false 7 C01_exSentence).isOk = true := by decide +kernel

/-- `hwc`, `hwt`: which vectors are written is as for `C01_exModel` (the character scorer still exists with window 0: it
carries the dictionary word and the character tag n-gram) -/
example : C01_exWrites0 {} true = some (true, true) := by decide +kernel
example : C01_exWrites0 {} false = some (false, true) := by decide +kernel
example : C01_exWrites0 { fixed := false, cache := false, tagPred := false } false = some (false, false) := by decide +kernel

/-- the conclusions on the example: `q` plain and cached, `p` tag-aware; and `p = q` -/
example : (C01_exPredict0 {} false 7 C01_exSentence).bind (C01_exPredict0 {} true 3)
    = C01_exPredict0 {} true 3 C01_exSentence := by decide +kernel
example : (C01_exPredict0 {} true 7 C01_exSentence).bind (C01_exPredict0 {} true 3)
    = C01_exPredict0 {} true 3 C01_exSentence := by decide +kernel

/-- the **counterexample** to the equality without `hwc` is still one with character window 0: the tag-aware `q` leaves its
character states in the sentence, the plain `p` hands them through -/
example : (C01_exPredict0 {} true 7 C01_exSentence).bind (C01_exPredict0 {} false 3)
    ≠ C01_exPredict0 {} false 3 C01_exSentence := by decide +kernel
example : ((C01_exPredict0 {} true 7 C01_exSentence).bind (C01_exPredict0 {} false 3)).map (·.cstates)
    = .ok [none, some 0, some 1] := by decide +kernel
example : (C01_exPredict0 {} false 3 C01_exSentence).map (·.cstates) = .ok [] := by decide +kernel

/-- non-vacuity of `C01_score_local_window0` on `C01_exModel0`: `R = 2` bounds both windows (0 and 1) and the dictionary word
(2 characters); in `mid = "abab"` the boundary `k = 1` has `R` characters on either side (both side conditions hold with
equality); the two scores are equal although the surroundings differ -/
example : C01_exModel0.charW ≤ 2 ∧ C01_exModel0.typeW ≤ 2 ∧ (∀ d ∈ C01_exModel0.dict, d.word.length ≤ 2) ∧
    2 ≤ 1 + 1 ∧ 1 + 1 + 2 ≤ ['a', 'b', 'a', 'b'].length := by decide +kernel
example : specScore (dropW0 C01_exModel0) (['b', 'a'] ++ ['a', 'b', 'a', 'b'] ++ ['a']) (2 + 1) = 2 ∧
    specScore (dropW0 C01_exModel0) ([] ++ ['a', 'b', 'a', 'b'] ++ ['1', 'b']) (0 + 1) = 2 := by decide +kernel
/-- the radius is still needed for the kinds that are switched on (here the dictionary word and the type n-grams): one
character fewer on the right (`k + 1 + R = mid.length + 1`) and the conclusion fails -/
example : specScore (dropW0 C01_exModel0) ([] ++ ['a', 'b', 'a'] ++ ['b']) (0 + 1)
    ≠ specScore (dropW0 C01_exModel0) ([] ++ ['a', 'b', 'a'] ++ ['1']) (0 + 1) := by decide +kernel
/-- whereas for `m` itself instead of `dropW0 m` the statement would be false (same `R`, `mid = "bbbb"`, `k = 1`): the ignored
character n-gram `a` (three weights with window 0) would reach the boundary two characters to the right of its end, from
outside `mid`; in `dropW0 m` it is gone -/
example : specScore C01_exModel0 (['a'] ++ ['b', 'b', 'b', 'b'] ++ []) (1 + 1) = 3 ∧
    specScore C01_exModel0 (['b'] ++ ['b', 'b', 'b', 'b'] ++ []) (1 + 1) = -2 := by decide +kernel
example : specScore (dropW0 C01_exModel0) (['a'] ++ ['b', 'b', 'b', 'b'] ++ []) (1 + 1) = -2 ∧
    specScore (dropW0 C01_exModel0) (['b'] ++ ['b', 'b', 'b', 'b'] ++ []) (1 + 1) = -2 := by decide +kernel

end V
