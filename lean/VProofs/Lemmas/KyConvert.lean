import VProofs.Lemmas.KyExpected
import VProofs.Lemmas.BinUtf8
/-!
# C17 — the conversion of the record structure of a well-formed description

The loops of the converter against those of `expectedModel`, item by item (`charNgram_item`, `typeNgram_item`,
`dictWord_item`), and `convert` from its parts. `mapRes`, `filterMapRes`, `mapOpt`, `filterMapOpt` are `V.Ky`'s own loops.
-/
namespace V.C17L
open V V.Ky V.Bin

theorem filterMapRes_eq {α β : Type} (f : α → Res (Option β)) : ∀ (l : List α),
    filterMapRes f l = (mapRes f l).bind fun zs => .ok (zs.filterMap id)
  | [] => rfl
  | x :: xs => by
    rw [filterMapRes, mapRes, filterMapRes_eq f xs]
    cases f x with
    | ok y => cases mapRes f xs with
      | ok ys => cases y <;> rfl
      | err e => rfl
      | panic s => rfl
      | ub s => rfl
    | err e => rfl
    | panic s => rfl
    | ub s => rfl

theorem mapRes_mapOpt {α β : Type} {f : α → Res β} {g : α → Option β} : ∀ {l : List α},
    (∀ x ∈ l, ∃ y, f x = .ok y ∧ g x = some y) → ∃ ys, mapRes f l = .ok ys ∧ mapOpt g l = some ys := by
  intro l
  induction l with
  | nil => intro _; exact ⟨[], rfl, rfl⟩
  | cons x xs ih =>
    intro h
    obtain ⟨y, hf, hg⟩ := h x (by simp)
    obtain ⟨ys, hfs, hgs⟩ := ih (fun z hz => h z (by simp [hz]))
    exact ⟨y :: ys, by simp [mapRes, hf, hfs], by simp [mapOpt, hg, hgs]⟩

theorem filterMapRes_filterMapOpt {α β : Type} {f : α → Res (Option β)} {g : α → Option (Option β)} {l : List α}
    (h : ∀ x ∈ l, ∃ y, f x = .ok y ∧ g x = some y) : ∃ ys, filterMapRes f l = .ok ys ∧ filterMapOpt g l = some ys := by
  obtain ⟨zs, h1, h2⟩ := mapRes_mapOpt h
  exact ⟨zs.filterMap id, by rw [filterMapRes_eq, h1]; rfl, by rw [filterMapOpt_eq, h2]; rfl⟩

theorem mapRes_map {α β γ : Type} (h : γ → α) (f : α → Res β) : ∀ (l : List γ),
    mapRes f (l.map h) = mapRes (fun x => f (h x)) l := by
  intro l
  induction l with
  | nil => rfl
  | cons x xs ih => simp [mapRes, ih]

theorem mem_mapRes {α β : Type} {f : α → Res β} : ∀ {l : List α} {ys : List β}, mapRes f l = .ok ys →
    ∀ y, y ∈ ys ↔ ∃ x ∈ l, f x = .ok y := by
  intro l
  induction l with
  | nil => intro ys h y; simp only [mapRes] at h; cases h; simp
  | cons x xs ih =>
    intro ys h y
    simp only [mapRes] at h
    obtain ⟨b, hb, h⟩ := Res.bind_eq_ok h
    obtain ⟨bs, hbs, h⟩ := Res.bind_eq_ok h
    cases h
    simp only [List.mem_cons, ih hbs y]
    constructor
    · rintro (rfl | ⟨x', hx', hy⟩)
      · exact ⟨x, Or.inl rfl, hb⟩
      · exact ⟨x', Or.inr hx', hy⟩
    · rintro ⟨x', rfl | hx', hy⟩
      · rw [hb] at hy; cases hy; exact Or.inl rfl
      · exact Or.inr ⟨x', hx', hy⟩

theorem mem_filterMapRes {α β : Type} {f : α → Res (Option β)} {l : List α} {ys : List β}
    (e : filterMapRes f l = .ok ys) (y : β) : y ∈ ys ↔ ∃ x ∈ l, f x = .ok (some y) := by
  rw [filterMapRes_eq] at e
  obtain ⟨zs, hz, e⟩ := Res.bind_eq_ok e
  cases e
  rw [List.mem_filterMap, ← mem_mapRes hz (some y)]
  exact ⟨fun ⟨a, ha, e⟩ => (show a = some y from e) ▸ ha, fun h => ⟨some y, h, rfl⟩⟩

theorem weights_wf {w len : Nat} {v : List Int} (h1 : len ≤ 2 * w) (h2 : 2 * w - len + 1 ≤ v.length) :
    ngramWeights w len v = .ok (v.take (2 * w - len + 1)) ∧ expWeights w len v = some (v.take (2 * w - len + 1)) := by
  constructor
  · rw [ngramWeights, if_neg (Nat.not_lt.2 h1), if_neg (Nat.not_lt.2 h2)]
  · rw [expWeights, Nat.sub_add_comm h1, if_neg (Nat.not_lt.2 (Nat.le_succ_of_le h1)), if_neg (Nat.not_lt.2 h2)]

theorem charNgram_item {k : AbsKytea} {e : List Char × List Int} (h : WFNgram k.charMap k.charW e) :
    ∃ y, charNgramOf k.charW e = .ok y ∧ expCharNgram k e = some y := by
  obtain ⟨h1, h2⟩ := weights_wf h.len.2 h.weights
  exact ⟨⟨e.1, e.2.take (2 * k.charW - e.1.length + 1)⟩, by rw [charNgramOf, h1]; rfl, by rw [expCharNgram, h2]; rfl⟩

theorem typeLetter_byte : ∀ c ∈ typeLetters, utf8EncodeChar c = [UInt8.ofNat c.toNat] ∧
    typeCode? (UInt8.ofNat c.toNat) = if c = Char.ofNat 4 then none else some (letterCode c) := by decide

theorem typeCodes_letters : ∀ (g : List Char), (∀ c ∈ g, c ∈ typeLetters) →
    typeCodes (utf8Encode g) = .ok (if Char.ofNat 4 ∈ g then none else some (g.map letterCode))
  | [], _ => rfl
  | c :: g, h => by
    obtain ⟨hb, hc⟩ := typeLetter_byte c (h c List.mem_cons_self)
    rw [BinL.utf8Encode_cons, hb, List.singleton_append, typeCodes, hc]
    by_cases h4 : c = Char.ofNat 4
    · rw [if_pos h4, h4]
      simp only [List.mem_cons, true_or, if_true]
      rfl
    · rw [if_neg h4]
      simp only [typeCodes_letters g fun z hz => h z (List.mem_cons_of_mem c hz), Res.bind_ok, List.mem_cons,
        Ne.symm h4, false_or, List.map_cons]
      split <;> rfl
theorem typeNgram_item {k : AbsKytea} {e : List Char × List Int} (h : WFNgram k.charMap k.typeW e)
    (hl : ∀ c ∈ e.1, c ∈ typeLetters) :
    ∃ y, typeNgramOf k.typeW e = .ok y ∧ expTypeNgram k e = some y := by
  obtain ⟨h1, h2⟩ := weights_wf h.len.2 h.weights
  rw [typeNgramOf, expTypeNgram, typeCodes_letters e.1 hl, if_neg (Nat.not_lt.2 h.len.2), h1, h2]
  by_cases h4 : Char.ofNat 4 ∈ e.1
  · rw [if_pos h4, if_pos h4]
    exact ⟨none, rfl, rfl⟩
  · rw [if_neg h4, if_neg h4]
    exact ⟨_, rfl, rfl⟩

theorem dictSum_eq (dictN idx : Nat) (dv : List Int) (m : Nat) : ∀ (js : List Nat) (acc : Int × Int × Int),
    (∀ j ∈ js, j < 8) →
    dictSum dictN idx dv m js acc
      = match expDictSum dictN idx dv m js acc with
        | some r => .ok r
        | none => .panic "dict_vec[offset]" := by
  intro js
  induction js with
  | nil => intro acc _; rfl
  | cons j js ih =>
    intro acc h
    have ih' := fun acc => ih acc (fun z hz => h z (List.mem_cons_of_mem j hz))
    simp only [dictSum, expDictSum]
    rw [if_neg (Nat.not_le.2 (h j List.mem_cons_self))]
    by_cases hbit : (m >>> j) % 2 = 1
    · rw [if_pos hbit, if_pos hbit]
      cases dv[3 * dictN * j + 3 * idx]? with
      | none => rfl
      | some l => cases dv[3 * dictN * j + 3 * idx + 1]? with
        | none => rfl
        | some i => cases dv[3 * dictN * j + 3 * idx + 2]? with
          | none => rfl
          | some r => exact ih' _
    · rw [if_neg hbit, if_neg hbit]
      exact ih' acc

theorem expDictSum_some (dictN idx : Nat) (dv : List Int) (m : Nat) : ∀ (js : List Nat) (acc : Int × Int × Int),
    (∀ j ∈ js, 3 * dictN * j + 3 * idx + 2 < dv.length) → ∃ r, expDictSum dictN idx dv m js acc = some r := by
  intro js
  induction js with
  | nil => intro acc _; exact ⟨acc, rfl⟩
  | cons j js ih =>
    intro acc h
    have hlt := h j List.mem_cons_self
    have ih' := fun acc => ih acc (fun z hz => h z (List.mem_cons_of_mem j hz))
    simp only [expDictSum]
    by_cases hbit : (m >>> j) % 2 = 1
    · rw [if_pos hbit, List.getElem?_eq_getElem (Nat.lt_of_le_of_lt (Nat.le_add_right _ 2) hlt),
        List.getElem?_eq_getElem (Nat.lt_of_le_of_lt (Nat.le_add_right _ 1) hlt), List.getElem?_eq_getElem hlt]
      exact ih' _
    · rw [if_neg hbit]
      exact ih' acc

theorem offset_lt {dictN nDicts idx j : Nat} (hidx : idx < dictN) (hj : j < nDicts) :
    3 * dictN * j + 3 * idx + 2 < 3 * dictN * nDicts :=
  calc 3 * dictN * j + 3 * idx + 2 < 3 * dictN * j + 3 * dictN := by omega
    _ = 3 * dictN * (j + 1) := (Nat.mul_succ _ _).symm
    _ ≤ 3 * dictN * nDicts := Nat.mul_le_mul_left _ hj

theorem dictWord_item {k : AbsKytea} (wf : WFKytea k) {e : List Char × Nat} (he : e ∈ k.words) :
    ∃ d, dictWordOf k.dictN k.nDicts k.dictVec (e.1, reprTagEntry k e) = .ok d ∧ expWord k e = some d := by
  obtain ⟨_, hlen, _⟩ := wf.words e he
  have hpos : 0 < min e.1.length k.dictN := Nat.lt_min.2 ⟨hlen, wf.dictN.1⟩
  have hmin : min e.1.length k.dictN ≠ 0 := Nat.ne_of_gt hpos
  obtain ⟨r, hr⟩ := expDictSum_some k.dictN (min e.1.length k.dictN - 1) k.dictVec e.2 (List.range k.nDicts) (0, 0, 0)
    (fun j hj => wf.dictVecLen ▸ offset_lt (Nat.lt_of_lt_of_le (Nat.sub_lt hpos Nat.one_pos) (Nat.min_le_right _ _))
      (List.mem_range.1 hj))
  refine ⟨⟨e.1, wordWeights e.1.length r, []⟩, ?_, ?_⟩
  · simp only [dictWordOf, reprTagEntry]
    rw [if_neg hmin, dictSum_eq _ _ _ _ _ _ (fun j hj => Nat.lt_of_lt_of_le (List.mem_range.1 hj) wf.nDicts), hr]
    rfl
  · rw [expWord, if_neg hmin, hr]; rfl

theorem convert_of_parts (fuel : Nat) (m : KyteaModel) {ws : KLinear} {fl : KLookup} {bias : Int}
    {cd td : KDict (List Int)} {citems titems : List (List Char × List Int)} {cn : List (NgramData Char)}
    {tn : List (NgramData Nat)} {dw : List DictWord}
    (h1 : m.wordseg = some ws) (h2 : ws.featureLookup = some fl) (h3 : fl.biases.head? = some bias)
    (h4 : fl.charDict = some cd) (h5 : fl.typeDict = some td)
    (h6 : cd.dump fuel = .ok citems) (h7 : mapRes (charNgramOf m.config.charW) citems = .ok cn)
    (h8 : td.dump fuel = .ok titems) (h9 : filterMapRes (typeNgramOf m.config.typeW) titems = .ok tn)
    (h10 : convertDict fuel m.config.dictN fl.dictVec m.dict = .ok dw) :
    convert fuel m = .ok { charNgrams := cn, typeNgrams := tn, dict := dw, bias := bias, charW := m.config.charW,
                           typeW := m.config.typeW, tagModels := [] } := by
  simp only [convert, h1, h2, h3, h4, h5, h6, h7, h8, h9, h10, getOr, Res.bind_ok]

theorem getOr_eq_ok {α : Type} {o : Option α} {r : Res α} {a : α} (h : getOr o r = .ok a) (hr : r ≠ .ok a) :
    o = some a := by
  cases o with
  | none => exact absurd h hr
  | some b => exact congrArg some (Res.ok.inj h)

end V.C17L
