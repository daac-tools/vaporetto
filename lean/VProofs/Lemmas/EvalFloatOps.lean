import VModel.F64Arith
import VProofs.Lemmas.QuantBits
/-!
# `f64OfNat`, `f64Mul`, `f64Add`: results are binary64 values, commutativity, IEEE special cases, exactness on small integers

Pitfall (as in `QuantAll.lean`): `unit = 2^1074` and `top = 2^2098` stay named constants; closed numeric facts about them are
checked by kernel evaluation, everything else treats them as atoms.
-/
namespace V.EvalF
open V V.F64 V.QuantL

/-- `2^1021` units = `2^-53`: the grid step just below `1.0` -/
def e1021 : Nat := 2 ^ 1021
theorem e1021_pos : 0 < e1021 := by unfold e1021; exact Nat.two_pow_pos 1021
set_option exponentiation.threshold 5000 in
theorem unit_split53 : unit = 2 ^ 53 * e1021 := by decide +kernel
set_option exponentiation.threshold 5000 in
theorem unit_le_sq : unit ≤ e1021 * e1021 := by decide +kernel
set_option exponentiation.threshold 5000 in
theorem c32_lt_top : 2 * (2 ^ 31 * unit) < top := by decide +kernel
set_option exponentiation.threshold 5000 in
theorem c53_lt_top : 2 ^ 53 * unit < top := by decide +kernel

/- from here on the unifier must never look inside the two big constants -/
attribute [local irreducible] F64.top F64.unit

theorem repU_unit : RepU unit := by unfold unit; exact repU_pow 1074
theorem repU_zero : RepU 0 := ⟨0, 0, rfl, by decide⟩
theorem repU_one : RepU 1 := ⟨1, 0, rfl, by decide⟩
theorem repU_double {a : Nat} (h : RepU a) : RepU (2 * a) := by
  obtain ⟨c, t, rfl, hc⟩ := h
  exact ⟨c, t + 1, by rw [Nat.pow_succ]; ac_rfl, hc⟩

theorem bne_comm' (s t : Bool) : (s != t) = (t != s) := by cases s <;> cases t <;> rfl
theorem bne_self' (s : Bool) : (s != s) = false := by cases s <;> rfl

theorem pack_lt {s : Bool} {r : Nat} (h : r < top) : F64.pack s r = .fin s r := by
  unfold F64.pack; rw [if_pos h]
theorem pack_ge {s : Bool} {r : Nat} (h : ¬ r < top) : F64.pack s r = .inf s := by
  unfold F64.pack; rw [if_neg h]

theorem pack_eq_fin (r a : Nat) (hat : a < top) : F64.pack false r = .fin false a ↔ r = a := by
  cases Nat.lt_or_ge r top with
  | inl c =>
    rw [pack_lt c]
    exact Iff.intro (fun h => (F64.fin.inj h).2) (fun h => by rw [h])
  | inr c =>
    rw [pack_ge (Nat.not_lt.mpr c)]
    exact Iff.intro (fun h => nomatch h) (fun h => absurd (h ▸ hat) (Nat.not_lt.mpr c))

theorem pack_isDouble (s : Bool) (r : Nat) (h : RepU r) : (F64.pack s r).IsDouble := by
  cases Nat.lt_or_ge r top with
  | inl c => rw [pack_lt c]; exact ⟨c, repUnits_of_repU h⟩
  | inr c => rw [pack_ge (Nat.not_lt.mpr c)]; exact trivial

theorem pack_ne_nan (s : Bool) (r : Nat) : F64.pack s r ≠ .nan := by
  cases Nat.lt_or_ge r top with
  | inl c => rw [pack_lt c]; exact F64.noConfusion
  | inr c => rw [pack_ge (Nat.not_lt.mpr c)]; exact F64.noConfusion

theorem roundUnits_one (g : Nat) (hg : RepU g) : roundUnits g 1 = g := by
  have := roundUnits_exact g 1 (by decide) hg
  rw [Nat.one_mul] at this
  exact this

theorem roundUnits_unit (n : Nat) : roundUnits (n * unit) unit = roundUnits n 1 := by
  have := roundUnits_scale n 1 unit unit_pos
  rw [Nat.one_mul] at this
  exact this

theorem roundUnits_pos (n d : Nat) (hd : 0 < d) (h : d ≤ n) : 0 < roundUnits n d := by
  have := le_roundUnits_of_le n d 1 hd repU_one (by rw [Nat.mul_one]; exact h)
  omega

theorem roundUnits_eq_zero_iff (n : Nat) : roundUnits n 1 = 0 ↔ n = 0 := by
  constructor
  · intro h
    apply Nat.eq_zero_of_not_pos
    intro hp
    have := roundUnits_pos n 1 (by decide) hp
    omega
  · intro h; rw [h]; exact roundUnits_zero 1 (by decide)

theorem small_units_lt_top (n : Nat) (h : n ≤ 2 ^ 53) : n * unit < top :=
  Nat.lt_of_le_of_lt (Nat.mul_le_mul_right _ h) c53_lt_top

/-- the conversion is exact below `2^53` (so for every `i32`/`u32`) -/
theorem f64OfNat_exact (n : Nat) (h : n < 2 ^ 53) : f64OfNat n = .fin false (n * unit) := by
  unfold f64OfNat
  rw [roundUnits_one _ (repU_units n h), pack_lt (small_units_lt_top n (Nat.le_of_lt h))]

theorem f64OfNat_zero : f64OfNat 0 = .fin false 0 := by
  rw [f64OfNat_exact 0 (by decide), Nat.zero_mul]

theorem f64OfNat_one : f64OfNat 1 = .fin false unit := by
  rw [f64OfNat_exact 1 (by decide), Nat.one_mul]

theorem f64OfNat_two : f64OfNat 2 = f64Two := f64OfNat_exact 2 (by decide)

/-- in general: the correctly rounded value (`C11_f64_rounding` describes `roundUnits`), a binary64 value, never NaN -/
theorem f64OfNat_isDouble (n : Nat) : (f64OfNat n).IsDouble := by
  unfold f64OfNat
  exact pack_isDouble _ _ (roundUnits_rep _ 1 (Nat.le_refl 1))

theorem mul_fin (s t : Bool) (a b : Nat) :
    f64Mul (.fin s a) (.fin t b) = F64.pack (s != t) (roundUnits (a * b) unit) := rfl

theorem add_fin (s t : Bool) (a b : Nat) : f64Add (.fin s a) (.fin t b) =
    if s = t then F64.pack s (roundUnits (a + b) 1)
    else if a = b then .fin false 0
    else if b < a then F64.pack s (roundUnits (a - b) 1)
    else F64.pack t (roundUnits (b - a) 1) := rfl

theorem add_fin_same (s : Bool) (a b : Nat) :
    f64Add (.fin s a) (.fin s b) = F64.pack s (roundUnits (a + b) 1) := by
  rw [add_fin, if_pos rfl]

theorem mul_inf_inf (s t : Bool) : f64Mul (.inf s) (.inf t) = .inf (s != t) := rfl
theorem mul_inf_fin (s t : Bool) (b : Nat) : f64Mul (.inf s) (.fin t b) = if b = 0 then .nan else .inf (s != t) := rfl
theorem mul_fin_inf (s t : Bool) (a : Nat) : f64Mul (.fin s a) (.inf t) = if a = 0 then .nan else .inf (s != t) := rfl

theorem f64Mul_comm (x y : F64) : f64Mul x y = f64Mul y x := by
  cases x with
  | nan => cases y <;> rfl
  | inf s =>
    cases y with
    | nan => rfl
    | inf t => rw [mul_inf_inf, mul_inf_inf, bne_comm']
    | fin t b => rw [mul_inf_fin, mul_fin_inf, bne_comm']
  | fin s a =>
    cases y with
    | nan => rfl
    | inf t => rw [mul_inf_fin, mul_fin_inf, bne_comm']
    | fin t b => rw [mul_fin, mul_fin, bne_comm', Nat.mul_comm]

theorem f64Add_comm (x y : F64) : f64Add x y = f64Add y x := by
  cases x with
  | nan => cases y <;> rfl
  | inf s =>
    cases y with
    | nan => rfl
    | inf t => cases s <;> cases t <;> rfl
    | fin t b => rfl
  | fin s a =>
    cases y with
    | nan => rfl
    | inf t => rfl
    | fin t b =>
      rw [add_fin, add_fin]
      by_cases hst : s = t
      · subst hst
        rw [if_pos rfl, if_pos rfl, Nat.add_comm]
      · rw [if_neg hst, if_neg (Ne.symm hst)]
        rcases Nat.lt_trichotomy a b with h | h | h
        · rw [if_neg (Nat.ne_of_lt h), if_neg (Nat.lt_asymm h), if_neg (Nat.ne_of_gt h), if_pos h]
        · rw [if_pos h, if_pos h.symm]
        · rw [if_neg (Nat.ne_of_gt h), if_pos h, if_neg (Nat.ne_of_lt h), if_neg (Nat.lt_asymm h)]

theorem add_inf_inf (s t : Bool) : f64Add (.inf s) (.inf t) = if s = t then .inf s else .nan := rfl
theorem ite_nan_inf_isDouble (c : Prop) [Decidable c] (s : Bool) : (if c then F64.nan else F64.inf s).IsDouble := by
  by_cases h : c
  · rw [if_pos h]; exact trivial
  · rw [if_neg h]; exact trivial

theorem f64Mul_isDouble (x y : F64) : (f64Mul x y).IsDouble := by
  cases x with
  | nan => cases y <;> exact trivial
  | inf s =>
    cases y with
    | nan => exact trivial
    | inf t => exact trivial
    | fin t b => rw [mul_inf_fin]; exact ite_nan_inf_isDouble _ _
  | fin s a =>
    cases y with
    | nan => exact trivial
    | inf t => rw [mul_fin_inf]; exact ite_nan_inf_isDouble _ _
    | fin t b => rw [mul_fin]; exact pack_isDouble _ _ (roundUnits_rep _ _ unit_pos)

theorem f64Add_isDouble (x y : F64) : (f64Add x y).IsDouble := by
  cases x with
  | nan => cases y <;> exact trivial
  | inf s =>
    cases y with
    | nan => exact trivial
    | inf t => rw [add_inf_inf]; cases s <;> cases t <;> exact trivial
    | fin t b => exact trivial
  | fin s a =>
    cases y with
    | nan => exact trivial
    | inf t => exact trivial
    | fin t b =>
      have h1 : ∀ n, RepU (roundUnits n 1) := fun n => roundUnits_rep n 1 (Nat.le_refl 1)
      rw [add_fin]
      by_cases c1 : s = t
      · rw [if_pos c1]; exact pack_isDouble _ _ (h1 _)
      · rw [if_neg c1]
        by_cases c2 : a = b
        · rw [if_pos c2]; exact ⟨top_pos, repUnits_of_repU repU_zero⟩
        · rw [if_neg c2]
          by_cases c3 : b < a
          · rw [if_pos c3]; exact pack_isDouble _ _ (h1 _)
          · rw [if_neg c3]; exact pack_isDouble _ _ (h1 _)

/-- `x + (−x) = +0` for every finite `x`; `∞ − ∞` is NaN -/
theorem add_neg_self (s : Bool) (a : Nat) : f64Add (.fin s a) (f64Neg (.fin s a)) = .fin false 0 := by
  unfold f64Neg
  rw [add_fin, if_neg (by cases s <;> decide), if_pos rfl]

theorem sub_self_fin (s : Bool) (a : Nat) : f64Sub (.fin s a) (.fin s a) = .fin false 0 := add_neg_self s a

theorem inf_sub_inf (s : Bool) : f64Sub (.inf s) (.inf s) = .nan := by cases s <;> rfl

theorem zero_mul_inf (s t : Bool) : f64Mul (.fin s 0) (.inf t) = .nan ∧ f64Mul (.inf t) (.fin s 0) = .nan := ⟨rfl, rfl⟩

theorem neg_zero_add_neg_zero : f64Add (.fin true 0) (.fin true 0) = .fin true 0 := by
  rw [add_fin_same, roundUnits_zero 1 (by decide), pack_lt top_pos]

theorem nan_mul (y : F64) : f64Mul .nan y = .nan := rfl
theorem mul_nan (x : F64) : f64Mul x .nan = .nan := by cases x <;> rfl
theorem nan_add (y : F64) : f64Add .nan y = .nan := rfl
theorem add_nan (x : F64) : f64Add x .nan = .nan := by cases x <;> rfl
theorem nan_div (y : F64) : f64Div .nan y = .nan := rfl
theorem div_nan (x : F64) : f64Div x .nan = .nan := by cases x <;> rfl

theorem lt_fin_nonneg (a b : Nat) : f64Lt (.fin false a) (.fin false b) = decide (a < b) := by
  unfold f64Lt
  rw [f64Le_nonneg, f64Le_nonneg]
  by_cases h : a < b
  · rw [decide_eq_true h, decide_eq_true (by omega : a ≤ b), decide_eq_false (by omega : ¬ b ≤ a)]; rfl
  · rw [decide_eq_false h]
    by_cases h2 : a ≤ b
    · rw [decide_eq_true h2, decide_eq_true (by omega : b ≤ a)]; rfl
    · rw [decide_eq_false h2]; rfl

end V.EvalF
