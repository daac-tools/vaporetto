import VProofs.Lemmas.ParserTotal
/-!
The `parse_tokenized` state machine run over the output of `write_tokenized_text`: an escaped run of characters in
text mode and in tag mode, the tags of a token, a whole token.  States are written out as constructor terms
`⟨text, bounds, tagsTmp, tagStr, prevBoundary, escape⟩`.
-/
namespace V.C03L

theorem tokRun_cons_ok {s s' : TokSt} {c : Char} (h : tokStep s c = .ok s') (cs : List Char) :
    tokRun s (c :: cs) = tokRun s' cs := by
  rw [tokRun_cons, h]
  rfl

theorem tokRun_append_ok {s s' : TokSt} {xs : List Char} (h : tokRun s xs = .ok s') (ys : List Char) :
    tokRun s (xs ++ ys) = tokRun s' ys := by
  induction xs generalizing s with
  | nil => cases h; rfl
  | cons c cs ih =>
    rw [tokRun_cons] at h
    cases hs : tokStep s c with
    | ok s1 => rw [hs] at h; rw [List.cons_append, tokRun_cons_ok hs]; exact ih h
    | err e => rw [hs] at h; cases h
    | panic p => rw [hs] at h; cases h
    | ub p => rw [hs] at h; cases h

theorem tokSpecial_false {c : Char} (h : tokSpecial c = false) : c ≠ ' ' ∧ c ≠ '\\' ∧ c ≠ '/' := by
  simp only [tokSpecial, Bool.or_eq_false_iff, decide_eq_false_iff_not] at h
  exact ⟨h.1.1, h.1.2, h.2⟩

theorem tokStep_backslash (tx : List Char) (bs : List B) (tt : List (List (List Char)))
    (pend : Option (List Char)) (pb : Bool) :
    tokStep ⟨tx, bs, tt, pend, pb, false⟩ '\\' = .ok ⟨tx, bs, tt, pend, pb, true⟩ := by
  simp [tokStep]

theorem tokStep_tag (tx : List Char) (bs : List B) (tt : List (List (List Char))) (t : List Char) (pb e : Bool)
    (c : Char) (h : e = true ∨ tokSpecial c = false) (h0 : c ≠ '\x00') :
    tokStep ⟨tx, bs, tt, some t, pb, e⟩ c = .ok ⟨tx, bs, tt, some (t ++ [c]), pb, false⟩ := by
  rcases h with rfl | h
  · simp [tokStep, h0]
  · obtain ⟨h1, h2, h3⟩ := tokSpecial_false h
    simp [tokStep, h0, h1, h2, h3]

theorem tokStep_text (tx : List Char) (bs : List B) (tt : List (List (List Char))) (pb e : Bool)
    (c : Char) (h : e = true ∨ tokSpecial c = false) (h0 : c ≠ '\x00') :
    tokStep ⟨tx, bs, tt, none, pb, e⟩ c =
      .ok ⟨tx ++ [c], if tx = [] then bs else bs ++ [if pb then B.W else B.N], tt ++ [[]], none, false, false⟩ := by
  rcases h with rfl | h
  · simp [tokStep, h0]
  · obtain ⟨h1, h2, h3⟩ := tokSpecial_false h
    simp [tokStep, h0, h1, h2, h3]

theorem tokStep_slash (tx : List Char) (bs : List B) (l : List (List (List Char))) (x : List (List Char))
    (pend : Option (List Char)) (htx : tx ≠ []) :
    tokStep ⟨tx, bs, l ++ [x], pend, false, false⟩ '/' = .ok ⟨tx, bs, l ++ [curOf x pend], some [], false, false⟩ := by
  cases pend with
  | none => simp [tokStep, htx, curOf]
  | some p => simp [tokStep, htx, curOf, pushLast_concat]

theorem tokStep_space (tx : List Char) (bs : List B) (l : List (List (List Char))) (x : List (List Char))
    (pend : Option (List Char)) (htx : tx ≠ []) :
    tokStep ⟨tx, bs, l ++ [x], pend, false, false⟩ ' ' = .ok ⟨tx, bs, l ++ [curOf x pend], none, true, false⟩ := by
  cases pend with
  | none => simp [tokStep, htx, curOf]
  | some p => simp [tokStep, htx, curOf, pushLast_concat]

/-- one character as the writer escapes it, for a family of states that differ in the escape flag: a backslash sets
the flag, then the character is taken literally -/
theorem run_esc_cons {F : Bool → TokSt} {c : Char} {s' : TokSt} (hb : tokStep (F false) '\\' = .ok (F true))
    (hc : ∀ e, e = true ∨ tokSpecial c = false → tokStep (F e) c = .ok s') (cs rest : List Char) :
    tokRun (F false) (escTok (c :: cs) ++ rest) = tokRun s' (escTok cs ++ rest) := by
  rw [escTok]
  cases hs : tokSpecial c with
  | true => rw [if_pos rfl, List.cons_append, List.cons_append, tokRun_cons_ok hb, tokRun_cons_ok (hc true (Or.inl rfl))]
  | false => rw [if_neg Bool.false_ne_true, List.cons_append, tokRun_cons_ok (hc false (Or.inr hs))]

theorem run_esc_mid (cs : List Char) (h0 : NulFree cs) :
    ∀ (tx : List Char) (bs : List B) (tt : List (List (List Char))) (rest : List Char), tx ≠ [] →
    tokRun ⟨tx, bs, tt, none, false, false⟩ (escTok cs ++ rest) =
      tokRun ⟨tx ++ cs, bs ++ List.replicate cs.length B.N, tt ++ List.replicate cs.length [], none, false, false⟩
        rest := by
  induction cs with
  | nil => intro tx bs tt rest _; simp [escTok]
  | cons c cs ih =>
    intro tx bs tt rest htx
    rw [run_esc_cons (F := fun e => ⟨tx, bs, tt, none, false, e⟩) (tokStep_backslash ..)
      (fun e h => tokStep_text tx bs tt false e c h (h0 c (by simp))),
      ih (fun d hd => h0 d (by simp [hd])) _ _ _ _ (by simp)]
    simp [htx, List.replicate_succ]

theorem run_esc_text (tx : List Char) (bs : List B) (tt : List (List (List Char))) (pb : Bool) (c : Char)
    (cs : List Char) (h0 : NulFree (c :: cs)) (rest : List Char) :
    tokRun ⟨tx, bs, tt, none, pb, false⟩ (escTok (c :: cs) ++ rest) =
      tokRun ⟨tx ++ c :: cs, (if tx = [] then bs else bs ++ [if pb then B.W else B.N]) ++ List.replicate cs.length B.N,
        tt ++ List.replicate cs.length [] ++ [[]], none, false, false⟩ rest := by
  rw [run_esc_cons (F := fun e => ⟨tx, bs, tt, none, pb, e⟩) (tokStep_backslash ..)
    (fun e h => tokStep_text tx bs tt pb e c h (h0 c (by simp))),
    run_esc_mid cs (fun d hd => h0 d (by simp [hd])) _ _ _ _ (by simp)]
  simp [← List.replicate_succ, List.replicate_succ']

/-- `tags_tmp` once the pending tag string (if any) has been pushed: `flushTags s.tagsTmp s.tagStr`, with `s.tagsTmp`
where that is `none` -/
def flushTT (s : TokSt) : List (List (List Char)) :=
  match s.tagStr with
  | none => s.tagsTmp
  | some t => (pushLast s.tagsTmp t).getD s.tagsTmp

theorem flushTT_concat (tx : List Char) (bs : List B) (l : List (List (List Char))) (x : List (List Char))
    (pend : Option (List Char)) (pb e : Bool) : flushTT ⟨tx, bs, l ++ [x], pend, pb, e⟩ = l ++ [curOf x pend] := by
  cases pend with
  | none => rfl
  | some p => simp [flushTT, pushLast_concat, curOf]

theorem flushTT_ne_nil {s : TokSt} (h : s.tagsTmp ≠ []) : flushTT s ≠ [] := by
  obtain ⟨tx, bs, tt, pend, pb, e⟩ := s
  obtain ⟨l, x, rfl⟩ := eq_concat_of_ne_nil (show tt ≠ [] from h)
  rw [flushTT_concat]
  simp

/-- `σ` is a state between tokens or between the tags of a token (before a blank, a slash or the end of input) whose
text, boundaries and flushed tag lists are as given -/
structure Done (σ : TokSt) (text : List Char) (bounds : List B) (tt : List (List (List Char))) : Prop where
  esc : σ.escape = false
  pb : σ.prevBoundary = false
  text : σ.text = text
  bounds : σ.bounds = bounds
  tt : flushTT σ = tt
  ne : σ.tagsTmp ≠ []

theorem Done.of (text : List Char) (bounds : List B) (l : List (List (List Char))) (x : List (List Char))
    (pend : Option (List Char)) :
    Done ⟨text, bounds, l ++ [x], pend, false, false⟩ text bounds (l ++ [curOf x pend]) :=
  ⟨rfl, rfl, rfl, rfl, flushTT_concat .., by simp⟩

theorem Done.cases {σ : TokSt} {text : List Char} {bounds : List B} {tt : List (List (List Char))}
    (h : Done σ text bounds tt) :
    ∃ l x pend, σ = ⟨text, bounds, l ++ [x], pend, false, false⟩ ∧ tt = l ++ [curOf x pend] := by
  obtain ⟨tx, bs, tmp, pend, pb, e⟩ := σ
  obtain ⟨h1, h2, h3, h4, h5, h6⟩ := h
  obtain ⟨l, x, hl⟩ := eq_concat_of_ne_nil h6
  simp only at h1 h2 h3 h4 hl
  subst h1 h2 h3 h4 hl
  exact ⟨l, x, pend, rfl, h5 ▸ flushTT_concat ..⟩

theorem Done.finish {σ : TokSt} {text : List Char} {bounds : List B} {tt : List (List (List Char))}
    (h : Done σ text bounds tt) (htx : text ≠ []) : tokFinish σ = .ok ⟨text, bounds, padTags (maxLen tt) tt⟩ := by
  obtain ⟨l, x, pend, rfl, rfl⟩ := h.cases
  rw [tokFinish, if_neg Bool.false_ne_true, if_neg htx]
  exact finishTags_concat ..

theorem run_tags {text : List Char} {bounds : List B} {pre : List (List (List Char))} (htx : text ≠ [])
    (tg : List Tag) (h0 : ∀ t, some t ∈ tg → NulFree t) {σ : TokSt} {last : List (List Char)}
    (h : Done σ text bounds (pre ++ [last])) (rest : List Char) :
    ∃ σ', tokRun σ (writeTagsWith escTok tg ++ rest) = tokRun σ' rest ∧
      Done σ' text bounds (pre ++ [last ++ tg.map (·.getD [])]) := by
  obtain ⟨l, x, pend, rfl, htt⟩ := h.cases
  obtain ⟨rfl, hlast⟩ := List.append_inj' htt rfl
  obtain ⟨x', pend', h1, h2⟩ := run_writeTags tokRun (fun tt pend e => ⟨text, bounds, tt, pend, false, e⟩) tokSpecial
    escTok (· ≠ '\x00') rfl (fun _ _ => rfl)
    (fun tt pend r => tokRun_cons_ok (tokStep_backslash text bounds tt pend false) r)
    (fun tt t e c r h hc => tokRun_cons_ok (tokStep_tag text bounds tt t false e c h hc) r)
    (fun l x pend r => tokRun_cons_ok (tokStep_slash text bounds l x pend htx) r) tg h0 pre x pend rest
  refine ⟨_, h1, ?_⟩
  rw [List.cons.inj hlast |>.1, ← h2]
  exact Done.of ..

theorem run_token (tx : List Char) (bs : List B) (tt : List (List (List Char))) (pb : Bool) (c : Char)
    (cs : List Char) (tg : List Tag) (hc : NulFree (c :: cs))
    (h0 : ∀ t, some t ∈ tg → NulFree t) (rest : List Char) :
    ∃ σ', tokRun ⟨tx, bs, tt, none, pb, false⟩ (escTok (c :: cs) ++ writeTagsWith escTok tg ++ rest) = tokRun σ' rest ∧
      Done σ' (tx ++ c :: cs) ((if tx = [] then bs else bs ++ [if pb then B.W else B.N]) ++ List.replicate cs.length B.N)
        (tt ++ List.replicate cs.length [] ++ [tg.map (·.getD [])]) := by
  rw [List.append_assoc, run_esc_text tx bs tt pb c cs hc]
  exact run_tags (by simp) tg h0 (Done.of _ _ _ [] none) rest

theorem run_sep_token {σ : TokSt} {text : List Char} {bounds : List B} {tt : List (List (List Char))}
    (hd : Done σ text bounds tt) (htx : text ≠ []) (c : Char) (cs : List Char) (tg : List Tag)
    (hc : NulFree (c :: cs)) (h0 : ∀ t, some t ∈ tg → NulFree t) (rest : List Char) :
    ∃ σ', tokRun σ (' ' :: escTok (c :: cs) ++ writeTagsWith escTok tg ++ rest) = tokRun σ' rest ∧
      Done σ' (text ++ c :: cs) (bounds ++ B.W :: List.replicate cs.length B.N)
        (tt ++ List.replicate cs.length [] ++ [tg.map (·.getD [])]) := by
  obtain ⟨l, x, pend, rfl, rfl⟩ := hd.cases
  obtain ⟨σ', h1, h2⟩ := run_token text bounds (l ++ [curOf x pend]) true c cs tg hc h0 rest
  refine ⟨σ', ?_, ?_⟩
  · rw [List.cons_append, List.cons_append, tokRun_cons_ok (tokStep_space text bounds l x pend htx)]
    exact h1
  · simpa [htx] using h2

theorem run_first_token (c : Char) (cs : List Char) (tg : List Tag)
    (hc : NulFree (c :: cs)) (h0 : ∀ t, some t ∈ tg → NulFree t) (rest : List Char) :
    ∃ σ', tokRun {} (escTok (c :: cs) ++ writeTagsWith escTok tg ++ rest) = tokRun σ' rest ∧
      Done σ' (c :: cs) (List.replicate cs.length B.N) (List.replicate cs.length [] ++ [tg.map (·.getD [])]) := by
  obtain ⟨σ', h1, h2⟩ := run_token [] [] [] false c cs tg hc h0 rest
  exact ⟨σ', h1, by simpa using h2⟩

end V.C03L
