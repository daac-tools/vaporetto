import VModel.Spec
import VProofs.Lemmas.Base
/-!
# What `charScorerNew`, `typeScorerNew` and `Predictor.new` return

The scorer constructors see a model only through `if window = 0 then [] else ngrams`, the dictionary and the window; a
successful call is one of a few cases, each naming the builder that ran and its entries.
-/
namespace V.C01L

theorem charModel_ngrams (m : WModel) :
    (if m.charW = 0 then { m with charNgrams := [] } else m).charNgrams = if m.charW = 0 then [] else m.charNgrams := by
  split <;> rfl

theorem charModel_dict (m : WModel) : (if m.charW = 0 then { m with charNgrams := [] } else m).dict = m.dict := by
  split <;> rfl

theorem charModel_charW (m : WModel) : (if m.charW = 0 then { m with charNgrams := [] } else m).charW = m.charW := by
  split <;> rfl

theorem typeModel_ngrams (m : WModel) :
    (if m.typeW = 0 then { m with typeNgrams := [] } else m).typeNgrams = if m.typeW = 0 then [] else m.typeNgrams := by
  split <;> rfl

theorem typeModel_typeW (m : WModel) : (if m.typeW = 0 then { m with typeNgrams := [] } else m).typeW = m.typeW := by
  split <;> rfl

theorem mem_ite_nil {β : Type} {Wn : Nat} {l : List β} {d : β} (h : d ∈ (if Wn = 0 then [] else l)) :
    1 ≤ Wn ∧ d ∈ l := by
  split at h
  · cases h
  · exact ⟨by omega, h⟩

theorem noTagNgrams_iff {β : Type} (cfg : Cfg) (T : List (List β)) :
    (!cfg.tagPred || T.all (·.isEmpty)) = true ↔ (cfg.tagPred = true → ∀ tm ∈ T, tm = []) := by
  simp only [Bool.or_eq_true, Bool.not_eq_true', List.all_eq_true, List.isEmpty_iff]
  cases cfg.tagPred <;> simp

theorem useTagNgrams_iff {β : Type} (cfg : Cfg) (T : List (List β)) :
    (cfg.tagPred && !T.isEmpty) = true ↔ cfg.tagPred = true ∧ T ≠ [] := by
  simp only [Bool.and_eq_true, Bool.not_eq_true', List.isEmpty_eq_false_iff]

theorem buildBoundary_tagWeight {α : Type} [DecidableEq α] (cfg : Cfg) (entries : List (List α × PW)) (sc : PmaScorer α)
    (h : buildBoundary cfg entries = .ok sc) : sc.tagWeight = none := by
  unfold buildBoundary at h
  simp only at h
  split at h
  · simp only [Res.ok.injEq] at h
    rw [← h]
  · cases h

theorem charScorerNew_cases (cfg : Cfg) (m : WModel) (T : List (List (TagNgramData Char)))
    (cs : Option (PmaScorer Char)) (h : charScorerNew cfg m T = .ok cs) :
    (cs = none ∧ (if m.charW = 0 then [] else m.charNgrams) = [] ∧ m.dict = [] ∧
      (cfg.tagPred = true → ∀ tm ∈ T, tm = [])) ∨
    (∃ sc, cs = some sc ∧ cfg.tagPred = true ∧ T ≠ [] ∧
      buildBoundaryTag cfg m.charW T.length (addAll PWT.add
        ((if m.charW = 0 then [] else m.charNgrams).map
            (fun d => (d.ngram, ({ weight := some ⟨-(m.charW : Int), d.weights⟩, tagInfo := [] } : PWT)))
          ++ m.dict.map
            (fun d => (d.word, ({ weight := some ⟨-(d.word.length : Int), d.weights⟩, tagInfo := [] } : PWT)))
          ++ tagEntries T) []) = .ok sc) ∨
    (∃ sc, cs = some sc ∧ ¬ (cfg.tagPred = true ∧ T ≠ []) ∧
      buildBoundary cfg (addAll PW.add
        ((if m.charW = 0 then [] else m.charNgrams).map (fun d => (d.ngram, (⟨-(m.charW : Int), d.weights⟩ : PW)))
          ++ m.dict.map (fun d => (d.word, (⟨-(d.word.length : Int), d.weights⟩ : PW)))) []) = .ok sc) := by
  simp only [charScorerNew, charModel_ngrams, charModel_dict, charModel_charW] at h
  generalize (if m.charW = 0 then [] else m.charNgrams) = ng at h ⊢
  split at h
  · rename_i hc
    simp only [Bool.and_eq_true, List.isEmpty_iff, noTagNgrams_iff] at hc
    simp only [Res.ok.injEq] at h
    exact Or.inl ⟨h.symm, hc.1.1, hc.1.2, hc.2⟩
  · split at h
    · cases h
    · split at h
      · rename_i ht
        obtain ⟨sc, hsc, rfl⟩ := Res.map_eq_ok h
        have ht' := (useTagNgrams_iff cfg T).mp ht
        exact Or.inr (Or.inl ⟨sc, rfl, ht'.1, ht'.2, hsc⟩)
      · rename_i ht
        obtain ⟨sc, hsc, rfl⟩ := Res.map_eq_ok h
        exact Or.inr (Or.inr ⟨sc, rfl, fun ht' => ht ((useTagNgrams_iff cfg T).mpr ht'), hsc⟩)

theorem typeScorerNew_cases (cfg : Cfg) (m : WModel) (T : List (List (TagNgramData Nat)))
    (ts : Option TypeScorer) (h : typeScorerNew cfg m T = .ok ts) :
    (ts = none ∧ (if m.typeW = 0 then [] else m.typeNgrams) = [] ∧ (cfg.tagPred = true → ∀ tm ∈ T, tm = [])) ∨
    (∃ sc, ts = some (.pma sc) ∧ cfg.tagPred = true ∧ T ≠ [] ∧
      buildBoundaryTag cfg m.typeW T.length (addAll PWT.add
        ((if m.typeW = 0 then [] else m.typeNgrams).map
            (fun d => (d.ngram, ({ weight := some ⟨-(m.typeW : Int), d.weights⟩, tagInfo := [] } : PWT)))
          ++ tagEntries T) []) = .ok sc) ∨
    (ts = some (.cache (if m.typeW = 0 then [] else m.typeNgrams) m.typeW) ∧ ¬ (cfg.tagPred = true ∧ T ≠ []) ∧
      cfg.cache = true ∧ m.typeW ≤ 3 ∧
      pmaBuildOk ((if m.typeW = 0 then [] else m.typeNgrams).map (·.ngram)) = true) ∨
    (∃ sc, ts = some (.pma sc) ∧ ¬ (cfg.tagPred = true ∧ T ≠ []) ∧ ¬ (cfg.cache = true ∧ m.typeW ≤ 3) ∧
      buildBoundary cfg (addAll PW.add
        ((if m.typeW = 0 then [] else m.typeNgrams).map (fun d => (d.ngram, (⟨-(m.typeW : Int), d.weights⟩ : PW))))
        []) = .ok sc) := by
  simp only [typeScorerNew, typeModel_ngrams, typeModel_typeW] at h
  generalize (if m.typeW = 0 then [] else m.typeNgrams) = ng at h ⊢
  split at h
  · rename_i hc
    simp only [Bool.and_eq_true, List.isEmpty_iff, noTagNgrams_iff] at hc
    simp only [Res.ok.injEq] at h
    exact Or.inl ⟨h.symm, hc.1, hc.2⟩
  · split at h
    · rename_i ht
      obtain ⟨sc, hsc, rfl⟩ := Res.map_eq_ok h
      have ht' := (useTagNgrams_iff cfg T).mp ht
      exact Or.inr (Or.inl ⟨sc, rfl, ht'.1, ht'.2, hsc⟩)
    · rename_i ht
      have ht' : ¬ (cfg.tagPred = true ∧ T ≠ []) := fun ht' => ht ((useTagNgrams_iff cfg T).mpr ht')
      split at h
      · rename_i hc
        simp only [Bool.and_eq_true, decide_eq_true_eq] at hc
        split at h
        · rename_i hok
          simp only [Res.ok.injEq] at h
          exact Or.inr (Or.inr (Or.inl ⟨h.symm, ht', hc.1, hc.2, hok⟩))
        · cases h
      · rename_i hc
        simp only [Bool.and_eq_true, decide_eq_true_eq] at hc
        obtain ⟨sc, hsc, rfl⟩ := Res.map_eq_ok h
        exact Or.inr (Or.inr (Or.inr ⟨sc, rfl, ht', hc, hsc⟩))

theorem new_inv (cfg : Cfg) (m : WModel) (pt : Bool) (p : Predictor) (hp : Predictor.new cfg m pt = .ok p) :
    (pt = true → cfg.tagPred = true) ∧
    charScorerNew cfg m (if (pt && cfg.tagPred) = true then m.tagModels.map (·.charNgrams) else []) = .ok p.charScorer ∧
    typeScorerNew cfg m (if (pt && cfg.tagPred) = true then m.tagModels.map (·.typeNgrams) else []) = .ok p.typeScorer ∧
    p.bias = m.bias ∧
    p.tagPredictor = (if (pt && cfg.tagPred) = true then
      some ((m.tagModels.zipIdx).map fun x =>
        (x.1.token, x.2, ({ tags := x.1.tags, bias := WV.ofList cfg x.1.bias } : TagPredictor)))
      else none) ∧
    p.nTags = (if (pt && cfg.tagPred) = true then m.tagModels.foldl (fun acc tm => max acc tm.tags.length) 0 else 0) ∧
    p.storeTagScores = false := by
  unfold Predictor.new at hp
  split at hp
  · cases hp
  · rename_i hpt
    simp only at hp
    split at hp
    · rename_i cs hcs
      split at hp
      · rename_i ts hts
        simp only [Res.ok.injEq] at hp
        subst hp
        refine ⟨fun h => ?_, hcs, hts, rfl, rfl, rfl, rfl⟩
        subst h
        simpa using hpt
      · cases hp
      · cases hp
      · cases hp
    · cases hp
    · cases hp
    · cases hp

theorem tagList_ne {β : Type} (pt : Bool) (cfg : Cfg) (m : WModel) (f : TagModel → β)
    (h : (if (pt && cfg.tagPred) = true then m.tagModels.map f else []) ≠ []) :
    pt = true ∧ m.tagModels ≠ [] := by
  split at h
  · rename_i hu
    simp only [Bool.and_eq_true] at hu
    refine ⟨hu.1, fun he => h ?_⟩
    rw [he]; rfl
  · exact absurd rfl h

theorem new_ok (cfg : Cfg) (m : WModel) (pt : Bool) (p : Predictor) (hp : Predictor.new cfg m pt = .ok p) :
    ∃ tc tt, charScorerNew cfg m tc = .ok p.charScorer ∧ typeScorerNew cfg m tt = .ok p.typeScorer ∧
      p.bias = m.bias :=
  have h := new_inv cfg m pt p hp
  ⟨_, _, h.2.1, h.2.2.1, h.2.2.2.1⟩

end V.C01L
