import VProofs.Lemmas.CliStages
/-!
# CrossFront — the `predict` tool and the Tantivy token stream run the same core pipeline on a line without line breaks

The generated full-width table is seen only through one whole-table boolean check (no image is CR or LF).
-/
namespace V.C20X
open V V.Gen

/-- no image of the table contains CR or LF -/
theorem tbl_nolb : fullwidthTable.all (fun e => e.2.all (fun v => decide (v ≠ 0xA) && decide (v ≠ 0xD))) = true := by
  decide +kernel

theorem g_nolb (c : Char) (hc : isLinebreak c = false) : isLinebreak (C16L.g c) = false := by
  rcases C16L.g_cases c with h | ⟨x, hl, h, hv, _, _⟩
  · rw [h]; exact hc
  · have h1 := List.all_eq_true.mp tbl_nolb _ (C16L.lookupFw_mem hl)
    have h2 := List.all_eq_true.mp h1 x List.mem_cons_self
    simp only [Bool.and_eq_true, decide_eq_true_eq] at h2
    have hne : ∀ d : Char, x ≠ d.toNat → Char.ofNat x ≠ d := fun d hx he =>
      hx ((C16L.toNat_ofNat hv).symm.trans (congrArg Char.toNat he))
    rw [h, isLinebreak, Bool.or_eq_false_iff, decide_eq_false_iff_not, decide_eq_false_iff_not]
    exact ⟨hne '\r' h2.2, hne '\n' h2.1⟩

theorem linebreaks_id (s : Sentence) (h : Inv s) (hnl : ∀ c ∈ s.text, isLinebreak c = false) :
    filterLinebreaks s = .ok s := by
  have hany : ∀ i : Nat, (s.text[i]?.any isLinebreak) = false := by
    intro i
    cases hi : s.text[i]? with
    | none => rfl
    | some c => exact hnl c (List.mem_of_getElem? hi)
  have hid : s.bounds.mapIdx (C15L.lbRule s.text) = s.bounds := by
    rw [List.mapIdx_eq_iff]
    intro i
    have e : C15L.lbRule s.text i = id := funext fun x => by
      unfold C15L.lbRule
      rw [hany i, hany (i + 1)]
      rfl
    rw [e, Option.map_id]
    rfl
  rw [C15L.linebreaks_eq s h, hid]

/-- the two front ends segment alike on a line without line-break characters -/
theorem agrees (cfg : Cfg) (m : WModel) (hm : WFModel m) (pt : Bool)
    (p : Predictor) (hp : Predictor.new cfg m pt = .ok p) (filters : List PostFilter) (line : List Char)
    (hnl : ∀ c ∈ line, isLinebreak c = false) :
    pipeline p filters line =
      bindR (Sentence.fromRaw (fullwidth line)) fun s0 => bindR (p.predict 0 s0) fun s1 => applyWsconst filters s1 := by
  unfold pipeline
  rcases C20L.raw_cases (fullwidth line) with ⟨h1, _⟩ | ⟨⟨hne, _⟩, h1, _⟩
  · rw [h1]; rfl
  · rw [h1]
    obtain ⟨s1, e1, hP⟩ := C20L.predict_stage cfg m hm pt p hp (fullwidth line) hne
    have hid : filterLinebreaks s1 = .ok s1 := linebreaks_id s1 hP.inv (by
      rw [hP.text, C16L.fullwidth_eq_map]
      intro c hm
      obtain ⟨d, hd, rfl⟩ := List.mem_map.mp hm
      exact g_nolb d (hnl d hd))
    simp only [e1, hid, C20L.bindR_ok, applyWsconst]

end V.C20X
