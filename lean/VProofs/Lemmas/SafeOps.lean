import VProofs.Lemmas.SafeFill
/-!
# One valid call of a history keeps the history invariant (for C18)
-/
namespace V.C18L

theorem lift_ok {env : List Predictor} {r : Res Sentence} (h : ∃ s', r = .ok s' ∧ InvH env s') :
    ∃ s' ok, r.map (·, true) = .ok (s', ok) ∧ InvH env s' := by
  obtain ⟨s', h1, h2⟩ := h
  exact ⟨s', true, by rw [h1]; rfl, h2⟩

theorem step_safe {env : List Predictor} (henv : EnvWF0 env) {s : Sentence} (h : InvH env s) (op : HOp)
    (hv : op.Valid env s) : ∃ s' ok, op.apply env s = .ok (s', ok) ∧ InvH env s' := by
  cases op with
  | updateRaw x => exact update_step env s h.1 (.updateRaw x) (fun k e => by cases e)
  | updateTokenized x => exact update_step env s h.1 (.updateTokenized x) (fun k e => by cases e)
  | updatePartial x => exact update_step env s h.1 (.updatePartial x) (fun k e => by cases e)
  | predict k =>
    have hk : k < env.length := hv
    have hget : env[k]? = some env[k] := List.getElem?_eq_getElem hk
    simp only [HOp.apply, hget]
    exact lift_ok (predict_step h.1 k env[k] hget henv)
  | fillTags => exact lift_ok (fillTags_step henv h hv)
  | resetTags k =>
    exact ⟨_, true, rfl, invH_frame h (Inv.ofC (invC_resetTags s k h.1.toC)) rfl rfl rfl rfl rfl rfl rfl rfl⟩
  | setBoundary i b =>
    have hi : i < s.bounds.length := hv
    exact lift_ok ⟨_, by unfold Sentence.setBoundary; rw [if_pos hi], invH_bounds h (List.length_set ..)⟩
  | setTag i t =>
    have hi : i < s.tags.length := hv
    exact lift_ok ⟨_, by unfold Sentence.setTag; rw [if_pos hi], invH_tags h (List.length_set ..)⟩
  | filterWs t =>
    obtain ⟨bs, e, hl, _⟩ := C15_wsconst t s h.1
    exact lift_ok ⟨_, e, invH_bounds h hl⟩
  | filterLb =>
    obtain ⟨bs, e, hl, _⟩ := C15_linebreaks s h.1
    exact lift_ok ⟨_, e, invH_bounds h hl⟩
  | filterGc ls =>
    obtain ⟨bs, e, hl, _⟩ := C15_graphemes ls s h.1 hv.1 hv.2
    exact lift_ok ⟨_, e, invH_bounds h hl⟩
  | filterTag rules =>
    obtain ⟨ts, e, hl, _⟩ := C15_tagger rules s h.1
    exact lift_ok ⟨_, e, invH_tags h hl⟩

/-- `HOp.Valid` as a Boolean, for the non-vacuity examples of `C18.lean` -/
def opValidB (env : List Predictor) (s : Sentence) : HOp → Bool
  | .predict k => decide (k < env.length)
  | .fillTags =>
    match s.pred with
    | none => true
    | some k =>
      match env[k]? with
      | some p => p.tagPredictor.isSome
      | none => false
  | .setBoundary i _ => decide (i < s.bounds.length)
  | .setTag i _ => decide (i < s.tags.length)
  | .filterGc ls => ls.all (fun l => decide (1 ≤ l)) && decide (ls.sum = s.text.length)
  | _ => true

theorem opValidB_sound (env : List Predictor) (s : Sentence) (op : HOp) (h : opValidB env s op = true) :
    op.Valid env s := by
  cases op with
  | predict k => exact of_decide_eq_true (p := k < env.length) h
  | fillTags =>
    intro k hk
    simp only [opValidB, hk] at h
    cases hp : env[k]? with
    | none => rw [hp] at h; cases h
    | some p => rw [hp] at h; exact ⟨p, rfl, h⟩
  | setBoundary i b => exact of_decide_eq_true (p := i < s.bounds.length) h
  | setTag i t => exact of_decide_eq_true (p := i < s.tags.length) h
  | filterGc ls =>
    simp only [opValidB, Bool.and_eq_true, List.all_eq_true, decide_eq_true_eq] at h
    exact h
  | _ => trivial

end V.C18L
