import VModel.Spec
import VProofs.Lemmas.PermIns
/-!
# Helper lemmas for C12: the vectors assembled by `assembleTag`

The two n-gram tables of `train_tag` are filled by the same fold `gstep`, which differs only in the order of the keys and in
the features it selects; `tagUpsert` on a table whose vectors all have `n` entries is `insK` behind a bounds check.
-/
namespace V.C12L
open V V.PermL V.C09L

theorem foldl_res_inv {σ τ : Type} (P : σ → Prop) (f : Res σ → τ → Res σ)
    (hf : ∀ acc t, (∀ s, acc = .ok s → P s) → ∀ s, f acc t = .ok s → P s) :
    ∀ (l : List τ) (acc : Res σ), (∀ s, acc = .ok s → P s) → ∀ s, l.foldl f acc = .ok s → P s :=
  foldl_inv_gen f (fun acc => ∀ s, acc = .ok s → P s) hf

/-- the loop bodies of the three folds of `assembleTag`: bias, character n-grams, type n-grams -/
def biasStep (acc : Res (List Int)) (t : TagTraceItem) : Res (List Int) :=
  match acc, t.feat with
  | .ok b, none =>
    if t.offset + t.cls < b.length then .ok (b.set (t.offset + t.cls) t.weight) else .panic "bias[class_offset + cls]"
  | acc, _ => acc

def charStep (n : Nat) (acc : Res (List ((List Char × Nat) × List Int))) (t : TagTraceItem) :
    Res (List ((List Char × Nat) × List Int)) :=
  match acc, t.feat with
  | .ok m, some (.charNgram g rel) =>
    if t.weight = 0 then .ok m else tagUpsert ltPairC n (g, rel) (t.offset + t.cls) t.weight m
  | acc, _ => acc

def typeStep (n : Nat) (acc : Res (List ((List Nat × Nat) × List Int))) (t : TagTraceItem) :
    Res (List ((List Nat × Nat) × List Int)) :=
  match acc, t.feat with
  | .ok m, some (.typeNgram g rel) =>
    if t.weight = 0 then .ok m else tagUpsert ltPairT n (g, rel) (t.offset + t.cls) t.weight m
  | acc, _ => acc

theorem assembleTag_eq (token : List Char) (examples : List (List Tag)) (trace : List TagTraceItem) :
    assembleTag token examples trace =
      match (trace.filter fun t => t.token = token).foldl biasStep (.ok (List.replicate (nClass (collectTags examples)) 0)),
        (trace.filter fun t => t.token = token).foldl (charStep (nClass (collectTags examples))) (.ok []),
        (trace.filter fun t => t.token = token).foldl (typeStep (nClass (collectTags examples))) (.ok []) with
      | .ok b, .ok c, .ok t =>
        .ok { token := token, tags := collectTags examples, charNgrams := groupTagWeights c,
              typeNgrams := groupTagWeights t, bias := b }
      | .panic p, _, _ => .panic p
      | _, .panic p, _ => .panic p
      | _, _, .panic p => .panic p
      | _, _, _ => .panic "?" := rfl

theorem assembleTag_ok (token : List Char) (examples : List (List Tag)) (trace : List TagTraceItem) (tm : TagModel)
    (h : assembleTag token examples trace = .ok tm) :
    ∃ b c t,
      (trace.filter fun t => t.token = token).foldl biasStep (.ok (List.replicate (nClass (collectTags examples)) 0)) = .ok b ∧
      (trace.filter fun t => t.token = token).foldl (charStep (nClass (collectTags examples))) (.ok []) = .ok c ∧
      (trace.filter fun t => t.token = token).foldl (typeStep (nClass (collectTags examples))) (.ok []) = .ok t ∧
      tm = { token := token, tags := collectTags examples, charNgrams := groupTagWeights c,
             typeNgrams := groupTagWeights t, bias := b } := by
  rw [assembleTag_eq] at h
  split at h
  · next b c t hb hc ht => exact ⟨b, c, t, hb, hc, ht, (Res.ok.inj h).symm⟩
  all_goals cases h

/-- the checked write `bias[class_offset + cls] = weight` -/
def biasSet (t : TagTraceItem) (b : List Int) : Res (List Int) :=
  if t.offset + t.cls < b.length then .ok (b.set (t.offset + t.cls) t.weight) else .panic "bias[class_offset + cls]"

theorem biasStep_eq (acc : Res (List Int)) (t : TagTraceItem) :
    biasStep acc t =
      match t.feat with
      | none => acc.bind (biasSet t)
      | some _ => acc := by
  unfold biasStep
  cases acc <;> cases t.feat <;> rfl

def VecLen {κ : Type} (n : Nat) (m : List (κ × List Int)) : Prop := ∀ e ∈ m, e.2.length = n

/-- `or_insert_with(|| vec![0; n])[slot] = w` on the optional old vector -/
def slotF (n slot : Nat) (w : Int) (o : Option (List Int)) : List Int := (o.getD (List.replicate n 0)).set slot w

theorem slotF_length (n slot : Nat) (w : Int) (o : Option (List Int)) (ho : ∀ v, o = some v → v.length = n) :
    (slotF n slot w o).length = n := by
  cases o with
  | none => exact (List.length_set ..).trans (List.length_replicate ..)
  | some v => exact (List.length_set ..).trans (ho v rfl)

section
variable {κ : Type} [DecidableEq κ]

theorem tagUpsert_eq_insK (lt : κ → κ → Bool) {n : Nat} (k : κ) (slot : Nat) (w : Int) :
    ∀ {m : List (κ × List Int)}, VecLen n m →
      tagUpsert lt n k slot w m =
        if slot < n then .ok (insK lt k (slotF n slot w) m) else .panic "weights[class_offset + cls]"
  | [], _ => rfl
  | (k', v) :: r, hm => by
    have hv : v.length = n := hm (k', v) List.mem_cons_self
    by_cases hk : k' = k
    · rw [tagUpsert, if_pos hk, insK_cons_eq lt k _ v r hk, hv]
      rfl
    · by_cases hlt : lt k k' = true
      · rw [tagUpsert, if_neg hk, if_pos hlt, insK_cons_lt lt k _ v r hk hlt]
        rfl
      · rw [tagUpsert, if_neg hk, if_neg hlt, insK_cons_gt lt k _ v r hk hlt,
          tagUpsert_eq_insK lt k slot w (fun e he => hm e (List.mem_cons_of_mem _ he))]
        split <;> rfl

theorem tagUpsert_len (lt : κ → κ → Bool) (n : Nat) (k : κ) (slot : Nat) (w : Int) :
    ∀ (m m' : List (κ × List Int)), VecLen n m → tagUpsert lt n k slot w m = .ok m' → VecLen n m' := by
  intro m m' hm h
  rw [tagUpsert_eq_insK lt k slot w hm] at h
  split at h
  · cases h
    exact insK_all lt k (slotF n slot w) (fun v => v.length = n) (slotF_length n slot w) m hm
  · cases h

/-- one step of the character (type) fold: `sel` picks the items of this table -/
def gstep (lt : κ → κ → Bool) (n : Nat) (sel : TagTraceItem → Option κ) (acc : Res (List (κ × List Int)))
    (t : TagTraceItem) : Res (List (κ × List Int)) :=
  match sel t with
  | none => acc
  | some k => if t.weight = 0 then acc else acc.bind (tagUpsert lt n k (t.offset + t.cls) t.weight)

theorem gstep_inv {lt : κ → κ → Bool} {n : Nat} (sel : TagTraceItem → Option κ) (P : List (κ × List Int) → Prop)
    (hP : ∀ k slot w m m', P m → tagUpsert lt n k slot w m = .ok m' → P m') (acc : Res (List (κ × List Int)))
    (t : TagTraceItem) (hacc : ∀ m, acc = .ok m → P m) : ∀ m, gstep lt n sel acc t = .ok m → P m := by
  intro s hs
  unfold gstep at hs
  split at hs
  · exact hacc s hs
  · split at hs
    · exact hacc s hs
    · cases acc with
      | ok m₀ => exact hP _ _ _ m₀ s (hacc m₀ rfl) hs
      | err _ => cases hs
      | panic _ => cases hs
      | ub _ => cases hs

theorem gfold_inv {lt : κ → κ → Bool} {n : Nat} (sel : TagTraceItem → Option κ) (P : List (κ × List Int) → Prop)
    (hP : ∀ k slot w m m', P m → tagUpsert lt n k slot w m = .ok m' → P m') (l : List TagTraceItem)
    (m : List (κ × List Int)) (h : l.foldl (gstep lt n sel) (.ok []) = .ok m) (h0 : P []) : P m :=
  foldl_res_inv P (gstep lt n sel) (gstep_inv sel P hP) l _ (fun _ hs => Res.ok.inj hs ▸ h0) m h

end

def selC (t : TagTraceItem) : Option (List Char × Nat) :=
  match t.feat with
  | some (.charNgram g rel) => some (g, rel)
  | _ => none

def selT (t : TagTraceItem) : Option (List Nat × Nat) :=
  match t.feat with
  | some (.typeNgram g rel) => some (g, rel)
  | _ => none

theorem charStep_eq (n : Nat) : charStep n = gstep ltPairC n selC := by
  funext acc ⟨tok, off, cls, feat, w⟩
  rcases feat with _ | (⟨g, rel⟩ | ⟨g, rel⟩)
  · cases acc <;> rfl
  · cases acc
    · rfl
    all_goals exact (ite_self _).symm
  · cases acc <;> rfl

theorem typeStep_eq (n : Nat) : typeStep n = gstep ltPairT n selT := by
  funext acc ⟨tok, off, cls, feat, w⟩
  rcases feat with _ | (⟨g, rel⟩ | ⟨g, rel⟩)
  · cases acc <;> rfl
  · cases acc <;> rfl
  · cases acc
    · rfl
    all_goals exact (ite_self _).symm

theorem biasFold_len (n : Nat) (l : List TagTraceItem) (b : List Int)
    (h : l.foldl biasStep (.ok (List.replicate n 0)) = .ok b) : b.length = n := by
  refine foldl_res_inv (fun b => b.length = n) biasStep ?_ l _ (fun s hs => Res.ok.inj hs ▸ List.length_replicate ..) b h
  intro acc t hacc s hs
  rw [biasStep_eq] at hs
  split at hs
  · cases acc with
    | ok b₀ =>
      rw [Res.bind_ok, biasSet] at hs
      split at hs
      · cases hs
        exact (List.length_set ..).trans (hacc b₀ rfl)
      · cases hs
    | err _ => cases hs
    | panic _ => cases hs
    | ub _ => cases hs
  · exact hacc s hs

/-- grouping keeps every `(ngram, rel)` entry with its vector -/
theorem groupTagWeights_mem {β : Type} [DecidableEq β] : ∀ (m : List ((List β × Nat) × List Int)),
    ∀ d ∈ groupTagWeights m, ∀ w ∈ d.weights, ((d.ngram, w.rel), w.weights) ∈ m
  | [], _, hd, _, _ => nomatch hd
  | ((g, rel), v) :: r, d, hd, w, hw => by
    have ih := groupTagWeights_mem r
    rw [groupTagWeights] at hd
    split at hd
    · next d0 ds hg =>
      rw [hg] at ih
      split at hd
      · next hgd =>
        rcases List.mem_cons.mp hd with hd | hd
        · subst hd
          rcases List.mem_cons.mp hw with hw | hw
          · subst hw
            exact List.mem_cons_self
          · exact List.mem_cons_of_mem _ (hgd ▸ ih d0 List.mem_cons_self w hw)
        · exact List.mem_cons_of_mem _ (ih d (List.mem_cons_of_mem _ hd) w hw)
      · rcases List.mem_cons.mp hd with hd | hd
        · subst hd
          cases List.mem_singleton.mp hw
          exact List.mem_cons_self
        · exact List.mem_cons_of_mem _ (ih d hd w hw)
    · cases List.mem_singleton.mp hd
      cases List.mem_singleton.mp hw
      exact List.mem_cons_self

theorem groupTagWeights_len {β : Type} [DecidableEq β] (n : Nat) (m : List ((List β × Nat) × List Int)) (hm : VecLen n m) :
    ∀ d ∈ groupTagWeights m, ∀ w ∈ d.weights, w.weights.length = n :=
  fun d hd w hw => hm _ (groupTagWeights_mem m d hd w hw)

end V.C12L
