import VProofs.Lemmas.MergeAlg
/-!
# Correctness of the mirrored `…WeightMerger::merge` for an arbitrary weight type

`ev : W → Int` is any evaluation that `add` respects on the weights that occur (e.g. the value of a positional weight
at one relative position, or one class score of one (token, rel) tag entry); `P k w` is any key-indexed invariant that
is preserved when the weight of a suffix key is added to the weight of a key.
-/
namespace V.Merge
variable {α : Type} [DecidableEq α] {W : Type}


theorem lookupD_of_mem (d : W) (entries : List (List α × W)) (hnd : (entries.map Prod.fst).Nodup)
    (e : List α × W) (he : e ∈ entries) : lookupD d entries e.1 = e.2 := by
  induction entries with
  | nil => simp at he
  | cons x r ih =>
    obtain ⟨k', w'⟩ := x
    simp only [List.map_cons, List.nodup_cons] at hnd
    simp only [lookupD]
    rcases List.mem_cons.1 he with h | h
    · subst h; simp
    · have hne : k' ≠ e.1 := by
        intro heq
        exact hnd.1 (heq ▸ List.mem_map_of_mem (f := Prod.fst) h)
      rw [if_neg hne]
      exact ih hnd.2 h

theorem mergeEntries_keys (add : W → W → W) (d : W) (entries : List (List α × W)) :
    (mergeEntries add d entries).map Prod.fst = entries.map Prod.fst := by
  simp [mergeEntries, List.map_map, Function.comp_def]

/-- after `merge`, every key carries (under `ev`) the sum of the original weights of all keys that are suffixes of it
(including itself), and the invariant `P` -/
theorem mergeEntries_correct (add : W → W → W) (d : W) (ev : W → Int) (P : List α → W → Prop)
    (hP : ∀ k q a b, q.isSuffixOf k = true → P k a → P q b → P k (add a b))
    (hadd : ∀ k q a b, q.isSuffixOf k = true → P k a → P q b → ev (add a b) = ev a + ev b)
    (entries : List (List α × W)) (hnd : (entries.map Prod.fst).Nodup) (hne : [] ∉ entries.map Prod.fst)
    (hent : ∀ e ∈ entries, P e.1 e.2) :
    ∀ k ∈ entries.map Prod.fst,
      P k (lookupD d (mergeEntries add d entries) k) ∧
      ev (lookupD d (mergeEntries add d entries) k)
        = ((entries.filter (fun e => e.1.isSuffixOf k)).map (fun e => ev e.2)).sum := by
  intro k hk
  have hw0 : ∀ q ∈ entries.map Prod.fst, P q (lookupD d entries q) := by
    intro q hq
    obtain ⟨e, he, rfl⟩ := List.mem_map.1 hq
    rw [lookupD_of_mem d entries hnd e he]
    exact hent e he
  obtain ⟨i1, i2, _⟩ := foldl_inv add ev P hP hadd (entries.map Prod.fst) (lookupD d entries) hnd hne
    (entries.map Prod.fst) { w := lookupD d entries, done := fun _ => false } (fun _ h => h)
    (fun q hq => ⟨hw0 q hq, nofun, fun _ => rfl⟩)
  have hl : lookupD d (mergeEntries add d entries) k
      = (merge add (entries.map Prod.fst) (lookupD d entries)).w k :=
    lookupD_of_mem d _ (mergeEntries_keys add d entries ▸ hnd) (k, _) (List.mem_map.mpr ⟨k, hk, rfl⟩)
  rw [hl]
  refine ⟨(i1 k hk).1, ((i1 k hk).2.1 (i2 k hk)).trans ?_⟩
  unfold S
  rw [List.filter_map, List.map_map]
  congr 1
  apply List.map_congr_left
  intro e he
  have he' : e ∈ entries := (List.mem_filter.1 he).1
  simp [lookupD_of_mem d entries hnd e he']

/-- sum (under `ev`) of all weights stored under key `k` -/
def sumAt (ev : W → Int) (l : List (List α × W)) (k : List α) : Int :=
  ((l.filter (fun e => decide (e.1 = k))).map (fun e => ev e.2)).sum

theorem sumAt_nil (ev : W → Int) (k : List α) : sumAt ev ([] : List (List α × W)) k = 0 := rfl

theorem sumAt_cons (ev : W → Int) (e : List α × W) (l : List (List α × W)) (k : List α) :
    sumAt ev (e :: l) k = (if e.1 = k then ev e.2 else 0) + sumAt ev l k := by
  unfold sumAt
  by_cases h : e.1 = k <;> simp [h]

theorem sumAt_not_mem (ev : W → Int) (l : List (List α × W)) (k : List α) (h : k ∉ l.map Prod.fst) :
    sumAt ev l k = 0 := by
  induction l with
  | nil => rfl
  | cons e r ih =>
    simp only [List.map_cons, List.mem_cons, not_or] at h
    rw [sumAt_cons, ih h.2, if_neg (fun e' => h.1 e'.symm)]; rfl

theorem lookupD_eq_sumAt (d : W) (ev : W → Int) (l : List (List α × W)) (hnd : (l.map Prod.fst).Nodup)
    (k : List α) (hk : k ∈ l.map Prod.fst) : ev (lookupD d l k) = sumAt ev l k := by
  induction l with
  | nil => simp at hk
  | cons x r ih =>
    obtain ⟨k', w'⟩ := x
    simp only [List.map_cons, List.nodup_cons] at hnd
    rw [sumAt_cons]
    simp only [lookupD]
    by_cases h : k' = k
    · subst h
      rw [if_pos rfl, if_pos rfl, sumAt_not_mem ev r _ hnd.1]; simp
    · rw [if_neg h, if_neg h]
      rcases List.mem_cons.1 hk with e | e
      · exact absurd e.symm h
      · rw [ih hnd.2 e]; simp

theorem addEntry_keys (add : W → W → W) (l : List (List α × W)) (k : List α) (w : W) (x : List α) :
    x ∈ (addEntry add l k w).map Prod.fst ↔ x ∈ l.map Prod.fst ∨ x = k := by
  induction l with
  | nil => simp [addEntry]
  | cons e r ih =>
    unfold addEntry
    split
    · rename_i h
      simp only [List.map_cons, List.mem_cons, ← h, or_comm, or_self_left]
    · simp only [List.map_cons, List.mem_cons, ih, or_assoc]

theorem addEntry_nodup (add : W → W → W) (l : List (List α × W)) (k : List α) (w : W)
    (hnd : (l.map Prod.fst).Nodup) : ((addEntry add l k w).map Prod.fst).Nodup := by
  induction l with
  | nil => simp [addEntry]
  | cons e r ih =>
    obtain ⟨k', w'⟩ := e
    simp only [List.map_cons, List.nodup_cons] at hnd
    simp only [addEntry]
    by_cases h : k' = k
    · subst h
      simpa using hnd
    · simp only [if_neg h, List.map_cons, List.nodup_cons]
      refine ⟨?_, ih hnd.2⟩
      rw [addEntry_keys]
      intro hc
      rcases hc with hc | hc
      · exact hnd.1 hc
      · exact h hc

theorem addEntry_P (add : W → W → W) (P : List α → W → Prop)
    (hP : ∀ k a b, P k a → P k b → P k (add a b))
    (l : List (List α × W)) (k : List α) (w : W) (hl : ∀ e ∈ l, P e.1 e.2) (hw : P k w) :
    ∀ e ∈ addEntry add l k w, P e.1 e.2 := by
  induction l with
  | nil => exact List.forall_mem_singleton.2 hw
  | cons x r ih =>
    obtain ⟨k', w'⟩ := x
    obtain ⟨hx, hr⟩ := List.forall_mem_cons.1 hl
    unfold addEntry
    split
    · rename_i h
      exact List.forall_mem_cons.2 ⟨hP _ _ _ hx (h ▸ hw), hr⟩
    · exact List.forall_mem_cons.2 ⟨hx, ih hr⟩

theorem addEntry_sumAt (add : W → W → W) (ev : W → Int) (P : List α → W → Prop)
    (hadd : ∀ k a b, P k a → P k b → ev (add a b) = ev a + ev b)
    (l : List (List α × W)) (k : List α) (w : W) (hl : ∀ e ∈ l, P e.1 e.2) (hw : P k w) (x : List α) :
    sumAt ev (addEntry add l k w) x = sumAt ev l x + (if k = x then ev w else 0) := by
  induction l with
  | nil => simp [addEntry, sumAt_cons, sumAt_nil]
  | cons e r ih =>
    obtain ⟨k', w'⟩ := e
    have hx : P k' w' := hl (k', w') (by simp)
    have hr : ∀ e ∈ r, P e.1 e.2 := fun e he => hl e (List.mem_cons_of_mem _ he)
    simp only [addEntry]
    by_cases h : k' = k
    · subst h
      rw [if_pos rfl, sumAt_cons, sumAt_cons]
      by_cases hx' : k' = x
      · simp only [hx', if_true]
        rw [hadd x _ _ (hx' ▸ hx) (hx' ▸ hw)]; omega
      · simp [hx']
    · rw [if_neg h, sumAt_cons, sumAt_cons, ih hr]; omega

theorem addAll_cons (add : W → W → W) (e : List α × W) (r acc : List (List α × W)) :
    addAll add (e :: r) acc = addAll add r (addEntry add acc e.1 e.2) := rfl

theorem addAll_keys_acc (add : W → W → W) (es acc : List (List α × W)) (k : List α) :
    k ∈ (addAll add es acc).map Prod.fst ↔ k ∈ acc.map Prod.fst ∨ k ∈ es.map Prod.fst := by
  induction es generalizing acc with
  | nil => simp [addAll]
  | cons e r ih => rw [addAll_cons, ih, addEntry_keys, List.map_cons, List.mem_cons, or_assoc]

theorem addAll_nodup_acc (add : W → W → W) (es acc : List (List α × W)) (hnd : (acc.map Prod.fst).Nodup) :
    ((addAll add es acc).map Prod.fst).Nodup := by
  induction es generalizing acc with
  | nil => exact hnd
  | cons e r ih => exact ih _ (addEntry_nodup add acc e.1 e.2 hnd)

theorem addAll_gen (add : W → W → W) (ev : W → Int) (P : List α → W → Prop)
    (hP : ∀ k a b, P k a → P k b → P k (add a b))
    (hadd : ∀ k a b, P k a → P k b → ev (add a b) = ev a + ev b)
    (es : List (List α × W)) (hent : ∀ e ∈ es, P e.1 e.2) :
    ∀ (acc : List (List α × W)), (∀ e ∈ acc, P e.1 e.2) →
      (∀ e ∈ addAll add es acc, P e.1 e.2) ∧
      ∀ k, sumAt ev (addAll add es acc) k = sumAt ev acc k + sumAt ev es k := by
  induction es with
  | nil => exact fun acc hacc => ⟨hacc, fun k => (Int.add_zero _).symm⟩
  | cons e r ih =>
    intro acc hacc
    have he : P e.1 e.2 := hent e List.mem_cons_self
    obtain ⟨i1, i2⟩ := ih (fun x hx => hent x (List.mem_cons_of_mem _ hx)) (addEntry add acc e.1 e.2)
      (addEntry_P add P hP acc e.1 e.2 hacc he)
    refine ⟨i1, fun k => ?_⟩
    rw [addAll_cons, i2, addEntry_sumAt add ev P hadd acc e.1 e.2 hacc he, sumAt_cons, Int.add_assoc]

end V.Merge

namespace V
variable {α : Type} [DecidableEq α] {W : Type}

theorem addAll_keys (add : W → W → W) (es : List (List α × W)) (k : List α) :
    k ∈ (addAll add es []).map Prod.fst ↔ k ∈ es.map Prod.fst := by
  rw [Merge.addAll_keys_acc]
  simp only [List.map_nil, List.not_mem_nil, false_or]

theorem addAll_nodup (add : W → W → W) (es : List (List α × W)) : ((addAll add es []).map Prod.fst).Nodup :=
  Merge.addAll_nodup_acc add es [] List.nodup_nil

/-- `merger.add` over a list of (key, weight) pairs: distinct keys, those of the input; equal keys summed -/
theorem addAll_correct (add : W → W → W) (d : W) (ev : W → Int) (P : List α → W → Prop)
    (hP : ∀ k a b, P k a → P k b → P k (add a b))
    (hadd : ∀ k a b, P k a → P k b → ev (add a b) = ev a + ev b)
    (es : List (List α × W)) (hent : ∀ e ∈ es, P e.1 e.2) :
    ((addAll add es []).map Prod.fst).Nodup ∧
    (∀ k, k ∈ (addAll add es []).map Prod.fst ↔ k ∈ es.map Prod.fst) ∧
    (∀ e ∈ addAll add es [], P e.1 e.2) ∧
    ∀ k ∈ es.map Prod.fst,
      ev (Merge.lookupD d (addAll add es []) k) = ((es.filter (fun e => e.1 = k)).map (fun e => ev e.2)).sum := by
  obtain ⟨h3, h4⟩ := Merge.addAll_gen add ev P hP hadd es hent [] nofun
  refine ⟨addAll_nodup add es, addAll_keys add es, h3, fun k hk => ?_⟩
  rw [Merge.lookupD_eq_sumAt d ev _ (addAll_nodup add es) k ((addAll_keys add es k).mpr hk), h4, Merge.sumAt_nil,
    Int.zero_add]
  rfl

namespace C01L

theorem lookupD_getElem (d : W) (l : List (List α × W)) (hnd : (l.map Prod.fst).Nodup)
    (i : Nat) (k : List α) (w : W) (h : l[i]? = some (k, w)) : Merge.lookupD d l k = w :=
  Merge.lookupD_of_mem d l hnd (k, w) (List.mem_of_getElem? h)

theorem addAll_regroup (add : W → W → W) (d : W) (ev : W → Int) (es : List (List α × W))
    (hnd : ((addAll add es []).map Prod.fst).Nodup)
    (hkeys : ∀ k, k ∈ (addAll add es []).map Prod.fst ↔ k ∈ es.map Prod.fst)
    (hsum : ∀ k ∈ es.map Prod.fst,
      ev (Merge.lookupD d (addAll add es []) k) = ((es.filter (fun e => e.1 = k)).map (fun e => ev e.2)).sum)
    (Q : List α → Bool) :
    (((addAll add es []).filter fun e => Q e.1).map fun e => ev e.2).sum
      = ((es.filter fun e => Q e.1).map fun e => ev e.2).sum := by
  let h : List α → Int := fun k => ((es.filter (fun e => decide (e.1 = k))).map (fun e => ev e.2)).sum
  have h1 : (((addAll add es []).filter fun e => Q e.1).map fun e => ev e.2).sum
      = ((((addAll add es []).map Prod.fst).filter Q).map h).sum := by
    rw [List.filter_map, List.map_map]
    apply isum_map_congr
    intro e he
    have hmem : e ∈ addAll add es [] := (List.mem_filter.mp he).1
    have hk : e.1 ∈ es.map Prod.fst := (hkeys e.1).mp (List.mem_map.mpr ⟨e, hmem, rfl⟩)
    show ev e.2 = h e.1
    rw [← Merge.lookupD_of_mem d _ hnd e hmem, hsum e.1 hk]
  rw [h1, isum_group es Prod.fst (fun e => ev e.2) _ (hnd.sublist List.filter_sublist)]
  apply isum_filter_congr
  intro e he
  have hk : e.1 ∈ (addAll add es []).map Prod.fst := (hkeys e.1).mpr (List.mem_map.mpr ⟨e, he, rfl⟩)
  by_cases hq : Q e.1 = true
  · simp [List.mem_filter, hk, hq]
  · simp [List.mem_filter, hq]

end C01L

/-- `merger.add` of all entries followed by `merger.merge()`: every key carries the invariant `P` and, under `ev`, the
sum of the weights of all entries whose key is a suffix of it -/
theorem mergeEntries_addAll (add : W → W → W) (d : W) (ev : W → Int) (P : List α → W → Prop)
    (hP : ∀ k q a b, q.isSuffixOf k = true → P k a → P q b → P k (add a b))
    (hadd : ∀ k q a b, q.isSuffixOf k = true → P k a → P q b → ev (add a b) = ev a + ev b)
    (es : List (List α × W)) (hent : ∀ e ∈ es, P e.1 e.2) (hne : [] ∉ es.map Prod.fst) :
    ∀ k ∈ es.map Prod.fst,
      P k (Merge.lookupD d (Merge.mergeEntries add d (addAll add es [])) k) ∧
      ev (Merge.lookupD d (Merge.mergeEntries add d (addAll add es [])) k)
        = ((es.filter fun e => e.1.isSuffixOf k).map fun e => ev e.2).sum := by
  intro k hk
  have hrefl : ∀ q : List α, q.isSuffixOf q = true := fun q => List.isSuffixOf_iff_suffix.mpr (List.suffix_refl q)
  obtain ⟨hnd, hkeys, hP', hsum⟩ := addAll_correct add d ev P (fun q a b => hP q q a b (hrefl q))
    (fun q a b => hadd q q a b (hrefl q)) es hent
  obtain ⟨h1, h2⟩ := Merge.mergeEntries_correct add d ev P hP hadd (addAll add es []) hnd
    (fun h => hne ((hkeys []).mp h)) hP' k ((hkeys k).mpr hk)
  exact ⟨h1, h2.trans (C01L.addAll_regroup add d ev es hnd hkeys hsum fun q => q.isSuffixOf k)⟩

end V
