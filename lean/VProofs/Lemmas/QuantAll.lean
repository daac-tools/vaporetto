import VProofs.Lemmas.QuantRound
import VProofs.Lemmas.Base
/-!
# The quantisation `x ↦ trunc (fl (x / fl (M / 32767)))`

One quotient stays inside the signed 16-bit range when `|x| ≤ M` and `M > 2^29 − 2^15` units; `weightMax`, `quantiseList`,
`quantiseAll` make the whole step; `quantise` is monotone and odd.

`unit = 2^1074`, `top = 2^2098` and the other large powers of two are never evaluated by a tactic: closed facts about them
are checked by the kernel, and before `omega` runs they are replaced by variables.
-/
namespace V.QuantL
open V V.F64

theorem unit_pos : 0 < unit := by unfold unit; exact Nat.two_pow_pos 1074
theorem top_pos : 0 < top := by unfold top; exact Nat.two_pow_pos 2098
set_option exponentiation.threshold 5000 in
theorem unit_split : unit = 2 ^ 38 * 2 ^ 1036 := by decide +kernel
set_option exponentiation.threshold 5000 in
theorem top_half : top = 2 ^ 2097 * 2 := by decide +kernel
set_option exponentiation.threshold 5000 in
theorem top_unit : top = 2 ^ 1024 * unit := by decide +kernel
set_option exponentiation.threshold 5000 in
theorem pred32768_lt_top : (2 ^ 53 - 1) * 2 ^ 1036 < top := by decide +kernel
set_option exponentiation.threshold 5000 in
theorem small_lt_top : 2 ^ 29 * unit < top := by decide +kernel

/-- the predecessor of `32768.0`, in units (`2^1036` is the grid step of the binade `[2^14, 2^15)`), is below `32768.0` -/
theorem pred32768_lt : (2 ^ 53 - 1) * 2 ^ 1036 < 32768 * unit := by
  rw [unit_split]
  have := Nat.two_pow_pos 1036
  generalize 2 ^ 1036 = E at this ⊢
  omega

theorem repU_mul_pow (c t : Nat) (hc : c < 2 ^ 53) : RepU (c * 2 ^ t) := ⟨c, t, rfl, hc⟩
theorem repU_units (c : Nat) (hc : c < 2 ^ 53) : RepU (c * unit) := by unfold unit; exact repU_mul_pow c 1074 hc
theorem repU_pow (t : Nat) : RepU (2 ^ t) := ⟨1, t, (Nat.one_mul _).symm, by decide⟩

theorem bxor_false (s : Bool) : (s != false) = s := Bool.bne_false s

/-- `fl (m / 32767)` stays finite for every finite `m`: it does not cross `2^1023` -/
theorem mult_lt_top (m : Nat) (hm : m < top) : roundUnits m 32767 < top := by
  have ht := top_half
  have hp := Nat.two_pow_pos 2097
  have h : roundUnits m 32767 ≤ 2 ^ 2097 := by
    apply roundUnits_le_of_le _ _ _ (by decide) (repU_pow 2097)
    generalize 2 ^ 2097 = E at ht
    omega
  generalize 2 ^ 2097 = E at ht hp h
  omega

theorem f64Div_fin_cases (s t : Bool) (a k : Nat) (hk : k ≠ 0) :
    f64Div (.fin s a) (.fin t k) =
      if roundUnits (a * unit) k < top then .fin (s != t) (roundUnits (a * unit) k) else .inf (s != t) := by
  unfold f64Div
  simp only []
  rw [if_neg hk]

theorem f64Div_fin (s t : Bool) (a k : Nat) (hk : k ≠ 0) (hr : roundUnits (a * unit) k < top) :
    f64Div (.fin s a) (.fin t k) = .fin (s != t) (roundUnits (a * unit) k) := by
  rw [f64Div_fin_cases s t a k hk, if_pos hr]

theorem quantMultiplier_fin (s : Bool) (m : Nat) (hm : m < top) :
    quantMultiplier (.fin s m) = .fin s (roundUnits m 32767) := by
  have hne : 32767 * unit ≠ 0 := Nat.ne_of_gt (Nat.mul_pos (by decide) unit_pos)
  unfold quantMultiplier f64Q15
  rw [f64Div_fin_cases s false m _ hne, roundUnits_scale _ _ _ unit_pos, if_pos (mult_lt_top m hm), bxor_false]

/-- for `m > 2^29 − 2^15` units (the exact bound; in particular for `m ≥ 2^29`) the multiplier `k = fl (m/32767)` (possibly subnormal) satisfies `m / k ≤ 32768·(1 − 2^-53)` -/
theorem mult_lower (m : Nat) (hT : 2 ^ 29 - 2 ^ 15 < m) : m * 2 ^ 38 ≤ (2 ^ 53 - 1) * roundUnits m 32767 := by
  rcases roundUnits_lower m 32767 (by decide) with h | h <;> omega

/-- … and `m / k ≥ 32766` -/
theorem mult_upper (m : Nat) (hT : 2 ^ 29 - 2 ^ 15 < m) : 32766 * roundUnits m 32767 ≤ m := by
  rcases roundUnits_upper m 32767 (by decide) with h | h <;> omega

theorem mult_ne_zero (m : Nat) (hT : 2 ^ 29 - 2 ^ 15 < m) : roundUnits m 32767 ≠ 0 := by
  intro h0
  have := mult_lower m hT
  rw [h0] at this
  omega

theorem sval_false (a : Nat) : F64.sval false a = a := rfl
theorem sval_true (a : Nat) : F64.sval true a = -(a : Int) := rfl

theorem sval_bounds (s : Bool) (t b : Nat) (h : t ≤ b) : -(b : Int) ≤ F64.sval s t ∧ F64.sval s t ≤ (b : Int) := by
  cases s
  · rw [sval_false]; omega
  · rw [sval_true]; omega

theorem trunc_fin (s : Bool) (r : Nat) (h : r / unit < 2 ^ 31) :
    f64ToI32Trunc (.fin s r) = .ok (F64.sval s (r / unit)) := by
  unfold f64ToI32Trunc
  simp only []
  cases s
  · rw [if_neg Bool.false_ne_true, if_pos h]; rfl
  · rw [if_pos rfl, if_pos (Nat.le_of_lt h)]; rfl

theorem trunc_nan (w : Int) : f64ToI32Trunc .nan ≠ .ok w := fun h => nomatch h

theorem trunc_fin_ok {s : Bool} {r : Nat} {w : Int} (h : f64ToI32Trunc (.fin s r) = .ok w) :
    w = F64.sval s (r / unit) ∧ r / unit ≤ 2 ^ 31 ∧ (s = false → r / unit < 2 ^ 31) := by
  unfold f64ToI32Trunc at h
  simp only [] at h
  cases s
  · rw [if_neg Bool.false_ne_true] at h
    by_cases c : r / unit < 2 ^ 31
    · rw [if_pos c] at h
      exact ⟨(Res.ok.inj h).symm, Nat.le_of_lt c, fun _ => c⟩
    · rw [if_neg c] at h
      exact nomatch h
  · rw [if_pos rfl] at h
    by_cases c : r / unit ≤ 2 ^ 31
    · rw [if_pos c] at h
      exact ⟨(Res.ok.inj h).symm, c, fun hs => Bool.noConfusion hs⟩
    · rw [if_neg c] at h
      exact nomatch h

theorem quantise_fin {s : Bool} {a k : Nat} (hk : k ≠ 0) (hr : roundUnits (a * unit) k < top)
    (ht : roundUnits (a * unit) k / unit < 2 ^ 31) :
    quantise (.fin s a) (.fin false k) = .ok (F64.sval s (roundUnits (a * unit) k / unit)) := by
  unfold quantise
  rw [f64Div_fin s false a k hk hr, bxor_false, trunc_fin s _ ht]

theorem quantise_fin_ok {s : Bool} {a k : Nat} {w : Int} (hk : k ≠ 0)
    (h : quantise (.fin s a) (.fin false k) = .ok w) :
    w = F64.sval s (roundUnits (a * unit) k / unit) ∧ roundUnits (a * unit) k < top ∧
      roundUnits (a * unit) k / unit ≤ 2 ^ 31 ∧ (s = false → roundUnits (a * unit) k / unit < 2 ^ 31) := by
  unfold quantise at h
  rw [f64Div_fin_cases s false a k hk, bxor_false] at h
  by_cases hr : roundUnits (a * unit) k < top
  · rw [if_pos hr] at h
    obtain ⟨h1, h2, h3⟩ := trunc_fin_ok h
    exact ⟨h1, hr, h2, h3⟩
  · rw [if_neg hr] at h
    exact nomatch h

/-- with `m / k ≤ 32768·(1 − 2^-53)`, the quotient of `a ≤ m` by `k` does not cross the predecessor of `32768.0` -/
theorem quot_le_pred {a m k : Nat} (hk0 : k ≠ 0) (ha : a ≤ m) (hk : m * 2 ^ 38 ≤ (2 ^ 53 - 1) * k) :
    roundUnits (a * unit) k ≤ (2 ^ 53 - 1) * 2 ^ 1036 := by
  have hE := repU_mul_pow (2 ^ 53 - 1) 1036 (by decide)
  rw [unit_split]
  generalize 2 ^ 1036 = E at hE ⊢
  apply roundUnits_le_of_le _ _ _ (Nat.pos_of_ne_zero hk0) hE
  calc a * (2 ^ 38 * E) ≤ m * (2 ^ 38 * E) := Nat.mul_le_mul_right _ ha
    _ = m * 2 ^ 38 * E := (Nat.mul_assoc _ _ _).symm
    _ ≤ (2 ^ 53 - 1) * k * E := Nat.mul_le_mul_right _ hk
    _ = k * ((2 ^ 53 - 1) * E) := by rw [Nat.mul_comm _ k, Nat.mul_assoc]

/-- the core of `C11_quantise_range`, on units, with the value -/
theorem quantise_range_val (s : Bool) (a m : Nat) (hT : 2 ^ 29 - 2 ^ 15 < m) (ha : a ≤ m) :
    quantise (.fin s a) (.fin false (roundUnits m 32767)) =
      .ok (F64.sval s (roundUnits (a * unit) (roundUnits m 32767) / unit)) ∧
    roundUnits (a * unit) (roundUnits m 32767) / unit ≤ 32767 := by
  have hk0 := mult_ne_zero m hT
  have hP := quot_le_pred hk0 ha (mult_lower m hT)
  have ht : roundUnits (a * unit) (roundUnits m 32767) / unit < 32768 :=
    (Nat.div_lt_iff_lt_mul unit_pos).mpr (Nat.lt_of_le_of_lt hP pred32768_lt)
  exact ⟨quantise_fin hk0 (Nat.lt_of_le_of_lt hP pred32768_lt_top) (Nat.lt_trans ht (by decide)),
    Nat.le_of_lt_succ ht⟩

/-- below the threshold the quantised value may leave the 16-bit range, but never `i32`: no undefined behaviour -/
theorem quantise_small_units (s : Bool) (a k : Nat) (ha : a < 2 ^ 29) (hk : k ≠ 0) :
    ∃ t, quantise (.fin s a) (.fin false k) = .ok (F64.sval s t) ∧ t ≤ a := by
  have hkp := Nat.pos_of_ne_zero hk
  have hP : roundUnits (a * unit) k ≤ a * unit :=
    roundUnits_le_of_le _ _ _ hkp (repU_units a (Nat.lt_trans ha (by decide))) (Nat.le_mul_of_pos_left _ hkp)
  have htop : roundUnits (a * unit) k < top :=
    Nat.lt_of_le_of_lt hP (Nat.lt_trans (Nat.mul_lt_mul_of_pos_right ha unit_pos) small_lt_top)
  have ht : roundUnits (a * unit) k / unit ≤ a := by
    apply Nat.div_le_of_le_mul
    rw [Nat.mul_comm unit a]
    exact hP
  exact ⟨_, quantise_fin hk htop (Nat.lt_of_le_of_lt ht (Nat.lt_trans ha (by decide))), ht⟩

/-- the value of maximal magnitude uses the scale fully: it is mapped to ±32767 or ±32766 -/
theorem quantise_max_units (s : Bool) (m : Nat) (hT : 2 ^ 29 - 2 ^ 15 < m) :
    ∃ t, quantise (.fin s m) (.fin false (roundUnits m 32767)) = .ok (F64.sval s t) ∧ (t = 32767 ∨ t = 32766) := by
  obtain ⟨h, ht⟩ := quantise_range_val s m m hT (Nat.le_refl _)
  refine ⟨_, h, ?_⟩
  -- the quotient does not cross 32766.0 either
  have hlow : 32766 * unit ≤ roundUnits (m * unit) (roundUnits m 32767) := by
    apply le_roundUnits_of_le _ _ _ (Nat.pos_of_ne_zero (mult_ne_zero m hT)) (repU_units 32766 (by decide))
    rw [← Nat.mul_assoc, Nat.mul_comm _ 32766]
    exact Nat.mul_le_mul_right _ (mult_upper m hT)
  have := (Nat.le_div_iff_mul_le unit_pos).mpr hlow
  omega

theorem f64Le_nonneg (a b : Nat) : f64Le (.fin false a) (.fin false b) = decide (a ≤ b) :=
  decide_eq_decide.mpr Int.ofNat_le

/-- `2^-1045` (the subnormal with bit pattern `0x0000000020000000`, `2^29` units): the least power of two from which on the
16-bit range claim holds -/
def quantThreshold : F64 := F64.ofBits 0x20000000

theorem quantThreshold_eq : quantThreshold = .fin false (2 ^ 29) := by decide +kernel

/-- `T ≤ M` in the model's comparison means: `M` is +∞ or a non-negative finite value of at least `2^29` units -/
theorem threshold_le_fin {s : Bool} {m : Nat} (h : f64Le quantThreshold (.fin s m) = true) : s = false ∧ 2 ^ 29 ≤ m := by
  rw [quantThreshold_eq] at h
  have h' : F64.sval false (2 ^ 29) ≤ F64.sval s m := of_decide_eq_true h
  cases s
  · exact ⟨rfl, Int.ofNat_le.mp h'⟩
  · rw [sval_false, sval_true] at h'
    omega

/-- `(2^29 − 2^15)·2^-1074` (pattern `0x1FFF8000`): the largest `weight_max` for which the range claim fails -/
def quantLastBad : F64 := F64.ofBits 0x1FFF8000

theorem quantLastBad_eq : quantLastBad = .fin false (2 ^ 29 - 2 ^ 15) := by decide +kernel

/-- `¬ (M ≤ lastBad)` for a finite `M` means: `M` is positive and has more than `2^29 − 2^15` units -/
theorem lastBad_lt_fin {s : Bool} {m : Nat} (h : f64Le (.fin s m) quantLastBad = false) : s = false ∧ 2 ^ 29 - 2 ^ 15 < m := by
  rw [quantLastBad_eq] at h
  have h' : ¬ F64.sval s m ≤ F64.sval false (2 ^ 29 - 2 ^ 15) := of_decide_eq_false h
  cases s
  · exact ⟨rfl, Nat.lt_of_not_le fun hle => h' (Int.ofNat_le.mpr hle)⟩
  · rw [sval_false, sval_true] at h'
    omega

theorem abs_le_fin {s t : Bool} {a m : Nat} (h : f64Le (f64Abs (.fin s a)) (.fin t m) = true) (ht : t = false) : a ≤ m := by
  subst ht
  have h' : F64.sval false a ≤ F64.sval false m := of_decide_eq_true h
  exact Int.ofNat_le.mp h'

theorem f64Max_fin (A c : Nat) : f64Max (.fin false A) (.fin false c) = .fin false (max A c) := by
  have e : f64Max (.fin false A) (.fin false c) =
      if f64Le (.fin false A) (.fin false c) then .fin false c else .fin false A := rfl
  rw [e, f64Le_nonneg, Nat.max_def]
  by_cases h : A ≤ c
  · rw [decide_eq_true h, if_pos rfl, if_pos h]
  · rw [decide_eq_false h, if_neg Bool.false_ne_true, if_neg h]

theorem f64IsZero_fin (s : Bool) (k : Nat) : f64IsZero (.fin s k) = decide (k = 0) := by
  cases k <;> rfl

theorem finite_cases {x : F64} (h : x.Finite) : ∃ s a, x = .fin s a ∧ a < top := by
  cases x with
  | fin s a => exact ⟨s, a, rfl, h⟩
  | _ => exact h.elim

theorem fin_mag {x : F64} (h : x.Finite) : ∃ s, x = .fin s x.mag := by
  obtain ⟨s, a, rfl, _⟩ := finite_cases h
  exact ⟨s, rfl⟩

/-- the running maximum over finite values is the (finite, non-negative) maximum of the magnitudes, and it is attained -/
theorem foldMax_fin (cs : List F64) (A : Nat) (hA : A < top) (hc : ∀ c ∈ cs, c.Finite) :
    ∃ M, cs.foldl (fun m c => f64Max m (f64Abs c)) (.fin false A) = .fin false M ∧ M < top ∧ A ≤ M ∧
      (∀ c ∈ cs, c.mag ≤ M) ∧ (M = A ∨ ∃ c ∈ cs, M = c.mag) := by
  induction cs generalizing A with
  | nil => exact ⟨A, rfl, hA, Nat.le_refl _, fun _ h => absurd h List.not_mem_nil, Or.inl rfl⟩
  | cons c cs ih =>
    obtain ⟨s, a, rfl, ha⟩ := finite_cases (hc c List.mem_cons_self)
    have hstep : f64Max (.fin false A) (f64Abs (.fin s a)) = .fin false (max A a) := f64Max_fin A a
    have hmax : max A a < top := by rw [Nat.max_def]; split <;> assumption
    obtain ⟨M, h1, h2, h3, h4, h5⟩ := ih (max A a) hmax (fun c' h => hc c' (List.mem_cons_of_mem _ h))
    refine ⟨M, ?_, h2, Nat.le_trans (Nat.le_max_left _ _) h3, ?_, ?_⟩
    · rw [List.foldl_cons, hstep]; exact h1
    · intro c' hc'
      rcases List.mem_cons.mp hc' with rfl | h
      · exact Nat.le_trans (Nat.le_max_right _ _) h3
      · exact h4 c' h
    · rcases h5 with h5 | ⟨c', hc', h5⟩
      · by_cases hAa : A ≤ a
        · right; exact ⟨.fin s a, List.mem_cons_self, by rw [h5, Nat.max_eq_right hAa]; rfl⟩
        · left; rw [h5, Nat.max_eq_left (Nat.le_of_not_le hAa)]
      · right; exact ⟨c', List.mem_cons_of_mem _ hc', h5⟩

theorem weightMax_fin (bias : F64) (coefs : List F64) (hb : bias.Finite) (hc : ∀ c ∈ coefs, c.Finite) :
    ∃ M, weightMax bias coefs = .fin false M ∧ M < top ∧ bias.mag ≤ M ∧ (∀ c ∈ coefs, c.mag ≤ M) ∧
      (M = bias.mag ∨ ∃ c ∈ coefs, M = c.mag) := by
  obtain ⟨s, a, rfl, ha⟩ := finite_cases hb
  exact foldMax_fin coefs a ha hc

/-- every value the loop divides is finite and bounded by `weight_max`, and one of them attains it -/
theorem members_bounded (bias : F64) (coefs : List F64) (hb : bias.Finite) (hc : ∀ c ∈ coefs, c.Finite) :
    ∃ M, weightMax bias coefs = .fin false M ∧ M < top ∧
      (∀ c, c = bias ∨ c ∈ coefs → ∃ s a, c = .fin s a ∧ a ≤ M) ∧
      (∃ c, (c = bias ∨ c ∈ coefs) ∧ ∃ s, c = .fin s M) := by
  obtain ⟨M, h1, h2, h3, h4, h5⟩ := weightMax_fin bias coefs hb hc
  refine ⟨M, h1, h2, ?_, ?_⟩
  · intro c hcm
    have hf : c.Finite ∧ c.mag ≤ M := by
      rcases hcm with rfl | hcm
      · exact ⟨hb, h3⟩
      · exact ⟨hc c hcm, h4 c hcm⟩
    obtain ⟨s, hs⟩ := fin_mag hf.1
    exact ⟨s, _, hs, hf.2⟩
  · rcases h5 with h5 | ⟨c, hcm, h5⟩
    · exact ⟨bias, Or.inl rfl, by rw [h5]; exact fin_mag hb⟩
    · exact ⟨c, Or.inr hcm, by rw [h5]; exact fin_mag (hc c hcm)⟩

theorem quantiseList_ok (mult : F64) (P : Int → Prop) (cs : List F64)
    (h : ∀ c ∈ cs, ∃ w, quantise c mult = .ok w ∧ P w) :
    ∃ ws, quantiseList mult cs = .ok ws ∧ ws.length = cs.length ∧ ∀ w ∈ ws, P w := by
  induction cs with
  | nil => exact ⟨[], rfl, rfl, fun _ h => absurd h List.not_mem_nil⟩
  | cons c cs ih =>
    obtain ⟨w, hw, hP⟩ := h c List.mem_cons_self
    obtain ⟨ws, h1, h2, h3⟩ := ih (fun c' hc' => h c' (List.mem_cons_of_mem _ hc'))
    refine ⟨w :: ws, ?_, congrArg Nat.succ h2, ?_⟩
    · unfold quantiseList
      rw [hw, Res.bind_ok, h1]
      rfl
    · intro w' hw'
      rcases List.mem_cons.mp hw' with rfl | h'
      · exact hP
      · exact h3 w' h'

theorem quantiseList_mem (mult : F64) (cs : List F64) (ws : List Int) (h : quantiseList mult cs = .ok ws) :
    ∀ c ∈ cs, ∃ w ∈ ws, quantise c mult = .ok w := by
  induction cs generalizing ws with
  | nil => intro c hc; exact absurd hc List.not_mem_nil
  | cons c cs ih =>
    obtain ⟨w, hq, h⟩ := Res.bind_eq_ok h
    obtain ⟨ws', hl, rfl⟩ := Res.map_eq_ok h
    intro c' hc'
    rcases List.mem_cons.mp hc' with rfl | hc'
    · exact ⟨w, List.mem_cons_self, hq⟩
    · obtain ⟨w', hw', hq'⟩ := ih ws' hl c' hc'
      exact ⟨w', List.mem_cons_of_mem _ hw', hq'⟩

theorem quantiseAll_eq (bias : F64) (coefs : List F64) : quantiseAll bias coefs =
    if f64IsZero (quantMultiplier (weightMax bias coefs)) then .err .invalidModel
    else (quantise bias (quantMultiplier (weightMax bias coefs))).bind fun b =>
      (quantiseList (quantMultiplier (weightMax bias coefs)) coefs).map fun ws => (b, ws) := rfl

theorem quantiseAll_ok_inv {bias : F64} {coefs : List F64} {b : Int} {ws : List Int}
    (h : quantiseAll bias coefs = .ok (b, ws)) :
    f64IsZero (quantMultiplier (weightMax bias coefs)) = false ∧
    quantise bias (quantMultiplier (weightMax bias coefs)) = .ok b ∧
    quantiseList (quantMultiplier (weightMax bias coefs)) coefs = .ok ws := by
  rw [quantiseAll_eq] at h
  by_cases hz : f64IsZero (quantMultiplier (weightMax bias coefs)) = true
  · rw [if_pos hz] at h
    exact nomatch h
  · rw [if_neg hz] at h
    obtain ⟨b', hq, h⟩ := Res.bind_eq_ok h
    obtain ⟨ws', hl, he⟩ := Res.map_eq_ok h
    obtain ⟨rfl, rfl⟩ := Prod.mk.inj he
    exact ⟨Bool.eq_false_iff.mpr hz, hq, hl⟩

theorem quantiseAll_err (bias : F64) (coefs : List F64) (M : Nat)
    (hwm : weightMax bias coefs = .fin false M) (hM : M < top) (hk : roundUnits M 32767 = 0) :
    quantiseAll bias coefs = .err .invalidModel := by
  have hz : f64IsZero (quantMultiplier (weightMax bias coefs)) = true := by
    rw [hwm, quantMultiplier_fin false M hM, hk]
    rfl
  rw [quantiseAll_eq, if_pos hz]

/-- within ±32767: what `i16` holds, without `-32768` -/
def InQ15 (w : Int) : Prop := -32767 ≤ w ∧ w ≤ 32767

theorem quantiseAll_of (bias : F64) (coefs : List F64) (hb : bias.Finite) (hc : ∀ c ∈ coefs, c.Finite)
    (M : Nat) (hwm : weightMax bias coefs = .fin false M) (P : Int → Prop) (hk0 : roundUnits M 32767 ≠ 0)
    (hq : ∀ s a, a ≤ M → ∃ w, quantise (.fin s a) (.fin false (roundUnits M 32767)) = .ok w ∧ P w) :
    ∃ b ws, quantiseAll bias coefs = .ok (b, ws) ∧ ws.length = coefs.length ∧ P b ∧ ∀ w ∈ ws, P w := by
  obtain ⟨M', h1, hM, h3, _⟩ := members_bounded bias coefs hb hc
  obtain rfl : M' = M := by rw [hwm] at h1; exact (F64.fin.inj h1).2.symm
  have hq' : ∀ c, c = bias ∨ c ∈ coefs → ∃ w, quantise c (.fin false (roundUnits M' 32767)) = .ok w ∧ P w := by
    intro c hcm
    obtain ⟨s, a, rfl, ha⟩ := h3 c hcm
    exact hq s a ha
  obtain ⟨b, hqb, hPb⟩ := hq' bias (Or.inl rfl)
  obtain ⟨ws, h1, h2, h3⟩ := quantiseList_ok _ P coefs (fun c hc => hq' c (Or.inr hc))
  refine ⟨b, ws, ?_, h2, hPb, h3⟩
  rw [quantiseAll_eq, hwm, quantMultiplier_fin false M' hM, f64IsZero_fin, decide_eq_false hk0,
    if_neg Bool.false_ne_true, hqb, Res.bind_ok, h1]
  rfl

theorem quantiseAll_big (bias : F64) (coefs : List F64) (hb : bias.Finite) (hc : ∀ c ∈ coefs, c.Finite)
    (M : Nat) (hwm : weightMax bias coefs = .fin false M) (hT : 2 ^ 29 - 2 ^ 15 < M) :
    ∃ b ws, quantiseAll bias coefs = .ok (b, ws) ∧ ws.length = coefs.length ∧ InQ15 b ∧ ∀ w ∈ ws, InQ15 w := by
  apply quantiseAll_of bias coefs hb hc M hwm InQ15 (mult_ne_zero M hT)
  intro s a ha
  obtain ⟨h, hle⟩ := quantise_range_val s a M hT ha
  exact ⟨_, h, sval_bounds s _ 32767 hle⟩

/-- `weight_max < 2^29` units (below `2^-1045`): an error or a result, never undefined behaviour; the values are bounded by
`weight_max` in units (so below `2^29`), not by 32767 -/
theorem quantiseAll_small (bias : F64) (coefs : List F64) (hb : bias.Finite) (hc : ∀ c ∈ coefs, c.Finite)
    (M : Nat) (hwm : weightMax bias coefs = .fin false M) (hT : M < 2 ^ 29) :
    quantiseAll bias coefs = .err .invalidModel ∨
    ∃ b ws, quantiseAll bias coefs = .ok (b, ws) ∧ ws.length = coefs.length ∧
      (-(M : Int) ≤ b ∧ b ≤ M) ∧ ∀ w ∈ ws, -(M : Int) ≤ w ∧ w ≤ M := by
  by_cases hk0 : roundUnits M 32767 = 0
  · obtain ⟨M', h1, hM, _⟩ := weightMax_fin bias coefs hb hc
    obtain rfl : M' = M := by rw [hwm] at h1; exact (F64.fin.inj h1).2.symm
    exact Or.inl (quantiseAll_err bias coefs M' hwm hM hk0)
  · right
    apply quantiseAll_of bias coefs hb hc M hwm (fun w => -(M : Int) ≤ w ∧ w ≤ M) hk0
    intro s a ha
    obtain ⟨t, ht, hle⟩ := quantise_small_units s a (roundUnits M 32767) (Nat.lt_of_le_of_lt ha hT) hk0
    exact ⟨_, ht, sval_bounds s t M (Nat.le_trans hle ha)⟩

/-- a monotone function that fixes 0, applied to magnitudes, is monotone on signed values -/
theorem sval_mono {f : Nat → Nat} (hf : ∀ {p q}, p ≤ q → f p ≤ f q) (h0 : f 0 = 0) {s t : Bool} {a b : Nat}
    (hle : F64.sval s a ≤ F64.sval t b) : F64.sval s (f a) ≤ F64.sval t (f b) := by
  cases s <;> cases t <;> simp only [sval_false, sval_true] at hle ⊢
  · exact Int.ofNat_le.mpr (hf (Int.ofNat_le.mp hle))
  · obtain ⟨rfl, rfl⟩ : a = 0 ∧ b = 0 := by omega
    rw [h0]
    decide
  · generalize f a = x
    generalize f b = y
    omega
  · have := hf (p := b) (q := a) (by omega)
    omega

theorem quantise_mono_units {s t : Bool} {a b k : Nat} {wx wy : Int} (hk : k ≠ 0)
    (hle : F64.sval s a ≤ F64.sval t b)
    (hx : quantise (.fin s a) (.fin false k) = .ok wx) (hy : quantise (.fin t b) (.fin false k) = .ok wy) : wx ≤ wy := by
  obtain ⟨rfl, _, _, _⟩ := quantise_fin_ok hk hx
  obtain ⟨rfl, _, _, _⟩ := quantise_fin_ok hk hy
  have hkp : 0 < k := Nat.pos_of_ne_zero hk
  apply sval_mono (f := fun p => roundUnits (p * unit) k / unit) _ _ hle
  · intro p q h
    exact Nat.div_le_div_right (roundUnits_mono _ _ _ hkp (Nat.mul_le_mul_right _ h))
  · show roundUnits (0 * unit) k / unit = 0
    rw [Nat.zero_mul, roundUnits_zero k hkp, Nat.zero_div]

/-! ## the tag trainer's variant: `weight_max` starts at `1e-6`, far above the threshold -/

set_option exponentiation.threshold 5000 in
theorem tagFloor_eq : f64TagFloor = .fin false ((2 ^ 52 + 0xC6F7A0B5ED8D) * 2 ^ 1002) := by decide +kernel
set_option exponentiation.threshold 5000 in
theorem tagFloor_ge : 2 ^ 29 ≤ (2 ^ 52 + 0xC6F7A0B5ED8D) * 2 ^ 1002 := by decide +kernel
set_option exponentiation.threshold 5000 in
theorem tagFloor_lt : (2 ^ 52 + 0xC6F7A0B5ED8D) * 2 ^ 1002 < top := by decide +kernel

end V.QuantL
