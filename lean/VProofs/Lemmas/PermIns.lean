import VProofs.Lemmas.AsmOrder
import VProofs.Lemmas.PermBase
/-!
# The generic `BTreeMap` update on a key-sorted association list

`insK lt k f m` is `*map.entry(k).or_insert(f none) = f (some old)`.  `tagUpsert`, `exInsert` and `placeNgram` of
`VModel/Trainer.lean` are instances.  On strictly sorted lists `insK` is the update of the finite map `lookupK m`
(`lookupK_insK`), two such lists with the same lookup function are equal, and so updates of different keys commute, and
updates of the same key commute when their value functions do.
-/
namespace V.PermL
open V V.C09L

variable {κ β : Type} [DecidableEq κ]

def insK (lt : κ → κ → Bool) (k : κ) (f : Option β → β) : List (κ × β) → List (κ × β)
  | [] => [(k, f none)]
  | (k', v') :: r =>
    if k' = k then (k', f (some v')) :: r
    else if lt k k' then (k, f none) :: (k', v') :: r
    else (k', v') :: insK lt k f r

theorem KSorted.ext {lt : κ → κ → Bool} (st : StrictTotal lt) {m₁ m₂ : List (κ × β)}
    (s₁ : KSorted lt m₁) (s₂ : KSorted lt m₂) (h : ∀ k, lookupK m₁ k = lookupK m₂ k) : m₁ = m₂ :=
  eq_of_sorted_lookupK_eq lt st.irrefl st.trans s₁ s₂ h

theorem insK_cons_eq (lt : κ → κ → Bool) (k : κ) (f : Option β → β) {k₀ : κ} (v₀ : β) (r : List (κ × β)) (h : k₀ = k) :
    insK lt k f ((k₀, v₀) :: r) = (k₀, f (some v₀)) :: r := if_pos h

theorem insK_cons_lt (lt : κ → κ → Bool) (k : κ) (f : Option β → β) {k₀ : κ} (v₀ : β) (r : List (κ × β)) (h : ¬ k₀ = k)
    (hlt : lt k k₀ = true) : insK lt k f ((k₀, v₀) :: r) = (k, f none) :: (k₀, v₀) :: r :=
  (if_neg h).trans (if_pos hlt)

theorem insK_cons_gt (lt : κ → κ → Bool) (k : κ) (f : Option β → β) {k₀ : κ} (v₀ : β) (r : List (κ × β)) (h : ¬ k₀ = k)
    (hlt : ¬ lt k k₀ = true) : insK lt k f ((k₀, v₀) :: r) = (k₀, v₀) :: insK lt k f r :=
  (if_neg h).trans (if_neg hlt)

theorem mem_insK (lt : κ → κ → Bool) (k : κ) (f : Option β → β) :
    ∀ (m : List (κ × β)), ∀ e ∈ insK lt k f m, e ∈ m ∨ e = (k, f none) ∨ ∃ v, (k, v) ∈ m ∧ e = (k, f (some v))
  | [], e, he => Or.inr (Or.inl (List.mem_singleton.mp he))
  | (k₀, v₀) :: r, e, he => by
    by_cases hk : k₀ = k
    · rw [insK_cons_eq lt k f v₀ r hk] at he
      rcases List.mem_cons.mp he with h | h
      · exact Or.inr (Or.inr ⟨v₀, hk ▸ List.mem_cons_self, by rw [h, hk]⟩)
      · exact Or.inl (List.mem_cons_of_mem _ h)
    · by_cases hlt : lt k k₀ = true
      · rw [insK_cons_lt lt k f v₀ r hk hlt] at he
        rcases List.mem_cons.mp he with h | h
        · exact Or.inr (Or.inl h)
        · exact Or.inl h
      · rw [insK_cons_gt lt k f v₀ r hk hlt] at he
        rcases List.mem_cons.mp he with h | h
        · exact Or.inl (h ▸ List.mem_cons_self)
        · rcases mem_insK lt k f r e h with h | h | ⟨v, hv, h⟩
          · exact Or.inl (List.mem_cons_of_mem _ h)
          · exact Or.inr (Or.inl h)
          · exact Or.inr (Or.inr ⟨v, List.mem_cons_of_mem _ hv, h⟩)

theorem insK_all (lt : κ → κ → Bool) (k : κ) (f : Option β → β) (P : β → Prop) (hf : ∀ o, (∀ v, o = some v → P v) → P (f o))
    (m : List (κ × β)) (hm : ∀ e ∈ m, P e.2) : ∀ e ∈ insK lt k f m, P e.2 := by
  intro e he
  rcases mem_insK lt k f m e he with h | h | ⟨v, hv, h⟩
  · exact hm e h
  · rw [h]; exact hf none (fun _ h => nomatch h)
  · rw [h]; exact hf (some v) (fun _ h => Option.some.inj h ▸ hm (k, v) hv)

theorem lookupK_insK_ne (lt : κ → κ → Bool) (k : κ) (f : Option β → β) {k' : κ} (hne : k' ≠ k) :
    ∀ (m : List (κ × β)), lookupK (insK lt k f m) k' = lookupK m k'
  | [] => by rw [insK, lookupK_cons, if_neg (fun e => hne e.symm)]
  | (k₀, v₀) :: r => by
    by_cases hk : k₀ = k
    · have hk' : ¬ k₀ = k' := fun e => hne (e.symm.trans hk)
      rw [insK_cons_eq lt k f v₀ r hk, lookupK_cons, lookupK_cons, if_neg hk', if_neg hk']
    · by_cases hlt : lt k k₀ = true
      · rw [insK_cons_lt lt k f v₀ r hk hlt, lookupK_cons, if_neg (fun e => hne e.symm)]
      · rw [insK_cons_gt lt k f v₀ r hk hlt, lookupK_cons, lookupK_cons, lookupK_insK_ne lt k f hne r]

theorem insK_sorted {lt : κ → κ → Bool} (st : StrictTotal lt) (k : κ) (f : Option β → β) :
    ∀ {m : List (κ × β)}, KSorted lt m → KSorted lt (insK lt k f m)
  | [], _ => List.pairwise_singleton _ _
  | (k₀, v₀) :: r, hs => by
    have hs' := List.pairwise_cons.mp hs
    by_cases hk : k₀ = k
    · rw [insK_cons_eq lt k f v₀ r hk]
      exact List.pairwise_cons.mpr hs'
    · by_cases hlt : lt k k₀ = true
      · rw [insK_cons_lt lt k f v₀ r hk hlt]
        refine List.pairwise_cons.mpr ⟨?_, hs⟩
        intro y hy
        rcases List.mem_cons.mp hy with h | h
        · rw [h]
          exact hlt
        · exact st.trans _ _ _ hlt (hs'.1 y h)
      · rw [insK_cons_gt lt k f v₀ r hk hlt]
        refine List.pairwise_cons.mpr ⟨?_, insK_sorted st k f hs'.2⟩
        intro y hy
        have hk₀ : lt k₀ k = true := st.conn k k₀ (fun e => hk e.symm) (Bool.not_eq_true _ ▸ hlt)
        rcases mem_insK lt k f r y hy with h | h | ⟨_, _, h⟩
        · exact hs'.1 y h
        · rw [h]
          exact hk₀
        · rw [h]
          exact hk₀

theorem lookupK_insK_self {lt : κ → κ → Bool} (st : StrictTotal lt) (k : κ) (f : Option β → β) :
    ∀ {m : List (κ × β)}, KSorted lt m → lookupK (insK lt k f m) k = some (f (lookupK m k))
  | [], _ => by rw [insK, lookupK_cons, if_pos rfl, lookupK_nil]
  | (k₀, v₀) :: r, hs => by
    have hs' := List.pairwise_cons.mp hs
    by_cases hk : k₀ = k
    · rw [insK_cons_eq lt k f v₀ r hk, lookupK_cons, lookupK_cons, if_pos hk, if_pos hk]
    · by_cases hlt : lt k k₀ = true
      · -- every key of the list is above `k`
        have hno : lookupK ((k₀, v₀) :: r) k = none := by
          rw [lookupK_eq_none]
          intro e he heq
          have h : lt k e.1 = true := by
            rcases List.mem_cons.mp he with h | h
            · rw [h]
              exact hlt
            · exact st.trans _ _ _ hlt (hs'.1 e h)
          rw [heq, st.irrefl] at h
          exact Bool.noConfusion h
        rw [insK_cons_lt lt k f v₀ r hk hlt, lookupK_cons, if_pos rfl, hno]
      · rw [insK_cons_gt lt k f v₀ r hk hlt, lookupK_cons, if_neg hk, lookupK_cons, if_neg hk,
          lookupK_insK_self st k f hs'.2]

theorem lookupK_insK {lt : κ → κ → Bool} (st : StrictTotal lt) (k : κ) (f : Option β → β) {m : List (κ × β)}
    (hs : KSorted lt m) (k' : κ) :
    lookupK (insK lt k f m) k' = if k' = k then some (f (lookupK m k)) else lookupK m k' := by
  split
  · next h => rw [h, lookupK_insK_self st k f hs]
  · next h => exact lookupK_insK_ne lt k f h m

theorem mem_insK_iff {lt : κ → κ → Bool} (st : StrictTotal lt) (k : κ) (f : Option β → β)
    {m : List (κ × β)} (hs : KSorted lt m) (e : κ × β) :
    e ∈ insK lt k f m ↔ (e ∈ m ∧ e.1 ≠ k) ∨ e = (k, f (lookupK m k)) := by
  obtain ⟨k', v⟩ := e
  rw [← lookupK_iff_mem (keys_nodup_of_sorted lt st.irrefl (insK_sorted st k f hs)), lookupK_insK st k f hs]
  split
  · next hk =>
    subst hk
    exact ⟨fun h => Or.inr (Option.some.inj h ▸ rfl), fun h => h.elim (fun h => absurd rfl h.2) fun h => (Prod.mk.inj h).2 ▸ rfl⟩
  · next hk =>
    rw [lookupK_iff_mem (keys_nodup_of_sorted lt st.irrefl hs)]
    exact ⟨fun h => Or.inl ⟨h, hk⟩, fun h => h.elim And.left fun h => absurd (Prod.mk.inj h).1 hk⟩

theorem insK_congr {lt : κ → κ → Bool} (st : StrictTotal lt) (k : κ) {f g : Option β → β} {m : List (κ × β)}
    (hs : KSorted lt m) (h : f (lookupK m k) = g (lookupK m k)) : insK lt k f m = insK lt k g m := by
  refine KSorted.ext st (insK_sorted st k f hs) (insK_sorted st k g hs) ?_
  intro k'
  rw [lookupK_insK st k f hs, lookupK_insK st k g hs, h]

theorem insK_eq_self {lt : κ → κ → Bool} (st : StrictTotal lt) (k : κ) {f : Option β → β} {m : List (κ × β)}
    (hs : KSorted lt m) {v : β} (hv : lookupK m k = some v) (h : f (some v) = v) : insK lt k f m = m := by
  refine KSorted.ext st (insK_sorted st k f hs) hs ?_
  intro k'
  rw [lookupK_insK st k f hs]
  split
  · next hk => rw [hk, hv, h]
  · rfl

theorem insK_comm {lt : κ → κ → Bool} (st : StrictTotal lt) (k₁ k₂ : κ) (f₁ f₂ : Option β → β)
    (hf : k₁ = k₂ → ∀ o, f₂ (some (f₁ o)) = f₁ (some (f₂ o))) {m : List (κ × β)} (hs : KSorted lt m) :
    insK lt k₂ f₂ (insK lt k₁ f₁ m) = insK lt k₁ f₁ (insK lt k₂ f₂ m) := by
  have s₁ := insK_sorted st k₁ f₁ hs
  have s₂ := insK_sorted st k₂ f₂ hs
  refine KSorted.ext st (insK_sorted st k₂ f₂ s₁) (insK_sorted st k₁ f₁ s₂) ?_
  intro k
  rw [lookupK_insK st k₂ f₂ s₁, lookupK_insK st k₁ f₁ s₂, lookupK_insK st k₁ f₁ hs, lookupK_insK st k₂ f₂ hs,
    lookupK_insK st k₁ f₁ hs, lookupK_insK st k₂ f₂ hs]
  by_cases h : k₁ = k₂
  · subst h
    by_cases hk : k = k₁
    · simp only [hk, if_true, hf rfl]
    · simp only [hk, if_false]
  · have h' : ¬ k₂ = k₁ := fun e => h e.symm
    by_cases hk : k = k₁
    · have : ¬ k₁ = k₂ := h
      simp only [hk, h, h', if_true, if_false]
    · simp only [hk, h, h', if_false]

/-- two checked writes whose checks do not depend on the state (among the states satisfying `I`) commute when the writes
do; when both checks fail the order decides which site is reported (so with one site the outcomes are equal) -/
theorem guard_comm {σ : Type} (I : σ → Prop) (g₁ g₂ : σ → Res σ) (c₁ c₂ : Prop) [Decidable c₁] [Decidable c₂]
    (s₁ s₂ : String) (u₁ u₂ : σ → σ)
    (e₁ : ∀ m, I m → g₁ m = if c₁ then .ok (u₁ m) else .panic s₁)
    (e₂ : ∀ m, I m → g₂ m = if c₂ then .ok (u₂ m) else .panic s₂)
    (i₁ : c₁ → ∀ m, I m → I (u₁ m)) (i₂ : c₂ → ∀ m, I m → I (u₂ m)) {m : σ} (hm : I m)
    (h : c₁ → c₂ → u₂ (u₁ m) = u₁ (u₂ m)) :
    (g₁ m).bind g₂ = (g₂ m).bind g₁ ∨ ((g₁ m).bind g₂ = .panic s₁ ∧ (g₂ m).bind g₁ = .panic s₂) := by
  rw [e₁ m hm, e₂ m hm]
  by_cases h₁ : c₁
  · by_cases h₂ : c₂
    · rw [if_pos h₁, if_pos h₂, Res.bind_ok, Res.bind_ok, e₂ _ (i₁ h₁ m hm), e₁ _ (i₂ h₂ m hm), if_pos h₁, if_pos h₂, h h₁ h₂]
      exact Or.inl rfl
    · rw [if_pos h₁, if_neg h₂, Res.bind_ok, e₂ _ (i₁ h₁ m hm), if_neg h₂]
      exact Or.inl rfl
  · by_cases h₂ : c₂
    · rw [if_neg h₁, if_pos h₂, Res.bind_ok, e₁ _ (i₂ h₂ m hm), if_neg h₁]
      exact Or.inl rfl
    · rw [if_neg h₁, if_neg h₂]
      exact Or.inr ⟨rfl, rfl⟩

end V.PermL
