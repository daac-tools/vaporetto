import VProofs.Lemmas.ScoreSum
import VProofs.Lemmas.ScoreWeights
/-!
# Locality of the pointwise linear model (C01): the score of a boundary only depends on a window of the text
-/
namespace V.C01Loc
open V.C01L
variable {α : Type} [DecidableEq α]

theorem isSuffix_mid (g pre mid post : List α) (j : Nat) (hj : j + 1 ≤ mid.length) (hg : g.length ≤ j + 1) :
    g.isSuffixOf ((pre ++ mid ++ post).take (pre.length + j + 1)) = g.isSuffixOf (mid.take (j + 1)) := by
  have ht : (pre ++ mid ++ post).take (pre.length + j + 1) = pre ++ mid.take (j + 1) := by
    rw [List.append_assoc, Nat.add_assoc, List.take_length_add_append, List.take_append_of_le_length hj]
  rw [ht, Bool.eq_iff_iff, List.isSuffixOf_iff_suffix, List.isSuffixOf_iff_suffix]
  constructor
  · intro h
    exact List.suffix_of_suffix_length_le h (List.suffix_append _ _) (by rw [List.length_take]; omega)
  · intro h
    exact h.trans (List.suffix_append _ _)

theorem occ_local (g pre mid post : List α) (h : Nat → Int) (hg1 : 1 ≤ g.length)
    (h1 : ∀ e, e < pre.length + g.length → h e = 0) (h2 : ∀ e, pre.length + mid.length < e → h e = 0) :
    ((occEnds g (pre ++ mid ++ post)).map h).sum = ((occEnds g mid).map fun e => h (pre.length + e)).sum := by
  rw [occ_sum, occ_sum]
  have hl : (pre ++ mid ++ post).length = pre.length + (mid.length + post.length) := by
    simp only [List.length_append]; omega
  rw [hl, List.range_add, List.map_append, isum_append, List.range_add, List.map_append, List.map_append, isum_append,
    List.map_map, List.map_map, List.map_map]
  have z1 : ((List.range pre.length).map fun k =>
      if g.isSuffixOf ((pre ++ mid ++ post).take (k + 1)) then h (k + 1) else 0).sum = 0 := by
    apply isum_map_eq_zero
    intro k hk
    have hk' := List.mem_range.mp hk
    split
    next => exact h1 _ (by omega)
    next => rfl
  have z3 : ((List.range post.length).map
      (((fun k => if g.isSuffixOf ((pre ++ mid ++ post).take (k + 1)) then h (k + 1) else 0) ∘
        (fun x => pre.length + x)) ∘ fun x => mid.length + x)).sum = 0 := by
    apply isum_map_eq_zero
    intro k _
    simp only [Function.comp]
    split
    next => exact h2 _ (by omega)
    next => rfl
  rw [z1, z3, Int.zero_add, Int.add_zero]
  apply isum_map_congr
  intro j hj
  have hj' := List.mem_range.mp hj
  simp only [Function.comp]
  by_cases hg : g.length ≤ j + 1
  · rw [← Nat.add_assoc, isSuffix_mid g pre mid post j hj' hg]
  · rw [h1 (pre.length + j + 1) (by omega), h1 (pre.length + (j + 1)) (by omega)]
    simp

/-- `L` is the window of an n-gram or the length of a dictionary word: `w` is short enough for occurrences that begin
before `mid` to miss the boundary, and `mid` long enough for those that end after it -/
theorem entry_local (L : Nat) (g : List α) (w : List Int) (pre mid post : List α) (k : Nat)
    (hg1 : 1 ≤ g.length) (hw : w.length + g.length ≤ L + k + 2) (hk2 : k + 1 + L ≤ mid.length) :
    ((occEnds g (pre ++ mid ++ post)).map fun (e : Nat) =>
        getZ w (((pre.length + k : Nat) : Int) + 1 + (L : Int) - (e : Int))).sum
      = ((occEnds g mid).map fun (e : Nat) => getZ w ((k : Int) + 1 + (L : Int) - (e : Int))).sum := by
  rw [occ_local g pre mid post (fun (e : Nat) => getZ w (((pre.length + k : Nat) : Int) + 1 + (L : Int) - (e : Int))) hg1]
  · apply isum_map_congr
    intro e _
    show getZ w _ = getZ w _
    congr 1
    omega
  · intro e he
    apply getZ_ge
    omega
  · intro e he
    apply getZ_neg
    omega

theorem ngramScore_local (W : Nat) (tbl : List (NgramData α)) (pre mid post : List α) (k : Nat)
    (hs : ∀ d ∈ tbl, 1 ≤ d.ngram.length ∧ d.ngram.length ≤ 2 * W ∧ d.weights.length = 2 * W - d.ngram.length + 1)
    (hk1 : W ≤ k + 1) (hk2 : k + 1 + W ≤ mid.length) :
    ngramScore W tbl (pre ++ mid ++ post) (pre.length + k) = ngramScore W tbl mid k := by
  unfold ngramScore
  congr 1
  apply List.map_congr_left
  intro d hd
  obtain ⟨a, b, c⟩ := hs d hd
  exact entry_local W d.ngram d.weights pre mid post k a (by omega) hk2

theorem dictScore_local (tbl : List DictWord) (pre mid post : List Char) (k : Nat)
    (hs : ∀ d ∈ tbl, 1 ≤ d.word.length ∧ d.weights.length = d.word.length + 1 ∧ d.word.length ≤ k + 1 ∧
      k + 1 + d.word.length ≤ mid.length) :
    dictScore tbl (pre ++ mid ++ post) (pre.length + k) = dictScore tbl mid k := by
  unfold dictScore
  congr 1
  apply List.map_congr_left
  intro d hd
  obtain ⟨a0, a, b, c⟩ := hs d hd
  exact entry_local d.word.length d.word d.weights pre mid post k a0 (by omega) c

theorem specScore_local (m : WModel)
    (hcs : ∀ d ∈ m.charNgrams, 1 ≤ d.ngram.length ∧ d.ngram.length ≤ 2 * m.charW ∧
      d.weights.length = 2 * m.charW - d.ngram.length + 1)
    (hts : ∀ d ∈ m.typeNgrams, 1 ≤ d.ngram.length ∧ d.ngram.length ≤ 2 * m.typeW ∧
      d.weights.length = 2 * m.typeW - d.ngram.length + 1)
    (hds : ∀ d ∈ m.dict, 1 ≤ d.word.length ∧ d.weights.length = d.word.length + 1)
    (R : Nat) (hc : m.charW ≤ R) (ht : m.typeW ≤ R) (hd : ∀ d ∈ m.dict, d.word.length ≤ R)
    (pre mid post : List Char) (k : Nat) (hk1 : R ≤ k + 1) (hk2 : k + 1 + R ≤ mid.length) :
    specScore m (pre ++ mid ++ post) (pre.length + k) = specScore m mid k := by
  have hty : typesOf (pre ++ mid ++ post) = typesOf pre ++ typesOf mid ++ typesOf post := by
    simp [typesOf]
  have hpl : pre.length = (typesOf pre).length := by simp [typesOf]
  unfold specScore
  rw [ngramScore_local m.charW m.charNgrams pre mid post k hcs (by omega) (by omega),
    dictScore_local m.dict pre mid post k
      (fun d h => ⟨(hds d h).1, (hds d h).2, by have := hd d h; omega, by have := hd d h; omega⟩),
    hty]
  conv => lhs; rw [hpl]
  rw [ngramScore_local m.typeW m.typeNgrams (typesOf pre) (typesOf mid) (typesOf post) k hts (by omega)
    (by simp only [typesOf, List.length_map]; omega)]

end V.C01Loc
