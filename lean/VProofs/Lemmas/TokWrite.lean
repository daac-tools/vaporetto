import VProofs.Lemmas.Iter
import VProofs.Lemmas.TagTable
/-!
`write_tokenized_text` as a pure function of the text and the trimmed
token tags, and what the token list says about boundaries and tag positions.
-/
namespace V.C03L

/-- the trimmed tags of the token ending at `en` (same as `tokenTagsTrim` of `VProofs/C03.lean`) -/
def tagsAt (tags : List Tag) (nTags en : Nat) : List Tag :=
  trimNone ((tags.drop ((en - 1) * nTags)).take nTags)

theorem mem_tagsAt {tags : List Tag} {nTags en : Nat} {x : Tag} (h : x ∈ tagsAt tags nTags en) : x ∈ tags :=
  List.mem_of_mem_drop (List.mem_of_mem_take (mem_trimNone h))

theorem tagsAt_idem (tags : List Tag) (nTags en : Nat) :
    trimNone (tagsAt tags nTags en) = tagsAt tags nTags en := trimNone_idem _

/-- what the writer emits for one token -/
def tokOut (s : Sentence) (se : Nat × Nat) : List Char :=
  escTok (slice s.text se) ++ writeTagsWith escTok (tagsAt s.tags s.nTags se.2)

def writeSpec (s : Sentence) : List (Nat × Nat) → Bool → List Char
  | [], _ => []
  | se :: r, first => (if first then [] else [' ']) ++ tokOut s se ++ writeSpec s r false

theorem writeTokBody_eq (s : Sentence) (htl : s.tags.length = s.text.length * s.nTags)
    (toks : List (Nat × Nat)) (first : Bool) (h : ∀ se ∈ toks, se.1 < se.2 ∧ se.2 ≤ s.text.length) :
    writeTokBody s toks first = .ok (writeSpec s toks first) := by
  induction toks generalizing first with
  | nil => simp [writeTokBody, writeSpec]
  | cons se r ih =>
    obtain ⟨st, en⟩ := se
    have hse := h (st, en) (by simp)
    simp only at hse
    have h1 := s.substring_eq (st := st) (en := en) (by omega) hse.2
    have h2 := s.tokenTags_eq (en := en) (by omega) (by rw [htl]; exact Nat.mul_le_mul_right _ hse.2)
    simp only [writeTokBody, h1, h2, ih false (fun se hse => h se (by simp [hse])), writeSpec, tokOut, tagsAt,
      List.append_assoc]

theorem writeSpec_congr (s s' : Sentence) (htext : s.text = s'.text) (toks : List (Nat × Nat)) (first : Bool)
    (h : ∀ se ∈ toks, tagsAt s.tags s.nTags se.2 = tagsAt s'.tags s'.nTags se.2) :
    writeSpec s toks first = writeSpec s' toks first := by
  induction toks generalizing first with
  | nil => simp [writeSpec]
  | cons se r ih =>
    simp only [writeSpec, tokOut, htext, h se (by simp), ih false (fun se hse => h se (by simp [hse]))]

theorem slice_length {α : Type} (text : List α) (se : Nat × Nat) (h : se.2 ≤ text.length) :
    (slice text se).length = se.2 - se.1 := by
  rw [slice, List.length_take, List.length_drop]
  omega

theorem slice_cons {α : Type} {text : List α} {se : Nat × Nat} (h : se.1 < se.2 ∧ se.2 ≤ text.length) :
    ∃ c cs, slice text se = c :: cs ∧ se.2 - se.1 - 1 = cs.length := by
  have hlen := slice_length text se h.2
  cases hsl : slice text se with
  | nil => rw [hsl, List.length_nil] at hlen; omega
  | cons c cs => rw [hsl, List.length_cons] at hlen; exact ⟨c, cs, rfl, by omega⟩

theorem mem_of_mem_slice {α : Type} {text : List α} {se : Nat × Nat} {x : α} (h : x ∈ slice text se) : x ∈ text :=
  List.mem_of_mem_drop (List.mem_of_mem_take h)

def tokBounds : List (Nat × Nat) → Bool → List B
  | [], _ => []
  | se :: r, first => (if first then [] else [B.W]) ++ List.replicate (se.2 - se.1 - 1) B.N ++ tokBounds r false

theorem tokBounds_specSeg (rest : List B) (start pos : Nat) (first : Bool) (h : ∀ x ∈ rest, x ≠ B.U)
    (hsp : start ≤ pos) :
    tokBounds (specSeg rest start pos false) first =
      (if first then [] else [B.W]) ++ List.replicate (pos - start) B.N ++ rest := by
  induction rest generalizing start pos first with
  | nil =>
    simp only [specSeg, Bool.false_eq_true, if_false, tokBounds, List.append_nil]
    congr 2
    omega
  | cons b r ih =>
    have hr : ∀ x ∈ r, x ≠ B.U := fun x hx => h x (by simp [hx])
    cases b with
    | N =>
      simp only [specSeg]
      rw [ih start (pos + 1) first hr (by omega)]
      have : pos + 1 - start = (pos - start) + 1 := by omega
      rw [this, List.replicate_succ']
      simp
    | W =>
      simp only [specSeg, Bool.false_eq_true, if_false, List.singleton_append, tokBounds]
      rw [ih (pos + 1) (pos + 1) false hr (Nat.le_refl _)]
      have : pos + 1 - start - 1 = pos - start := by omega
      simp [this]
    | U => exact absurd rfl (h B.U (by simp))

def tokG (s : Sentence) (se : Nat × Nat) : List (List Char) := (tagsAt s.tags s.nTags se.2).map (·.getD [])

def tokTT (s : Sentence) : List (Nat × Nat) → List (List (List Char))
  | [] => []
  | se :: r => List.replicate (se.2 - se.1 - 1) [] ++ [tokG s se] ++ tokTT s r

/-- with `tt0` the tag lists of the characters before `a`, the tag lists rebuilt from a chain of tokens from `a` to `z`
have one entry per character, and each token's tags sit at its last character -/
theorem tokTT_chain (s : Sentence) : ∀ (toks : List (Nat × Nat)) (a z : Nat) (tt0 : List (List (List Char))),
    IsChain a toks z → tt0.length = a →
    (tt0 ++ tokTT s toks).length = z ∧ ∀ se ∈ toks, (tt0 ++ tokTT s toks)[se.2 - 1]? = some (tokG s se) := by
  intro toks
  induction toks with
  | nil => intro a z tt0 hc; exact absurd hc (by simp [IsChain])
  | cons x xs ih =>
    intro a z tt0 hc hl
    obtain ⟨s1, e1⟩ := x
    obtain ⟨rfl, hae, hc⟩ := (isChain_cons ..).mp hc
    have e : tt0 ++ tokTT s ((s1, e1) :: xs) =
        (tt0 ++ List.replicate (e1 - s1 - 1) [] ++ [tokG s (s1, e1)]) ++ tokTT s xs := by
      simp only [tokTT, List.append_assoc]
    have hlen : (tt0 ++ List.replicate (e1 - s1 - 1) ([] : List (List Char))).length = e1 - 1 := by
      rw [List.length_append, List.length_replicate, hl]
      omega
    have hhead : (tt0 ++ tokTT s ((s1, e1) :: xs))[e1 - 1]? = some (tokG s (s1, e1)) := by
      rw [e, ← hlen, List.append_assoc, List.getElem?_append_right (Nat.le_refl _), Nat.sub_self]
      rfl
    have hl' : (tt0 ++ List.replicate (e1 - s1 - 1) ([] : List (List Char)) ++ [tokG s (s1, e1)]).length = e1 := by
      rw [List.length_append, hlen, List.length_singleton]
      omega
    rw [e]
    rcases hc with ⟨rfl, rfl⟩ | hc
    · refine ⟨by rw [tokTT, List.append_nil, hl'], fun se hse => ?_⟩
      rw [List.mem_singleton] at hse
      rw [← e, hse]
      exact hhead
    · obtain ⟨i1, i2⟩ := ih e1 z _ hc hl'
      refine ⟨i1, fun se hse => ?_⟩
      rcases List.mem_cons.mp hse with rfl | hse'
      · rw [← e]; exact hhead
      · exact i2 se hse'

end V.C03L
