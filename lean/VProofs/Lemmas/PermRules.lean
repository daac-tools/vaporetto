import VModel.Filters
import VProofs.Lemmas.PermBase
/-!
# `PatternMatchTagger::rules` (a `HashMap<String, Vec<Option<String>>>`) is read by keyed lookup only
-/
namespace V.C15L
open V V.PermL

theorem rulesGet_perm {r₁ r₂ : TagRules} (p : r₁.Perm r₂) (hnd : (r₁.map Prod.fst).Nodup) : rulesGet r₁ = rulesGet r₂ :=
  funext (lookupK_reverse_perm p hnd)

theorem collect_congr {r₁ r₂ : TagRules} (h : rulesGet r₁ = rulesGet r₂) (s : Sentence) (l : List (Nat × Nat)) :
    filterTagger.collect r₁ s l = filterTagger.collect r₂ s l := by
  induction l with
  | nil => simp only [filterTagger.collect]
  | cons x r ih =>
    obtain ⟨st, en⟩ := x
    simp only [filterTagger.collect, h, ih]

theorem filterTagger_congr {r₁ r₂ : TagRules} (h : rulesGet r₁ = rulesGet r₂) (s : Sentence) :
    filterTagger r₁ s = filterTagger r₂ s := by
  unfold filterTagger
  rw [collect_congr h s]

end V.C15L
