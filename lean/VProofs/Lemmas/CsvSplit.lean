import VProofs.Lemmas.CsvDigits
/-!
# The `weights` column: `splitSpaces` undoes `joinWeights`, so the rows of a dumped dictionary load back
-/
namespace V.C19L
open V

theorem splitSpaces_ne_nil : ∀ s : List Char, splitSpaces s ≠ []
  | [] => List.cons_ne_nil _ _
  | c :: cs => by
    unfold splitSpaces
    split
    · exact List.cons_ne_nil _ _
    · split <;> exact List.cons_ne_nil _ _

theorem splitSpaces_space (r : List Char) : splitSpaces (' ' :: r) = [] :: splitSpaces r := by
  rw [splitSpaces]
  cases h : splitSpaces r with
  | nil => exact absurd h (splitSpaces_ne_nil r)
  | cons x t => rfl

theorem splitSpaces_prefix : ∀ (a : List Char), ' ' ∉ a → ∀ {s hd : List Char} {tl : List (List Char)},
    splitSpaces s = hd :: tl → splitSpaces (a ++ s) = (a ++ hd) :: tl := by
  intro a
  induction a with
  | nil => intro _ _ _ _ hs; exact hs
  | cons c cs ih =>
    intro h _ _ _ hs
    have hc : c ≠ ' ' := fun e => h (e ▸ List.mem_cons_self)
    rw [List.cons_append, splitSpaces, ih (fun e => h (List.mem_cons_of_mem _ e)) hs]
    exact if_neg hc

theorem splitSpaces_join : ∀ ws : List Int, ws ≠ [] → splitSpaces (joinWeights ws) = ws.map intToDec
  | [w], _ => by
    have h := splitSpaces_prefix _ (intToDec_nospace w) (s := []) rfl
    rwa [List.append_nil] at h
  | w :: w2 :: r, _ => by
    have h := splitSpaces_prefix _ (intToDec_nospace w) (splitSpaces_space (joinWeights (w2 :: r)))
    rw [List.append_nil, splitSpaces_join (w2 :: r) (List.cons_ne_nil _ _)] at h
    exact h

theorem mapM_some {α β : Type} (f : α → Option β) (g : α → β) :
    ∀ l : List α, (∀ a ∈ l, f a = some (g a)) → l.mapM f = some (l.map g) := by
  intro l
  induction l with
  | nil => intro _; rfl
  | cons a t ih =>
    intro h
    rw [List.mapM_cons, h a (by simp), ih (fun b hb => h b (List.mem_cons_of_mem _ hb))]
    rfl

theorem parseWeights_join (ws : List Int) (hne : ws ≠ [])
    (hr : ∀ w ∈ ws, -(2 ^ 31 : Int) ≤ w ∧ w < 2 ^ 31) : parseWeights (joinWeights ws) = some ws := by
  unfold parseWeights
  rw [splitSpaces_join ws hne]
  rw [List.mapM_map]
  have h := mapM_some (parseI32? ∘ intToDec) id ws (fun w hw => parseI32_intToDec w (hr w hw))
  simpa using h

theorem loadRow_dumpRow (d : DictWord) (hs : d.weights.length = d.word.length + 1)
    (hr : ∀ w ∈ d.weights, -(2 ^ 31 : Int) ≤ w ∧ w < 2 ^ 31) : loadRow (dumpRow d) = .ok d := by
  have hne : d.weights ≠ [] := by
    intro h; rw [h] at hs; simp at hs
  unfold loadRow dumpRow
  simp only [parseWeights_join d.weights hne hr]
  unfold wordRecordNew
  simp [hs]

theorem loadRows_dump : ∀ ds : List DictWord,
    (∀ d ∈ ds, d.weights.length = d.word.length + 1) →
    (∀ d ∈ ds, ∀ w ∈ d.weights, -(2 ^ 31 : Int) ≤ w ∧ w < 2 ^ 31) →
    loadRows (ds.map dumpRow) = .ok ds := by
  intro ds
  induction ds with
  | nil => intro _ _; rfl
  | cons d t ih =>
    intro hs hr
    rw [List.map_cons, loadRows, loadRow_dumpRow d (hs d (by simp)) (hr d (by simp)),
      ih (fun x hx => hs x (List.mem_cons_of_mem _ hx)) (fun x hx => hr x (List.mem_cons_of_mem _ hx))]

end V.C19L
