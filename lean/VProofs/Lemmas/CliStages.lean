import VProofs.Lemmas.CliLine
import VProofs.Lemmas.TkNorm
import VProofs.C01
import VProofs.C15
/-!
# CliStages — the stages every front end runs after `from_raw`: `predict` on the fresh sentence, then filters that only
relabel the boundaries
-/
namespace V.C20L
open V

theorem sentOK_mkRaw (x : List Char) (hne : x ≠ []) : SentOK (Sentence.mkRaw x) :=
  have hi := invC_mkRaw x hne
  ⟨hi.1, hi.2.1, hi.2.2.1⟩

/-- the sentence after `predict` on the fresh sentence over `x` -/
structure Pred (x : List Char) (s1 : Sentence) : Prop where
  inv : Inv s1
  text : s1.text = x
  tags : s1.tags = []
  noU : ∀ b ∈ s1.bounds, b ≠ B.U
  sc : ∃ sc, s1.boundaryScores = .ok sc

theorem predict_stage (cfg : Cfg) (m : WModel) (hm : WFModel m) (pt : Bool) (p : Predictor)
    (hp : Predictor.new cfg m pt = .ok p) (x : List Char) (hne : x ≠ []) :
    ∃ s1, p.predict 0 (Sentence.mkRaw x) = .ok s1 ∧ Pred x s1 := by
  have hi : InvC (Sentence.mkRaw x) := invC_mkRaw x hne
  have hs := sentOK_mkRaw x hne
  obtain ⟨s', h1, h2, h3, h4, h5, h6, h7, _⟩ := C01_scores cfg m hm pt p hp _ hs 0
  have htext : (Sentence.mkRaw x).text = x := rfl
  rw [htext] at h3 h4
  have hpos : 0 < x.length := List.length_pos_iff.mpr hne
  refine ⟨s', h1, ⟨?_, ?_, ?_, ?_, ?_⟩, h4, by rw [h6]; rfl,
    C01_no_unknown cfg m hm pt p hp _ s' hs 0 h1, ⟨_, h2⟩⟩
  · rw [h4]; exact hne
  · rw [h5, h4]; rfl
  · rw [h3, h4]
    simp only [specBounds, specScores, List.length_map, List.length_range]
    omega
  · rw [h6, h7, h4]; exact hi.2.2.2.1
  · unfold Sentence.boundaryScores at h2
    split at h2
    · next he => exact Or.inl (List.isEmpty_iff.mp he)
    · split at h2
      · next hle => exact Or.inr hle
      · cases h2

/-- what a boundary filter does to a sentence: new labels, as many as before, no unknown one unless there was one -/
def Relabels (s s' : Sentence) : Prop :=
  ∃ bs, s' = { s with bounds := bs } ∧ bs.length = s.bounds.length ∧ ((∀ b ∈ s.bounds, b ≠ B.U) → ∀ b ∈ bs, b ≠ B.U)

theorem Relabels.refl (s : Sentence) : Relabels s s := ⟨s.bounds, rfl, rfl, id⟩

theorem Relabels.trans {s s' s'' : Sentence} (h1 : Relabels s s') (h2 : Relabels s' s'') : Relabels s s'' := by
  obtain ⟨bs, rfl, l1, u1⟩ := h1
  obtain ⟨bs', rfl, l2, u2⟩ := h2
  exact ⟨bs', rfl, l2.trans l1, fun h => u2 (u1 h)⟩

theorem Relabels.inv {s s' : Sentence} (h : Relabels s s') (hi : Inv s) : Inv s' := by
  obtain ⟨bs, rfl, l, _⟩ := h
  exact hi.bounds l

theorem relabels_mapIdx (s : Sentence) {g : Nat → B → B} (hg : ∀ i x, x ≠ B.U → g i x ≠ B.U) :
    Relabels s { s with bounds := s.bounds.mapIdx g } :=
  ⟨_, rfl, List.length_mapIdx, C15L.noU_mapIdx hg⟩

theorem wsconst_relabels (t : Nat) {s : Sentence} (h : Inv s) : ∃ s', filterWsConst t s = .ok s' ∧ Relabels s s' :=
  ⟨_, C15L.wsconst_eq t s h, relabels_mapIdx s fun _ _ hx => C15L.ite_ne_U _ (by decide) hx⟩

theorem linebreaks_relabels {s : Sentence} (h : Inv s) : ∃ s', filterLinebreaks s = .ok s' ∧ Relabels s s' :=
  ⟨_, C15L.linebreaks_eq s h, relabels_mapIdx s fun _ _ hx => C15L.ite_ne_U _ (by decide) hx⟩

theorem graphemes_relabels_of_ok {ls : List Nat} {s s' : Sentence} (h : filterGraphemes ls s = .ok s') : Relabels s s' := by
  rw [C15L.graphemes_frame ls s s' h]
  exact relabels_mapIdx s fun _ _ hx => C15L.ite_ne_U _ (by decide) hx

theorem graphemes_relabels {ls : List Nat} {s : Sentence} (h : Inv s) (hpos : ∀ l ∈ ls, 1 ≤ l)
    (hsum : ls.sum = s.text.length) : ∃ s', filterGraphemes ls s = .ok s' ∧ Relabels s s' :=
  ⟨_, C15L.graphemes_eq ls s h hpos hsum, graphemes_relabels_of_ok (C15L.graphemes_eq ls s h hpos hsum)⟩

/-- the configured filters relabel whenever they return, whatever the cluster lengths -/
theorem applyPostFilters_relabels : ∀ (fs : List PostFilter) {s s' : Sentence}, Inv s → applyPostFilters fs s = .ok s' →
    Relabels s s'
  | [], s, s', _, h => by
    injection h with h
    rw [← h]
    exact Relabels.refl s
  | .ws t :: r, s, s', hi, h => by
    obtain ⟨s1, e1, r1⟩ := wsconst_relabels t hi
    simp only [applyPostFilters, e1] at h
    exact r1.trans (applyPostFilters_relabels r (r1.inv hi) h)
  | .graphemes ls :: r, s, s', hi, h => by
    simp only [applyPostFilters] at h
    cases hg : filterGraphemes ls s with
    | ok s1 =>
      rw [hg] at h
      have r1 := graphemes_relabels_of_ok hg
      exact r1.trans (applyPostFilters_relabels r (r1.inv hi) h)
    | err e => rw [hg] at h; cases h
    | panic q => rw [hg] at h; cases h
    | ub q => rw [hg] at h; cases h

/-- a filter that cannot fail on a consistent sentence of `N` characters: a character-type filter, or the grapheme
filter with clusters of at least one character that cover the text -/
def FilterOK (N : Nat) (f : PostFilter) : Prop :=
  (∃ t, f = .ws t) ∨ ∃ cl, f = .graphemes cl ∧ (∀ l ∈ cl, 1 ≤ l) ∧ cl.sum = N

theorem buildPostFilters_shape (clusters : List Nat) (N : Nat) (hpos : ∀ l ∈ clusters, 1 ≤ l) (hsum : clusters.sum = N) :
    ∀ (ws : List Char) (fs : List PostFilter), buildPostFilters ws clusters = .ok fs → ∀ f ∈ fs, FilterOK N f
  | [], fs, h => by
    injection h with h
    subst h
    intro f hf
    cases hf
  | c :: ws, fs, h => by
    have ih := buildPostFilters_shape clusters N hpos hsum ws
    unfold buildPostFilters at h ih
    rw [List.foldr_cons] at h
    split at h
    · next l hl =>
      have ih' := ih l hl
      split at h <;> first
        | (injection h with h; subst h; intro f hf
           rcases List.mem_cons.mp hf with hf | hf
           · subst hf; first | exact Or.inl ⟨_, rfl⟩ | exact Or.inr ⟨_, rfl, hpos, hsum⟩
           · exact ih' f hf)
        | cases h
    · next hne =>
      exact absurd h (by
        intro h'
        exact hne fs h')

theorem applyPostFilters_ok : ∀ (fs : List PostFilter) {s : Sentence}, Inv s → (∀ f ∈ fs, FilterOK s.text.length f) →
    ∃ s', applyPostFilters fs s = .ok s' ∧ Relabels s s'
  | [], s, _, _ => ⟨s, rfl, Relabels.refl s⟩
  | f :: r, s, hi, hf => by
    have hstep : ∃ s1, applyPostFilters (f :: r) s = applyPostFilters r s1 ∧ Relabels s s1 := by
      rcases hf f List.mem_cons_self with ⟨t, rfl⟩ | ⟨cl, rfl, hpos, hsum⟩
      · obtain ⟨s1, e1, r1⟩ := wsconst_relabels t hi
        exact ⟨s1, by simp only [applyPostFilters, e1], r1⟩
      · obtain ⟨s1, e1, r1⟩ := graphemes_relabels hi hpos hsum
        exact ⟨s1, by simp only [applyPostFilters, e1], r1⟩
    obtain ⟨s1, e1, r1⟩ := hstep
    have htl : s1.text.length = s.text.length := by
      obtain ⟨bs, rfl, _⟩ := r1
      rfl
    obtain ⟨s2, e2, r2⟩ := applyPostFilters_ok r (r1.inv hi)
      (fun g hg => by rw [htl]; exact hf g (List.mem_cons_of_mem _ hg))
    exact ⟨s2, e1.trans e2, r1.trans r2⟩

end V.C20L
