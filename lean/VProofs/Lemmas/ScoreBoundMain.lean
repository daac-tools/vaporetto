import VProofs.Lemmas.ScoreBoundRun
/-!
# `Predictor.new` and `Predictor.predict` stay within the mass of the model (for the C01 overflow bound): assembly

`BuildWithin P cfg m0 p` and `RunWithin P p s` collect, for a test `P` on integers, all the values that construction and
boundary prediction hold; `build_within` / `run_within` prove them for every `P` that accepts all integers up to the mass
of the model (with the n-grams of a switched-off kind dropped) in absolute value.
-/
namespace V

/-- every coordinate of every stored merged weight (`weights: Vec<Option<PositionalWeight<WeightVector>>>`), the zero padding
of the fixed layout included, satisfies `P` -/
def PmaScorer.weightsIn {α : Type} (P : Int → Bool) (sc : PmaScorer α) : Prop :=
  ∀ ow ∈ sc.weights, ∀ pwv, ow = some pwv → ∀ x ∈ pwv.weight.toList, P x = true

/-- `sc` is built from the entries `es`, and both phases of the weight merger — `merger.add(…)` for every entry, then
`merger.merge()` — run with a `+=` that tests every coordinate of its result with `P` (`Merge.addC`: an operand or result that
fails the test poisons the weight for good) never trip the test: the checked run returns the unchecked weights, unpoisoned -/
def MergerIn {α : Type} [DecidableEq α] {W : Type} (P : Int → Bool) (cfg : Cfg) (add : W → W → W) (d : W)
    (g : W → Option PW) (es : List (List α × W)) (sc : PmaScorer α) : Prop :=
  BuiltFrom cfg add d g es sc ∧
  addAll (Merge.addC (C01B.okW P g) add) (Merge.liftE es) [] = Merge.liftE (addAll add es []) ∧
  Merge.mergeEntries (Merge.addC (C01B.okW P g) add) none (Merge.liftE (addAll add es []))
    = Merge.liftE (Merge.mergeEntries add d (addAll add es []))

/-- all `i32` values of `Predictor::new` (boundary part) satisfy `P`; `m0` is the model with the switched-off n-grams dropped -/
def BuildWithin (P : Int → Bool) (cfg : Cfg) (m0 : WModel) (p : Predictor) : Prop :=
  (∀ sc, p.charScorer = some sc → sc.weightsIn P ∧
    (MergerIn P cfg PW.add ⟨0, []⟩ some (charEntries m0) sc ∨
     ∃ T, MergerIn P cfg PWT.add PWT.empty PWT.weight (charEntriesT m0 T) sc)) ∧
  (∀ sc, p.typeScorer = some (.pma sc) → sc.weightsIn P ∧
    (MergerIn P cfg PW.add ⟨0, []⟩ some (typeEntries m0) sc ∨
     ∃ T, MergerIn P cfg PWT.add PWT.empty PWT.weight (typeEntriesT m0 T) sc)) ∧
  (∀ ng w, p.typeScorer = some (.cache ng w) → ng = m0.typeNgrams ∧ w = m0.typeW ∧
    ∀ seqid, (∀ k, P ((cacheTerms ng w seqid).take k).sum = true) ∧ P (cacheEntry ng w seqid) = true)

/-- all values the score buffer holds during `Predictor::predict` satisfy `P`: the bias-filled buffer; the buffer after any
prefix of the matches of the character pass; the buffer `buf1` the character pass leaves; from there the buffer after any
prefix of the matches of the type pass, or (cached type scorer) after any number of boundaries -/
def RunWithin (P : Int → Bool) (p : Predictor) (s : Sentence) : Prop :=
  (∀ x ∈ List.replicate (padding * 2 + s.types.length - 1) p.bias, P x = true) ∧
  (∀ sc, p.charScorer = some sc → ∀ k, ∃ buf st,
    pmaAddScores.go sc ((matchesNoSuffix sc.pats s.text).take k)
      (List.replicate (padding * 2 + s.types.length - 1) p.bias) (pmaStates0 sc s.text s.cstates) = .ok (buf, st) ∧
    ∀ x ∈ buf, P x = true) ∧
  ∃ buf1 cst,
    C01L.charPhase p.charScorer s.text s.cstates (List.replicate (padding * 2 + s.types.length - 1) p.bias)
      = .ok (buf1, cst) ∧
    (∀ x ∈ buf1, P x = true) ∧
    (∀ sc, p.typeScorer = some (.pma sc) → ∀ k, ∃ buf st,
      pmaAddScores.go sc ((matchesNoSuffix sc.pats s.types).take k) buf1 (pmaStates0 sc s.types s.tstates) = .ok (buf, st) ∧
      ∀ x ∈ buf, P x = true) ∧
    (∀ ng w, p.typeScorer = some (.cache ng w) →
      cacheAddScores ng w s.types s.bounds.length buf1
        = .ok (addAt buf1 padding (cacheAdds ng w s.types s.bounds.length)) ∧
      ∀ k, ∀ x ∈ addAt buf1 padding ((cacheAdds ng w s.types s.bounds.length).take k), P x = true) ∧
    ∀ pid, ∃ s', p.predict pid s = .ok s' ∧ ∀ x ∈ s'.scores, P x = true

namespace C01B
open C01L Merge

/-- `m0` is `m` with the n-grams of every kind whose window is 0 removed (`V.dropW0 m` in `C01.lean`) -/
structure IsDropW0 (m m0 : WModel) : Prop where
  charW : m0.charW = m.charW
  typeW : m0.typeW = m.typeW
  charNgrams : m0.charNgrams = if m.charW = 0 then [] else m.charNgrams
  typeNgrams : m0.typeNgrams = if m.typeW = 0 then [] else m.typeNgrams
  dict : m0.dict = m.dict
  bias : m0.bias = m.bias

theorem mergerIn_of_built {α : Type} [DecidableEq α] {W : Type} (P : Int → Bool) (M : Nat)
    (hP : ∀ x : Int, x.natAbs ≤ M → P x = true) (cfg : Cfg) (add : W → W → W) (d : W) (g : W → Option PW)
    (hg : AddOK add g) (es : List (List α × W)) (sc : PmaScorer α) (hb : BuiltFrom cfg add d g es sc)
    (hM : emass g es ≤ M) : sc.weightsIn P ∧ MergerIn P cfg add d g es sc := by
  -- the evaluations of a weight are its boundary values at the relative positions; each is within the mass
  obtain ⟨h1, h2, h3⟩ := merger_chk_gen (0 : Int) (okW P g) (fun _ => M) add d (evg g) (fun _ _ => True)
    (fun _ _ _ _ _ _ => trivial) (fun x _ _ a b _ _ => evg_add add g hg x a b) (fun _ w _ h => okW_of_evg P M hP g w h) es
    (fun _ _ => trivial) (fun x l hl => Int.le_trans (sum_evg_le g x l es hl) (Int.ofNat_le.mpr hM))
    (builtFrom_keys_ne hg hb)
  exact ⟨builtFrom_weights P (hP 0 (Nat.zero_le _)) hb h3, hb, h1, h2⟩

theorem build_within (cfg : Cfg) (m m0 : WModel) (hd : IsDropW0 m m0) (pt : Bool) (p : Predictor)
    (hp : Predictor.new cfg m pt = .ok p) (P : Int → Bool) (hP : ∀ x : Int, x.natAbs ≤ m0.mass → P x = true) :
    BuildWithin P cfg m0 p := by
  obtain ⟨tc, tt, hc, ht, _⟩ := new_ok cfg m pt p hp
  refine ⟨fun sc hsc => ?_, fun sc hsc => ?_, fun ng w hts => ?_⟩
  · rw [hsc] at hc
    have hb := charScorerNew_built cfg m tc sc hc
    rw [← hd.charNgrams, ← hd.charW, ← hd.dict] at hb
    rcases hb with hb | hb
    · exact (mergerIn_of_built P m0.mass hP cfg PW.add ⟨0, []⟩ some addOK_PW _ sc hb
        (by rw [emass_charEntries]; exact m0.charMass_le)).imp_right Or.inl
    · exact (mergerIn_of_built P m0.mass hP cfg PWT.add PWT.empty PWT.weight addOK_PWT _ sc hb
        (by rw [emass_charEntriesT]; exact m0.charMass_le)).imp_right fun h => Or.inr ⟨tc, h⟩
  · rw [hsc] at ht
    have hb := typeScorerNew_built cfg m tt (.pma sc) ht
    rw [← hd.typeNgrams, ← hd.typeW] at hb
    rcases hb with ⟨sc', hsc', hb⟩ | hb
    · cases hsc'
      rcases hb with hb | hb
      · exact (mergerIn_of_built P m0.mass hP cfg PW.add ⟨0, []⟩ some addOK_PW _ sc hb
          (by rw [emass_typeEntries]; exact m0.typeMass_le)).imp_right Or.inl
      · exact (mergerIn_of_built P m0.mass hP cfg PWT.add PWT.empty PWT.weight addOK_PWT _ sc hb
          (by rw [emass_typeEntriesT]; exact m0.typeMass_le)).imp_right fun h => Or.inr ⟨tt, h⟩
    · cases hb
  · rw [hts] at ht
    have hb := typeScorerNew_built cfg m tt (.cache ng w) ht
    rw [← hd.typeNgrams, ← hd.typeW] at hb
    rcases hb with ⟨sc', hsc', _⟩ | hb
    · cases hsc'
    · cases hb
      exact ⟨rfl, rfl, fun seqid => cache_within P m0.mass hP m0.typeNgrams m0.typeMass_le m0.typeW seqid⟩

theorem charPass_within (cfg : Cfg) (m : WModel) (tc : List (List (TagNgramData Char))) (cs : Option (PmaScorer Char))
    (hc : charScorerNew cfg m tc = .ok cs)
    (hcs : 1 ≤ m.charW → ∀ d ∈ m.charNgrams, 1 ≤ d.ngram.length ∧ d.ngram.length ≤ 2 * m.charW ∧
      d.weights.length = 2 * m.charW - d.ngram.length + 1)
    (hds : ∀ d ∈ m.dict, 1 ≤ d.word.length)
    (text : List Char) (buf : List Int) (hbuf : buf.length = text.length + 13) (states : List (Option Nat))
    (B : Nat) (hB : ∀ x ∈ buf, x.natAbs ≤ B)
    (M : Nat) (hM : ngramMass (if m.charW = 0 then [] else m.charNgrams) + dictMass m.dict ≤ M) :
    (∀ sc, cs = some sc → PassBounded sc text buf states (B + M)) ∧
    ∃ buf1 cst, charPhase cs text states buf = .ok (buf1, cst) ∧ buf1.length = buf.length ∧
      ∀ x ∈ buf1, x.natAbs ≤ B + M := by
  have hshape : ∀ d ∈ (if m.charW = 0 then [] else m.charNgrams), 1 ≤ m.charW ∧ d.ngram.length ≤ 2 * m.charW ∧
      d.weights.length = 2 * m.charW - d.ngram.length + 1 :=
    fun d hd => ⟨(mem_ite_nil hd).1, (hcs (mem_ite_nil hd).1 d (mem_ite_nil hd).2).2⟩
  cases cs with
  | none => exact ⟨(fun _ h => nomatch h), buf, states, rfl, rfl, fun x hx => Nat.le_trans (hB x hx) (Nat.le_add_right _ _)⟩
  | some sc =>
    have h1 : PassBounded sc text buf states (B + M) := by
      rcases charScorerNew_built cfg m tc sc hc with hb | hb
      · exact pass_bounded cfg PW.add ⟨0, []⟩ some addOK_PW _ (List.forall_mem_append.mpr
          ⟨Pg_ngram some (fun pw => pw) (fun _ => rfl) _ _ hshape, Pg_dict some (fun pw => pw) (fun _ => rfl) _ hds⟩) sc hb text buf hbuf
          states B hB M (Nat.le_trans (Nat.le_of_eq (emass_charEntries _ _ _)) hM)
      · exact pass_bounded cfg PWT.add PWT.empty PWT.weight addOK_PWT _ (List.forall_mem_append.mpr
          ⟨List.forall_mem_append.mpr
            ⟨Pg_ngram PWT.weight ofPW (fun _ => rfl) _ _ hshape, Pg_dict PWT.weight ofPW (fun _ => rfl) _ hds⟩,
            Pg_tagEntries tc⟩) sc hb
          text buf hbuf states B hB M (Nat.le_trans (Nat.le_of_eq (emass_charEntriesT _ _ _ _)) hM)
    exact ⟨fun sc' h => by cases h; exact h1, h1.full⟩

theorem typePass_within (cfg : Cfg) (m : WModel) (tt : List (List (TagNgramData Nat))) (ts : Option TypeScorer)
    (ht : typeScorerNew cfg m tt = .ok ts)
    (hts : 1 ≤ m.typeW → ∀ d ∈ m.typeNgrams, 1 ≤ d.ngram.length ∧ d.ngram.length ≤ 2 * m.typeW ∧
      d.weights.length = 2 * m.typeW - d.ngram.length + 1 ∧ ∀ t ∈ d.ngram, 1 ≤ t ∧ t ≤ 6)
    (types : List Nat) (nB : Nat) (hnB : nB ≤ types.length)
    (buf : List Int) (hbuf : buf.length = types.length + 13) (states : List (Option Nat))
    (B : Nat) (hB : ∀ x ∈ buf, x.natAbs ≤ B)
    (M : Nat) (hM : ngramMass (if m.typeW = 0 then [] else m.typeNgrams) ≤ M) :
    (∀ sc, ts = some (.pma sc) → PassBounded sc types buf states (B + M)) ∧
    (∀ ng w, ts = some (.cache ng w) →
      cacheAddScores ng w types nB buf = .ok (addAt buf padding (cacheAdds ng w types nB)) ∧
      ∀ k, ∀ x ∈ addAt buf padding ((cacheAdds ng w types nB).take k), x.natAbs ≤ B + M) ∧
    ∃ buf2 tst, typePhase ts types nB states buf = .ok (buf2, tst) ∧ ∀ x ∈ buf2, x.natAbs ≤ B + M := by
  have hshape : ∀ d ∈ (if m.typeW = 0 then [] else m.typeNgrams), 1 ≤ m.typeW ∧ d.ngram.length ≤ 2 * m.typeW ∧
      d.weights.length = 2 * m.typeW - d.ngram.length + 1 :=
    fun d hd => have h := hts (mem_ite_nil hd).1 d (mem_ite_nil hd).2
      ⟨(mem_ite_nil hd).1, h.2.1, h.2.2.1⟩
  cases ts with
  | none =>
    exact ⟨(fun _ h => nomatch h), (fun _ _ h => nomatch h), buf, states, rfl,
      fun x hx => Nat.le_trans (hB x hx) (Nat.le_add_right _ _)⟩
  | some t =>
    cases t with
    | pma sc =>
      have h1 : PassBounded sc types buf states (B + M) := by
        rcases typeScorerNew_built cfg m tt _ ht with ⟨_, h, hb⟩ | h <;> cases h
        rcases hb with hb | hb
        · exact pass_bounded cfg PW.add ⟨0, []⟩ some addOK_PW _ (Pg_ngram some (fun pw => pw) (fun _ => rfl) _ _ hshape) sc hb types buf hbuf
            states B hB M (Nat.le_trans (Nat.le_of_eq (emass_typeEntries _ _)) hM)
        · exact pass_bounded cfg PWT.add PWT.empty PWT.weight addOK_PWT _ (List.forall_mem_append.mpr ⟨Pg_ngram PWT.weight ofPW (fun _ => rfl) _ _ hshape, Pg_tagEntries tt⟩) sc hb
            types buf hbuf states B hB M (Nat.le_trans (Nat.le_of_eq (emass_typeEntriesT _ _ _)) hM)
      obtain ⟨r, st, hr, _, hv⟩ := h1.full
      exact ⟨fun sc' h => by cases h; exact h1, (fun _ _ h => nomatch h), r, st, hr, hv⟩
    | cache ng w =>
      have hng : ngramMass ng ≤ M := by
        rcases typeScorerNew_built cfg m tt _ ht with ⟨_, h, _⟩ | h <;> cases h
        exact hM
      have he := cacheAddScores_eq_adds ng w types nB buf (by rw [padding_eq]; omega)
      have hv : ∀ k, ∀ x ∈ addAt buf padding ((cacheAdds ng w types nB).take k), x.natAbs ≤ B + M := by
        intro k
        apply addAt_bounded buf padding _ (by rw [padding_eq]; omega) B M hB
        intro a ha
        obtain ⟨seqid, rfl⟩ := cacheAdds_mem ng w types nB a ha
        exact Nat.le_trans (cacheEntry_natAbs_le ng w seqid) hng
      refine ⟨(fun _ h => nomatch h), fun ng' w' h => by cases h; exact ⟨he, hv⟩,
        addAt buf padding (cacheAdds ng w types nB), [], ?_, ?_⟩
      · show (cacheAddScores ng w types nB buf).map (fun b => (b, [])) = _
        rw [he]; rfl
      · have := hv (cacheAdds ng w types nB).length
        rwa [List.take_length] at this

theorem run_within (cfg : Cfg) (m m0 : WModel) (hd : IsDropW0 m m0)
    (hcs : 1 ≤ m.charW → ∀ d ∈ m.charNgrams, 1 ≤ d.ngram.length ∧ d.ngram.length ≤ 2 * m.charW ∧
      d.weights.length = 2 * m.charW - d.ngram.length + 1)
    (hts : 1 ≤ m.typeW → ∀ d ∈ m.typeNgrams, 1 ≤ d.ngram.length ∧ d.ngram.length ≤ 2 * m.typeW ∧
      d.weights.length = 2 * m.typeW - d.ngram.length + 1 ∧ ∀ t ∈ d.ngram, 1 ≤ t ∧ t ≤ 6)
    (hds : ∀ d ∈ m.dict, 1 ≤ d.word.length)
    (pt : Bool) (p : Predictor) (hp : Predictor.new cfg m pt = .ok p)
    (s : Sentence) (hne : s.text ≠ []) (htypes : s.types = typesOf s.text)
    (hbl : s.bounds.length + 1 = s.text.length)
    (P : Int → Bool) (hP : ∀ x : Int, x.natAbs ≤ m0.mass → P x = true) : RunWithin P p s := by
  obtain ⟨tc, tt, hc, ht, hbias⟩ := new_ok cfg m pt p hp
  have hn : 1 ≤ s.text.length := List.length_pos_iff.mpr hne
  have htl : s.types.length = s.text.length := by rw [htypes]; exact List.length_map _
  -- the three stages of the bound: the bias, plus the character part, plus the type part
  have hP3 : ∀ x : Int, x.natAbs ≤ m0.bias.natAbs + (ngramMass m0.charNgrams + dictMass m0.dict)
      + ngramMass m0.typeNgrams → P x = true := fun x hx => hP x (m0.mass_eq ▸ hx)
  have hP2 : ∀ x : Int, x.natAbs ≤ m0.bias.natAbs + (ngramMass m0.charNgrams + dictMass m0.dict) → P x = true :=
    fun x hx => hP3 x (Nat.le_trans hx (Nat.le_add_right _ _))
  have hP1 : ∀ x : Int, x.natAbs ≤ m0.bias.natAbs → P x = true :=
    fun x hx => hP2 x (Nat.le_trans hx (Nat.le_add_right _ _))
  unfold RunWithin
  generalize hbuf0 : List.replicate (padding * 2 + s.types.length - 1) p.bias = buf0
  have hb0 : buf0.length = s.text.length + 13 := by
    rw [← hbuf0, List.length_replicate, padding_eq, htl]; omega
  have hB0 : ∀ x ∈ buf0, x.natAbs ≤ m0.bias.natAbs := by
    intro x hx
    rw [← hbuf0] at hx
    rw [(List.mem_replicate.mp hx).2, hbias, hd.bias]
    exact Nat.le_refl _
  obtain ⟨hc1, buf1, cst, hc2, hl1, hc3⟩ := charPass_within cfg m tc p.charScorer hc hcs hds s.text buf0 hb0 s.cstates
    _ hB0 (ngramMass m0.charNgrams + dictMass m0.dict) (by rw [hd.charNgrams, hd.dict]; exact Nat.le_refl _)
  obtain ⟨ht1, ht2, buf2, tst, ht3, ht4⟩ := typePass_within cfg m tt p.typeScorer ht hts s.types s.bounds.length
    (by omega) buf1 (by rw [hl1, hb0, htl]) s.tstates _ hc3 (ngramMass m0.typeNgrams)
    (by rw [hd.typeNgrams]; exact Nat.le_refl _)
  refine ⟨fun x hx => hP1 x (hB0 x hx), fun sc hsc => (hc1 sc hsc).within P hP2, buf1, cst, hc2,
    fun x hx => hP2 x (hc3 x hx), fun sc hsc => (ht1 sc hsc).within P hP3,
    fun ng w hsc => ⟨(ht2 ng w hsc).1, fun k x hx => hP3 x ((ht2 ng w hsc).2 k x hx)⟩, fun pid => ?_⟩
  refine ⟨finish s pid buf2 cst tst, ?_, fun x hx => hP3 x (ht4 x hx)⟩
  rw [predict_eq, hbuf0, hc2]
  show finishR s pid cst (typePhase p.typeScorer s.types s.bounds.length s.tstates buf1) = _
  rw [ht3]; rfl

end C01B
end V
