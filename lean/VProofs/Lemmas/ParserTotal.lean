import VProofs.Lemmas.TagTable
/-!
The two annotated parsers as state machines: `Res.All`, the successful steps of each loop listed once
(`tokStep_cases`, `partStep_cases`), and the code after the loops.
-/
namespace V

/-- `r` neither panicked nor left its contract, and if it returned a value then `P` holds of it -/
def Res.All {α : Type} (P : α → Prop) : Res α → Prop
  | .ok a => P a
  | .err _ => True
  | .panic _ => False
  | .ub _ => False

theorem Res.All.safe {α : Type} {P : α → Prop} {r : Res α} (h : r.All P) : r.Safe := by
  cases r with
  | ok a => trivial
  | err e => trivial
  | panic p => exact h
  | ub p => exact h

theorem Res.All.of_ok {α : Type} {P : α → Prop} {r : Res α} {a : α} (h : r.All P) (e : r = .ok a) : P a := by
  subst e; exact h

theorem Res.All.mono {α : Type} {P Q : α → Prop} {r : Res α} (h : r.All P) (hpq : ∀ a, P a → Q a) : r.All Q := by
  cases r with
  | ok a => exact hpq a h
  | err e => trivial
  | panic p => exact h
  | ub p => exact h

theorem Res.All.bind {α β : Type} {P : α → Prop} {Q : β → Prop} {r : Res α} {f : α → Res β} (h : r.All P)
    (hf : ∀ a, P a → (f a).All Q) : (r.bind f).All Q := by
  cases r with
  | ok a => exact hf a h
  | err e => trivial
  | panic p => exact h
  | ub p => exact h

def NulFree (t : List Char) : Prop := ∀ c ∈ t, c ≠ '\x00'

/-- what the sentence constructors need of an accepted parse -/
structure GoodParsed (p : Parsed) : Prop where
  text_ne : p.text ≠ []
  bounds_len : p.bounds.length + 1 = p.text.length
  tags_len : ∃ n, p.tags.length = p.text.length * n

theorem GoodParsed.divTags {p : Parsed} (h : GoodParsed p) :
    divTags p.tags p.text = .ok (p.tags.length / p.text.length) ∧
    p.tags.length = p.text.length * (p.tags.length / p.text.length) := by
  obtain ⟨h1, _, n, h3⟩ := h
  have hpos : 0 < p.text.length := List.length_pos_iff.mpr h1
  refine ⟨?_, ?_⟩
  · unfold V.divTags
    rw [if_neg (by omega)]
  · rw [h3, Nat.mul_div_cancel_left n hpos]

/-- what both annotated parsers guarantee about an accepted input; `tt` are the per-character tag lists the tag table
is laid out from -/
structure ParsedOK (p : Parsed) (tt : List (List (List Char))) : Prop where
  tags_eq : p.tags = padTags (maxLen tt) tt
  tt_len : tt.length = p.text.length
  bounds_len : p.bounds.length + 1 = p.text.length
  text_nul : NulFree p.text

theorem ParsedOK.good {p : Parsed} {tt : List (List (List Char))} (h : ParsedOK p tt) : GoodParsed p := by
  refine ⟨fun e => ?_, h.bounds_len, maxLen tt, ?_⟩
  · have := h.bounds_len
    rw [e] at this
    cases this
  · rw [h.tags_eq, padTags_maxLen_length, h.tt_len]

/-- the common tail of both parsers: push the pending tag, lay the tag lists out -/
def finishTags (site : String) (text : List Char) (bounds : List B) (tt : List (List (List Char)))
    (ts : Option (List Char)) : Res Parsed :=
  match flushTags tt ts with
  | none => .panic site
  | some tt' => .ok ⟨text, bounds, padTags (maxLen tt') tt'⟩

theorem finishTags_concat (site : String) (text : List Char) (bounds : List B) (l : List (List (List Char)))
    (x : List (List Char)) (ts : Option (List Char)) :
    finishTags site text bounds (l ++ [x]) ts =
      .ok ⟨text, bounds, padTags (maxLen (l ++ [curOf x ts])) (l ++ [curOf x ts])⟩ := by
  simp only [finishTags, flushTags_concat]

theorem finishTags_all (site : String) (text : List Char) (bounds : List B) {tt : List (List (List Char))}
    (hne : tt ≠ []) (ts : Option (List Char)) :
    (finishTags site text bounds tt ts).All fun p =>
      ∃ tt', flushTags tt ts = some tt' ∧ p = ⟨text, bounds, padTags (maxLen tt') tt'⟩ := by
  obtain ⟨l, x, rfl, e⟩ := flushTags_of_ne_nil hne ts
  rw [finishTags_concat]
  exact ⟨_, e, rfl⟩

/-- the state change for one surface character -/
def pushChar (s : TokSt) (c : Char) : TokSt :=
  { s with escape := false,
           bounds := if s.text = [] then s.bounds else s.bounds ++ [if s.prevBoundary then B.W else B.N],
           prevBoundary := false, text := s.text ++ [c], tagsTmp := s.tagsTmp ++ [[]] }

/-- the successful steps of the loop of `parse_tokenized`: an escaping backslash; a blank or a slash after a
character, which push the pending tag; a character of a tag; a character of the text -/
inductive TokStep (s : TokSt) (c : Char) : TokSt → Prop
  | esc : TokStep s c { s with escape := true }
  | space (tt) : s.text ≠ [] → flushTags s.tagsTmp s.tagStr = some tt →
      TokStep s c { s with tagsTmp := tt, tagStr := none, prevBoundary := true }
  | slash (tt) : s.text ≠ [] → flushTags s.tagsTmp s.tagStr = some tt →
      TokStep s c { s with tagsTmp := tt, tagStr := some [] }
  | tagChar (t) : c ≠ '\x00' → s.tagStr = some t → TokStep s c { s with escape := false, tagStr := some (t ++ [c]) }
  | char : c ≠ '\x00' → s.tagStr = none → TokStep s c (pushChar s c)

/-- a step returns an error or is one of the `TokStep`s; the only `unwrap` is reached with a character stored -/
theorem tokStep_cases (s : TokSt) (c : Char) (h : s.text ≠ [] → s.tagsTmp ≠ []) :
    (tokStep s c).All (TokStep s c) := by
  -- the conditions are decided one at a time: `split` on the whole body is far slower to check
  rw [tokStep]
  by_cases h1 : (!s.escape && decide (c = '\\')) = true
  · rw [if_pos h1]; exact TokStep.esc
  rw [if_neg h1]
  by_cases h2 : (!s.escape && decide (c = ' ')) = true
  · rw [if_pos h2]
    by_cases hne : s.text = []
    · rw [if_pos hne]; trivial
    rw [if_neg hne]
    by_cases hpb : s.prevBoundary = true
    · rw [if_pos hpb]; trivial
    rw [if_neg hpb]
    obtain ⟨l, x, _, e⟩ := flushTags_of_ne_nil (h hne) s.tagStr
    cases hts : s.tagStr with
    | none => rw [hts] at e; exact TokStep.space _ hne (by rw [hts]; rfl)
    | some t =>
      rw [hts] at e
      have e' : pushLast s.tagsTmp t = some (l ++ [curOf x (some t)]) := e
      simp only [e']
      exact TokStep.space _ hne (by rw [hts]; exact e)
  rw [if_neg h2]
  by_cases h3 : (!s.escape && decide (c = '/')) = true
  · rw [if_pos h3]
    by_cases hc : (decide (s.text = []) || s.prevBoundary) = true
    · rw [if_pos hc]; trivial
    rw [if_neg hc]
    have hne : s.text ≠ [] := fun e => hc (by rw [e]; rfl)
    obtain ⟨l, x, _, e⟩ := flushTags_of_ne_nil (h hne) s.tagStr
    cases hts : s.tagStr with
    | none => rw [hts] at e; exact TokStep.slash _ hne (by rw [hts]; rfl)
    | some t =>
      rw [hts] at e
      have e' : pushLast s.tagsTmp t = some (l ++ [curOf x (some t)]) := e
      simp only [e']
      exact TokStep.slash _ hne (by rw [hts]; exact e)
  rw [if_neg h3]
  by_cases h0 : c = '\x00'
  · rw [if_pos h0]; trivial
  rw [if_neg h0]
  cases hts : s.tagStr with
  | none =>
    have := TokStep.char h0 hts
    rw [pushChar, hts] at this
    exact this
  | some t => exact TokStep.tagChar t h0 hts

theorem tokRun_cons (s : TokSt) (c : Char) (cs : List Char) :
    tokRun s (c :: cs) = (tokStep s c).bind fun s' => tokRun s' cs := by
  rw [tokRun]
  cases tokStep s c <;> rfl

/-- the code of `parse_tokenized` after the character loop -/
def tokFinish (s : TokSt) : Res Parsed :=
  if s.prevBoundary then .err .invalidArgument
  else if s.text = [] then .err .invalidArgument
  else finishTags "parse_tokenized:tags_tmp.last_mut().unwrap()" s.text s.bounds s.tagsTmp s.tagStr

theorem parseTokenized_eq (input : List Char) :
    parseTokenized input = if input = [] then .err .invalidArgument else (tokRun {} input).bind tokFinish := by
  rw [parseTokenized]
  split
  · rfl
  · cases tokRun {} input with
    | ok s =>
      simp only [Res.bind, tokFinish, finishTags, flushTags]
      cases s.tagStr <;> rfl
    | err e => rfl
    | panic p => rfl
    | ub p => rfl

/-- the successful steps of the loop of `parse_partial_annotation`: a character of the text; then an escaping
backslash, a boundary label or a slash, which push the pending tag, or a character of a tag -/
inductive PartStep (s : PartSt) (c : Char) : PartSt → Prop
  | char : s.isChar = true → c ≠ '\x00' →
      PartStep s c { s with text := s.text ++ [c], tagsTmp := s.tagsTmp ++ [[]], isChar := false }
  | esc : s.isChar = false → PartStep s c { s with escape := true }
  | boundary (b tt) : s.isChar = false → flushTags s.tagsTmp s.tagStr = some tt →
      PartStep s c { s with tagsTmp := tt, tagStr := none, bounds := s.bounds ++ [b], isChar := true }
  | slash (tt) : s.isChar = false → flushTags s.tagsTmp s.tagStr = some tt →
      PartStep s c { s with tagsTmp := tt, tagStr := some [] }
  | tagChar (t) : s.isChar = false → s.tagStr = some t →
      PartStep s c { s with escape := false, tagStr := some (t ++ [c]) }

theorem partBoundary_cases (s : PartSt) (c : Char) (b : B) (hc : s.isChar = false) (h : s.tagsTmp ≠ []) :
    (partBoundary s b).All (PartStep s c) := by
  obtain ⟨l, x, _, e⟩ := flushTags_of_ne_nil h s.tagStr
  rw [partBoundary]
  cases hts : s.tagStr with
  | none => rw [hts] at e; exact PartStep.boundary b _ hc (by rw [hts]; rfl)
  | some t =>
    rw [hts] at e
    have e' : pushLast s.tagsTmp t = some (l ++ [curOf x (some t)]) := e
    simp only [e']
    exact PartStep.boundary b _ hc (by rw [hts]; exact e)

theorem partStep_cases (s : PartSt) (c : Char) (h : s.isChar = false → s.tagsTmp ≠ []) :
    (partStep s c).All (PartStep s c) := by
  rw [partStep]
  by_cases hc : s.isChar = true
  · rw [if_pos hc]
    by_cases h0 : c = '\x00'
    · rw [if_pos h0]; trivial
    rw [if_neg h0]
    exact PartStep.char hc h0
  rw [if_neg hc]
  have hc : s.isChar = false := Bool.eq_false_iff.mpr hc
  have hne := h hc
  by_cases h1 : (!s.escape && decide (c = '\\')) = true
  · rw [if_pos h1]; exact PartStep.esc hc
  rw [if_neg h1]
  by_cases h2 : (!s.escape && decide (c = ' ')) = true
  · rw [if_pos h2]; exact partBoundary_cases s c _ hc hne
  rw [if_neg h2]
  by_cases h3 : (!s.escape && decide (c = '-')) = true
  · rw [if_pos h3]; exact partBoundary_cases s c _ hc hne
  rw [if_neg h3]
  by_cases h4 : (!s.escape && decide (c = '|')) = true
  · rw [if_pos h4]; exact partBoundary_cases s c _ hc hne
  rw [if_neg h4]
  by_cases h5 : (!s.escape && decide (c = '/')) = true
  · rw [if_pos h5]
    obtain ⟨l, x, _, e⟩ := flushTags_of_ne_nil hne s.tagStr
    cases hts : s.tagStr with
    | none => rw [hts] at e; exact PartStep.slash _ hc (by rw [hts]; rfl)
    | some t =>
      rw [hts] at e
      have e' : pushLast s.tagsTmp t = some (l ++ [curOf x (some t)]) := e
      simp only [e']
      exact PartStep.slash _ hc (by rw [hts]; exact e)
  rw [if_neg h5]
  cases hts : s.tagStr with
  | none => trivial
  | some t => exact PartStep.tagChar t hc hts

theorem partRun_cons (s : PartSt) (c : Char) (cs : List Char) :
    partRun s (c :: cs) = (partStep s c).bind fun s' => partRun s' cs := by
  rw [partRun]
  cases partStep s c <;> rfl

/-- the code of `parse_partial_annotation` after the character loop -/
def partFinish (s : PartSt) : Res Parsed :=
  if s.isChar then .err .invalidArgument
  else finishTags "parse_partial_annotation:tags_tmp.last_mut().unwrap()" s.text s.bounds s.tagsTmp s.tagStr

theorem parsePartial_eq (input : List Char) :
    parsePartial input = if input = [] then .err .invalidArgument else (partRun {} input).bind partFinish := by
  rw [parsePartial]
  split
  · rfl
  · cases partRun {} input with
    | ok s =>
      simp only [Res.bind, partFinish, finishTags, flushTags]
      cases s.tagStr <;> rfl
    | err e => rfl
    | panic p => rfl
    | ub p => rfl

/-! ## reading the written tags of one character

Both parsers read tags the same way.  With `mk tt pend e` the state that holds the tag lists `tt`, the pending tag
string `pend` and the escape flag `e`: a backslash sets the flag, an escaped or ordinary character joins the pending tag,
a slash pushes the pending tag onto the last list and opens a new one. -/

theorem run_writeTags {σ : Type} (run : σ → List Char → Res σ)
    (mk : List (List (List Char)) → Option (List Char) → Bool → σ) (special : Char → Bool)
    (esc : List Char → List Char) (ok : Char → Prop) (hesc_nil : esc [] = [])
    (hesc : ∀ c cs, esc (c :: cs) = if special c then '\\' :: c :: esc cs else c :: esc cs)
    (hbs : ∀ tt pend r, run (mk tt pend false) ('\\' :: r) = run (mk tt pend true) r)
    (hch : ∀ tt t e c r, e = true ∨ special c = false → ok c →
      run (mk tt (some t) e) (c :: r) = run (mk tt (some (t ++ [c])) false) r)
    (hsl : ∀ l x pend r, run (mk (l ++ [x]) pend false) ('/' :: r) = run (mk (l ++ [curOf x pend]) (some []) false) r)
    (tg : List Tag) (h0 : ∀ t, some t ∈ tg → ∀ c ∈ t, ok c) (l : List (List (List Char))) :
    ∀ (x : List (List Char)) (pend : Option (List Char)) (rest : List Char), ∃ x' pend',
      run (mk (l ++ [x]) pend false) (writeTagsWith esc tg ++ rest) = run (mk (l ++ [x']) pend' false) rest ∧
        curOf x' pend' = curOf x pend ++ tg.map (·.getD []) := by
  -- an escaped tag string joins the pending tag character by character
  have hrun : ∀ (tt : List (List (List Char))) (cs : List Char), (∀ c ∈ cs, ok c) → ∀ (t rest : List Char),
      run (mk tt (some t) false) (esc cs ++ rest) = run (mk tt (some (t ++ cs)) false) rest := by
    intro tt cs
    induction cs with
    | nil => intro _ t rest; rw [hesc_nil, List.append_nil]; rfl
    | cons c cs ih =>
      intro hc t rest
      have ih := ih (fun d hd => hc d (List.mem_cons_of_mem _ hd)) (t ++ [c]) rest
      rw [List.append_assoc] at ih
      rw [hesc]
      cases hs : special c with
      | true => rw [if_pos rfl, List.cons_append, List.cons_append, hbs, hch _ _ _ _ _ (Or.inl rfl) (hc c (by simp)), ih]; rfl
      | false => rw [if_neg Bool.false_ne_true, List.cons_append, hch _ _ _ _ _ (Or.inr hs) (hc c (by simp)), ih]; rfl
  induction tg with
  | nil => intro x pend rest; exact ⟨x, pend, rfl, (List.append_nil _).symm⟩
  | cons t ts ih =>
    intro x pend rest
    obtain ⟨x', pend', h1, h2⟩ := ih (fun u hu => h0 u (List.mem_cons_of_mem _ hu)) (curOf x pend) (some (t.getD [])) rest
    refine ⟨x', pend', ?_, by rw [h2, List.map_cons, curOf, List.append_assoc]; rfl⟩
    cases t with
    | none => rw [writeTagsWith, List.cons_append, hsl]; exact h1
    | some u =>
      rw [writeTagsWith, List.cons_append, List.cons_append, hsl, List.append_assoc, hrun _ u (h0 u (by simp))]
      exact h1

end V
