import VProofs.Lemmas.QuantBits
import VModel.F64Fmt
/-!
# Reading back: a rational rounds to the double `a` exactly when it lies in the rounding interval of `a`
-/
namespace V.FmtL
open V V.F64 V.QuantL

/-! ## the normal form `c·2^t` of a magnitude: `c < 2^53`, and `2^52 ≤ c` above the integer grid -/

theorem normal_unique (c t r u : Nat) (hc : c < 2 ^ 53) (hr : r < 2 ^ 53) (hn : t = 0 ∨ 2 ^ 52 ≤ c)
    (hm : u = 0 ∨ 2 ^ 52 ≤ r) (h : r * 2 ^ u = c * 2 ^ t) : c = r ∧ t = u := by
  have e : t = u := by rw [← log2_normal c t hc hn, ← h, log2_normal r u hr hm]
  subst e
  exact ⟨(Nat.eq_of_mul_eq_mul_right (Nat.two_pow_pos t) h).symm, rfl⟩

theorem rep_normal (a : Nat) (ha : 0 < a) (hrep : repUnits a = true) :
    ∃ c t, a = c * 2 ^ t ∧ 0 < c ∧ c < 2 ^ 53 ∧ (t = 0 ∨ 2 ^ 52 ≤ c) := by
  unfold repUnits at hrep
  rw [beq_iff_eq] at hrep
  have hT := Nat.two_pow_pos (a.log2 - 52)
  have hdm := Nat.div_add_mod a (2 ^ (a.log2 - 52))
  rw [hrep, Nat.add_zero, Nat.mul_comm] at hdm
  have h1 : 2 ^ a.log2 ≤ a := Nat.log2_self_le (Nat.ne_of_gt ha)
  have h2 : a < 2 ^ (a.log2 + 1) := Nat.lt_log2_self
  refine ⟨a / 2 ^ (a.log2 - 52), a.log2 - 52, hdm.symm, ?_, ?_, ?_⟩
  · exact Nat.div_pos (Nat.le_trans (Nat.pow_le_pow_right (by decide) (Nat.sub_le _ _)) h1) hT
  · apply (Nat.div_lt_iff_lt_mul hT).mpr
    rw [← Nat.pow_add]
    exact Nat.lt_of_lt_of_le h2 (Nat.pow_le_pow_right (by decide) (by omega))
  · by_cases ht : a.log2 - 52 = 0
    · exact Or.inl ht
    · right
      apply (Nat.le_div_iff_mul_le hT).mpr
      rw [← Nat.pow_add]
      exact Nat.le_trans (Nat.pow_le_pow_right (by decide) (by omega)) h1

theorem roundUnits_on_grid (n d t : Nat) (hd : 0 < d) (hu : n < d * 2 ^ t * 2 ^ 53)
    (hl : t = 0 ∨ d * 2 ^ t * 2 ^ 52 ≤ n) : roundUnits n d = rneDiv n (d * 2 ^ t) * 2 ^ t := by
  rw [roundUnits_eq, shiftOf_eq n d t hd hu hl]

/-- what `roundUnits` computes: the grid `2^u` of the binade of `n/d`, and the nearest-even mantissa `r` on it -/
theorem roundUnits_grid (n d : Nat) (hd : 0 < d) :
    ∃ u r, roundUnits n d = r * 2 ^ u ∧ Rne n (d * 2 ^ u) r ∧ r ≤ 2 ^ 53 ∧ (u = 0 ∨ 2 ^ 52 ≤ r) ∧
      n < d * 2 ^ u * 2 ^ 53 ∧ (u = 0 ∨ d * 2 ^ u * 2 ^ 52 ≤ n) := by
  refine ⟨shiftOf n d, _, roundUnits_eq n d, rneDiv_spec _ _ (Nat.mul_pos hd (Nat.two_pow_pos _)), mant_le n d hd, ?_, ?_, ?_⟩
  · exact (Nat.eq_zero_or_pos _).imp_right fun h => mant_ge n d hd (Nat.ne_of_gt h)
  · rw [Nat.mul_assoc, ← Nat.pow_add]; exact shift_upper n d hd
  · rw [Nat.mul_assoc, ← Nat.pow_add]; exact shift_lower n d hd

/-- `n` lies in the rounding interval of `D·c`, where `D` is the grid step: at most half a step above and at most `lo/4`
below (`lo = 2·D`, but `lo = D` just above a power of two, where the grid below is twice as fine), the end points
excluded for odd `c` -/
def InIv (c D lo n : Nat) : Prop :=
  if c % 2 = 0 then 4 * (D * c) ≤ 4 * n + lo ∧ 4 * n ≤ 4 * (D * c) + 2 * D
  else 4 * (D * c) < 4 * n + lo ∧ 4 * n < 4 * (D * c) + 2 * D

/-- the lower width may grow; at or above `D·c` it does not matter -/
theorem InIv.weaken {c D lo lo' n : Nat} (h : InIv c D lo n) (hl : lo ≤ lo' ∨ D * c ≤ n ∧ 0 < lo') :
    InIv c D lo' n := by
  unfold InIv at h ⊢
  generalize D * c = X at h hl ⊢
  by_cases hp : c % 2 = 0
  · rw [if_pos hp] at h ⊢; omega
  · rw [if_neg hp] at h ⊢; omega

theorem inIv_iff_rne (c D n : Nat) : InIv c D (2 * D) n ↔ Rne n D c := by
  unfold InIv Rne
  generalize D * c = X
  by_cases hp : c % 2 = 0
  · rw [if_pos hp]; omega
  · rw [if_neg hp]; omega

theorem inRoundInterval_normal (c t n d : Nat) (hc : c < 2 ^ 53) (hn : t = 0 ∨ 2 ^ 52 ≤ c) :
    F64.inRoundInterval (c * 2 ^ t) n d = true ↔
      InIv c (d * 2 ^ t) (if c = 2 ^ 52 ∧ t ≠ 0 then d * 2 ^ t else 2 * (d * 2 ^ t)) n := by
  have hsp : (c * 2 ^ t = 2 ^ (52 + t) ∧ t ≠ 0) ↔ (c = 2 ^ 52 ∧ t ≠ 0) := by
    rw [Nat.pow_add]
    exact and_congr_left fun _ => ⟨Nat.eq_of_mul_eq_mul_right (Nat.two_pow_pos t), fun h => by rw [h]⟩
  have hlo : (if c * 2 ^ t = 2 ^ (52 + t) ∧ t ≠ 0 then 2 ^ t else 2 * 2 ^ t) * d =
      if c = 2 ^ 52 ∧ t ≠ 0 then d * 2 ^ t else 2 * (d * 2 ^ t) := by
    by_cases hx : c = 2 ^ 52 ∧ t ≠ 0
    · rw [if_pos hx, if_pos (hsp.mpr hx), Nat.mul_comm]
    · rw [if_neg hx, if_neg (fun h => hx (hsp.mp h))]; ac_rfl
  have eX : 4 * (c * 2 ^ t) * d = 4 * (d * 2 ^ t * c) := by ac_rfl
  have eU : 2 * 2 ^ t * d = 2 * (d * 2 ^ t) := by ac_rfl
  unfold F64.inRoundInterval InIv
  simp only []
  rw [log2_normal c t hc hn, Nat.mul_div_cancel _ (Nat.two_pow_pos t), hlo, eX, eU]
  by_cases hp : c % 2 = 0
  · rw [if_pos hp, if_pos hp, Bool.and_eq_true, decide_eq_true_eq, decide_eq_true_eq]
  · rw [if_neg hp, if_neg hp, Bool.and_eq_true, decide_eq_true_eq, decide_eq_true_eq]

theorem roundUnits_eq_iff (c t n d : Nat) (hd : 0 < d) (hc : c < 2 ^ 53) (hn : t = 0 ∨ 2 ^ 52 ≤ c) :
    roundUnits n d = c * 2 ^ t ↔
      InIv c (d * 2 ^ t) (if c = 2 ^ 52 ∧ t ≠ 0 then d * 2 ^ t else 2 * (d * 2 ^ t)) n := by
  have h53 : (2 : Nat) ^ 53 = 2 * 2 ^ 52 := by decide
  have e2 : ∀ u, d * 2 ^ (u + 1) = 2 * (d * 2 ^ u) := fun u => by rw [Nat.pow_succ]; ac_rfl
  constructor
  · intro h
    obtain ⟨u, r, hr, hrne, hr53, hm, hup, hlo⟩ := roundUnits_grid n d hd
    rw [hr] at h
    by_cases hr' : r = 2 ^ 53
    · -- the mantissa went up to the next power of two: `c·2^t = 2^52·2^(u+1)`
      subst hr'
      have h' : 2 ^ 52 * 2 ^ (u + 1) = c * 2 ^ t := by rw [← h, Nat.pow_succ 2 u, h53]; ac_rfl
      obtain ⟨rfl, rfl⟩ := normal_unique c t (2 ^ 52) (u + 1) hc (by decide) hn (Or.inr (Nat.le_refl _)) h'
      have h1 := hrne.1
      rw [if_pos ⟨rfl, Nat.succ_ne_zero u⟩, e2]
      unfold InIv
      rw [if_pos (by decide)]
      omega
    · obtain ⟨rfl, rfl⟩ := normal_unique c t r u hc (by omega) hn hm h
      have hiv := (inIv_iff_rne _ _ _).mpr hrne
      split
      · rename_i hs
        exact hiv.weaken (Or.inr ⟨by rw [hs.1]; exact hlo.resolve_left hs.2, Nat.mul_pos hd (Nat.two_pow_pos _)⟩)
      · exact hiv
  · intro h
    by_cases hsp : c = 2 ^ 52 ∧ t ≠ 0 ∧ n < d * 2 ^ t * c
    · -- just below a power of two the grid is `2^(t−1)`, and the mantissa there is `2^53`
      obtain ⟨rfl, ht, hlt⟩ := hsp
      obtain ⟨u, rfl⟩ : ∃ u, t = u + 1 := ⟨t - 1, by omega⟩
      rw [if_pos ⟨rfl, ht⟩, e2] at h
      rw [e2] at hlt
      unfold InIv at h
      rw [if_pos (by decide)] at h
      have hr : rneDiv n (d * 2 ^ u) = 2 ^ 53 :=
        (rneDiv_eq_iff _ _ _ (Nat.mul_pos hd (Nat.two_pow_pos u))).mpr ⟨by omega, by omega, fun _ => by decide, fun _ => by decide⟩
      have hb : n < d * 2 ^ u * 2 ^ 53 ∧ d * 2 ^ u * 2 ^ 52 ≤ n := by
        generalize d * 2 ^ u = D at h hlt ⊢
        omega
      rw [roundUnits_on_grid n d u hd hb.1 (Or.inr hb.2), hr, Nat.pow_succ 2 u, h53]
      ac_rfl
    · have hrne := (inIv_iff_rne _ _ _).mp (h.weaken (Or.inl (by split <;> omega)))
      have h1 := hrne.1
      have h2 := hrne.2.1
      have hD : 0 < d * 2 ^ t := Nat.mul_pos hd (Nat.two_pow_pos t)
      have hX : d * 2 ^ t * c ≤ d * 2 ^ t * (2 ^ 53 - 1) := Nat.mul_le_mul_left _ (by omega)
      have hlo : t = 0 ∨ d * 2 ^ t * 2 ^ 52 ≤ n := by
        by_cases ht : t = 0
        · exact Or.inl ht
        · right
          have h52 := hn.resolve_left ht
          by_cases hge : d * 2 ^ t * c ≤ n
          · exact Nat.le_trans (Nat.mul_le_mul_left _ h52) hge
          · have hc' : 2 ^ 52 + 1 ≤ c := by
              have : c ≠ 2 ^ 52 := fun e => hsp ⟨e, ht, by omega⟩
              omega
            have : d * 2 ^ t * (2 ^ 52 + 1) ≤ d * 2 ^ t * c := Nat.mul_le_mul_left _ hc'
            rw [Nat.mul_add, Nat.mul_one] at this
            generalize d * 2 ^ t * 2 ^ 52 = Y at this ⊢
            omega
      rw [roundUnits_on_grid n d t hd (by omega) hlo, (rneDiv_eq_iff _ _ _ hD).mpr hrne]

theorem interval_iff (a n d : Nat) (hd : 0 < d) (ha : 0 < a) (hrep : repUnits a = true) :
    roundUnits n d = a ↔ F64.inRoundInterval a n d = true := by
  obtain ⟨c, t, rfl, _, hc, hn⟩ := rep_normal a ha hrep
  rw [inRoundInterval_normal c t n d hc hn]
  exact roundUnits_eq_iff c t n d hd hc hn

/-- a rational inside the rounding interval of the double `a` rounds to `a` -/
theorem round_of_interval (a n d : Nat) (hd : 0 < d) (ha : 0 < a) (hrep : repUnits a = true)
    (h : F64.inRoundInterval a n d = true) : roundUnits n d = a :=
  (interval_iff a n d hd ha hrep).mpr h

theorem interval_of_round (a n d : Nat) (hd : 0 < d) (ha : 0 < a) (h : roundUnits n d = a) :
    F64.inRoundInterval a n d = true :=
  (interval_iff a n d hd ha (by rw [← h]; exact repUnits_of_repU (roundUnits_rep n d hd))).mp h

end V.FmtL
