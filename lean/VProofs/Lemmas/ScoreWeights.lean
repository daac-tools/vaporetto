import VModel.Weights
/-!
# Lemmas on `getZ`, `zipAdd`, `addAt`, `PW.add`, `PWV.addScore` (for C01)

A non-negative integer index is written as a cast (`Int.eq_ofNat_of_zero_le`): `omega` on `Int.toNat` is slow to check.
-/
namespace V.C01L

theorem getZ_neg (w : List Int) (i : Int) (h : i < 0) : getZ w i = 0 :=
  if_neg (Int.not_le.mpr h)

theorem getZ_eq_getD (w : List Int) (i : Int) (h : 0 ≤ i) : getZ w i = w.getD i.toNat 0 :=
  if_pos h

theorem getZ_nat (w : List Int) (j : Nat) : getZ w (j : Int) = w.getD j 0 :=
  getZ_eq_getD w j (Int.natCast_nonneg j)

theorem getZ_ge (w : List Int) (i : Int) (h : (w.length : Int) ≤ i) : getZ w i = 0 := by
  obtain ⟨n, rfl⟩ := Int.eq_ofNat_of_zero_le (Int.le_trans (Int.natCast_nonneg _) h)
  rw [getZ_nat, List.getD_eq_getElem?_getD, List.getElem?_eq_none (Int.ofNat_le.mp h)]
  rfl

theorem getZ_nil (i : Int) : getZ [] i = 0 := by
  unfold getZ
  split <;> rfl

theorem getZ_append (u v : List Int) (i : Int) : getZ (u ++ v) i = getZ u i + getZ v (i - u.length) := by
  by_cases h0 : 0 ≤ i
  · obtain ⟨n, rfl⟩ := Int.eq_ofNat_of_zero_le h0
    rw [getZ_nat, getZ_nat, List.getD_eq_getElem?_getD, List.getD_eq_getElem?_getD]
    by_cases h : n < u.length
    · rw [getZ_neg v _ (by omega), List.getElem?_append_left h, Int.add_zero]
    · have h1 : u.length ≤ n := Nat.le_of_not_lt h
      rw [← Int.ofNat_sub h1, getZ_nat, List.getElem?_append_right h1, List.getElem?_eq_none h1,
        List.getD_eq_getElem?_getD]
      exact (Int.zero_add _).symm
  · rw [getZ_neg _ _ (by omega), getZ_neg _ _ (by omega), getZ_neg _ _ (by omega)]
    rfl

theorem getZ_drop (w : List Int) (n : Nat) (i : Int) (h : 0 ≤ i) : getZ (w.drop n) i = getZ w (i + n) := by
  obtain ⟨j, rfl⟩ := Int.eq_ofNat_of_zero_le h
  rw [← Int.natCast_add, getZ_nat, getZ_nat, List.getD_eq_getElem?_getD, List.getD_eq_getElem?_getD,
    List.getElem?_drop, Nat.add_comm]

theorem getZ_replicate (k : Nat) (i : Int) : getZ (List.replicate k 0) i = 0 := by
  unfold getZ
  split
  · rw [List.getD_eq_getElem?_getD, List.getElem?_replicate]
    split <;> rfl
  · rfl

theorem getZ_append_replicate (w : List Int) (k : Nat) (i : Int) :
    getZ (w ++ List.replicate k 0) i = getZ w i := by
  rw [getZ_append, getZ_replicate, Int.add_zero]

theorem getZ_replicate_append (w : List Int) (k : Nat) (i : Int) :
    getZ (List.replicate k 0 ++ w) i = getZ w (i - k) := by
  rw [getZ_append, getZ_replicate, Int.zero_add, List.length_replicate]


theorem zipAdd_length (ys w : List Int) : (zipAdd ys w).length = ys.length := by
  induction ys generalizing w with
  | nil => simp [zipAdd]
  | cons y ys ih => cases w <;> simp [zipAdd, ih]

theorem zipAdd_getD (ys w : List Int) (j : Nat) (hj : j < ys.length) :
    (zipAdd ys w).getD j 0 = ys.getD j 0 + w.getD j 0 := by
  induction ys generalizing w j with
  | nil => simp at hj
  | cons y ys ih =>
    cases w with
    | nil => simp [zipAdd]
    | cons x xs =>
      cases j with
      | zero => simp [zipAdd]
      | succ j => simp only [zipAdd, List.getD_cons_succ]; exact ih xs j (by simpa using hj)

theorem zipAdd_getZ (ys w : List Int) (i : Int) (hi : i < ys.length) :
    getZ (zipAdd ys w) i = getZ ys i + getZ w i := by
  by_cases h0 : 0 ≤ i
  · rw [getZ_eq_getD _ _ h0, getZ_eq_getD _ _ h0, getZ_eq_getD _ _ h0, zipAdd_getD _ _ _ (by omega)]
  · rw [getZ_neg _ _ (by omega), getZ_neg _ _ (by omega), getZ_neg _ _ (by omega)]
    rfl

theorem addAt_length (ys : List Int) (start : Nat) (w : List Int) (h : start ≤ ys.length) :
    (addAt ys start w).length = ys.length := by
  unfold addAt
  rw [List.length_append, zipAdd_length, List.length_take, List.length_drop]
  omega

theorem addAt_getZ_lt (ys : List Int) (start : Nat) (w : List Int) (h : start ≤ ys.length) (i : Int)
    (hi : i < ys.length) : getZ (addAt ys start w) i = getZ ys i + getZ w (i - start) := by
  have hl : (ys.take start).length = start := by rw [List.length_take]; omega
  have hd : ((ys.drop start).length : Int) = ys.length - start := by rw [List.length_drop]; omega
  conv => rhs; rw [← List.take_append_drop start ys]
  unfold addAt
  rw [getZ_append, getZ_append, hl, zipAdd_getZ _ _ _ (by omega), Int.add_assoc]

theorem addAt_getD (ys : List Int) (start : Nat) (w : List Int) (h : start ≤ ys.length) (j : Nat) (hj : j < ys.length) :
    (addAt ys start w).getD j 0 = ys.getD j 0 + getZ w ((j : Int) - start) := by
  rw [← getZ_nat, ← getZ_nat, addAt_getZ_lt ys start w h j (by omega)]

theorem addAt_getZ (ys : List Int) (start : Nat) (w : List Int) (h : start + w.length ≤ ys.length) (i : Int) :
    getZ (addAt ys start w) i = getZ ys i + getZ w (i - start) := by
  by_cases hlt : i < ys.length
  · exact addAt_getZ_lt ys start w (by omega) i hlt
  · rw [getZ_ge _ _ (by rw [addAt_length _ _ _ (by omega)]; omega), getZ_ge ys _ (by omega), getZ_ge w _ (by omega)]
    rfl

theorem toNat_sub_of_le {m a : Int} (h : m ≤ a) : ((a - m).toNat : Int) = a - m :=
  Int.toNat_of_nonneg (Int.sub_nonneg_of_le h)

theorem PW_add_length (a b : PW) :
    (a.add b).weight.length = max ((a.offset - min a.offset b.offset).toNat + a.weight.length)
      ((b.offset - min a.offset b.offset).toNat + b.weight.length) := by
  show (addAt _ _ _).length = _
  generalize (a.offset - min a.offset b.offset).toNat = s
  generalize (b.offset - min a.offset b.offset).toNat = t
  rw [addAt_length] <;> simp only [List.length_append, List.length_replicate] <;> omega

theorem PW_add_length_ge (a b : PW) :
    a.weight.length ≤ (a.add b).weight.length ∧ b.weight.length ≤ (a.add b).weight.length := by
  rw [PW_add_length]
  exact ⟨Nat.le_trans (Nat.le_add_left _ _) (Nat.le_max_left _ _),
    Nat.le_trans (Nat.le_add_left _ _) (Nat.le_max_right _ _)⟩

theorem PW_add_denote (a b : PW) (x : Int) : (a.add b).denote x = a.denote x + b.denote x := by
  show getZ (addAt _ _ _) (x - min a.offset b.offset) = getZ _ _ + getZ _ _
  rw [addAt_getZ, List.append_assoc, getZ_replicate_append, getZ_append_replicate,
    toNat_sub_of_le (Int.min_le_left _ _), toNat_sub_of_le (Int.min_le_right _ _)]
  · congr 2 <;> omega
  · generalize (a.offset - min a.offset b.offset).toNat = s
    generalize (b.offset - min a.offset b.offset).toNat = t
    simp only [List.length_append, List.length_replicate]
    omega

theorem addScore_ok (cfg : Cfg) (pw : PW) (endPos : Int) (ys : List Int)
    (hvar : endPos + pw.offset ≤ ys.length)
    (hfix : cfg.fixed = true → pw.weight.length ≤ fixedLen →
      0 ≤ endPos + pw.offset ∧ endPos + pw.offset + fixedLen ≤ ys.length) :
    ∃ r, (pw.toPWV cfg).addScore endPos ys = .ok r ∧ r.length = ys.length ∧
      ∀ j, j < ys.length → r.getD j 0 = ys.getD j 0 + pw.denote ((j : Int) - endPos) := by
  have hden : ∀ j : Nat, pw.denote ((j : Int) - endPos) = getZ pw.weight ((j : Int) - (endPos + pw.offset)) := by
    intro j
    unfold PW.denote
    congr 1
    omega
  simp only [hden]
  unfold PW.toPWV WV.ofList PWV.addScore
  generalize endPos + pw.offset = pos at hvar hfix
  generalize pw.weight = w at hfix
  -- the three successful `addAt` branches: the start is in range and the added vector reads as `w` shifted by `pos`
  have done : ∀ (start : Nat) (v : List Int), start ≤ ys.length →
      (∀ j : Nat, getZ v ((j : Int) - start) = getZ w ((j : Int) - pos)) →
      ∃ r, Res.ok (addAt ys start v) = .ok r ∧ r.length = ys.length ∧
        ∀ j, j < ys.length → r.getD j 0 = ys.getD j 0 + getZ w ((j : Int) - pos) :=
    fun start v hs hv => ⟨_, rfl, addAt_length _ _ _ hs, fun j hj => by rw [addAt_getD _ _ _ hs j hj, hv]⟩
  by_cases hc : (cfg.fixed && decide (w.length ≤ fixedLen)) = true
  · rw [if_pos hc]
    simp only [Bool.and_eq_true, decide_eq_true_eq] at hc
    obtain ⟨h0, h8⟩ := hfix hc.1 hc.2
    obtain ⟨n, rfl⟩ := Int.eq_ofNat_of_zero_le h0
    simp only [Int.toNat_natCast]
    rw [if_pos ⟨h0, by omega⟩]
    exact done n _ (by omega) (fun j => getZ_append_replicate _ _ _)
  · rw [if_neg hc]
    simp only
    by_cases h0 : 0 ≤ pos
    · obtain ⟨n, rfl⟩ := Int.eq_ofNat_of_zero_le h0
      simp only [Int.toNat_natCast]
      rw [if_pos h0, if_pos (by omega)]
      exact done n w (by omega) (fun j => rfl)
    · rw [if_neg h0]
      obtain ⟨n, hn⟩ := Int.eq_ofNat_of_zero_le (a := -pos) (by omega)
      rw [hn, Int.toNat_natCast]
      by_cases h2 : n ≤ w.length
      · rw [if_pos h2]
        refine done 0 _ (Nat.zero_le _) (fun j => ?_)
        rw [getZ_drop _ _ _ (by omega)]
        congr 1
        omega
      · rw [if_neg h2]
        exact ⟨ys, rfl, rfl, fun j _ => by rw [getZ_ge w _ (by omega), Int.add_zero]⟩
end V.C01L
