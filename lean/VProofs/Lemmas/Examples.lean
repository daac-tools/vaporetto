import VModel.Examples
import VProofs.Lemmas.CliSafe
import VProofs.C06
import VProofs.Lemmas.UseNew
import VProofs.Lemmas.TagAsmCollect
import VProofs.Lemmas.SerCanon
import VProofs.C02
import VProofs.C03
/-!
# Examples — helper lemmas for the two example programs (`VModel/Examples.lean`): the browser worker (C16) and the
embedded device (C14), each by itself and against the `predict` tool (`VModel/Cli.lean`)
-/
namespace V.ExL
open V V.C20L

theorem wasmCopy_ok (msg : List Char) (hne : msg ≠ []) (s : Sentence) (hi : Inv s) (hl : s.text.length = msg.length) :
    wasmCopy (Sentence.mkRaw msg) s =
      .ok { Sentence.mkRaw msg with bounds := s.bounds, tags := s.tags, nTags := s.nTags } := by
  obtain ⟨c1, c2, _⟩ := mkRaw_copy hne hi hl
  have c2' : (({ Sentence.mkRaw msg with bounds := s.bounds } : Sentence).resetTags s.nTags).tags.length
      = s.tags.length := by
    rw [← c2]
    exact List.length_replicate
  unfold wasmCopy
  rw [if_neg (fun c => c c1)]
  simp only []
  rw [if_neg (fun c => c c2')]
  rfl

theorem wasmTokens_go_ok (s : Sentence) (l : List (Nat × Nat))
    (h : ∀ se ∈ l, se.1 ≤ se.2 ∧ se.2 ≤ s.text.length ∧ 0 < se.2 ∧ se.2 * s.nTags ≤ s.tags.length) :
    wasmTokens.go s l = .ok (l.map fun se => ((s.text.drop se.1).take (se.2 - se.1),
      ((s.tags.drop ((se.2 - 1) * s.nTags)).take s.nTags).map fun t => t.getD [])) := by
  induction l with
  | nil => rfl
  | cons x r ih =>
    obtain ⟨st, en⟩ := x
    obtain ⟨h1, h2, h3, h4⟩ := h (st, en) (by simp)
    simp only at h1 h2 h3 h4
    have hs : s.substring st en = .ok ((s.text.drop st).take (en - st)) := s.substring_eq h1 h2
    have ht := s.tokenTags_eq h3 h4
    have hr := ih (fun se hse => h se (by simp [hse]))
    simp only [wasmTokens.go, hs, ht, hr, List.map_cons]

/-- the library pipeline the worker runs, on a fresh sentence -/
def wasmLib (p : Predictor) (cl : List Nat) (x : List Char) : Res Sentence :=
  bindR (Sentence.fromRaw x) fun s0 =>
  bindR (p.predict 0 s0) fun s1 =>
  bindR (filterGraphemes cl s1) fun s2 =>
  bindR (filterWsConst 1 s2) fun s3 => p.predictTags s3

theorem pick_mem : ∀ (tags : List (List (List Char))) (sc : List Int) (t : List Char),
    some t ∈ specPickTags tags sc → ∃ cands ∈ tags, t ∈ cands
  | [], _, t, h => by simp [specPickTags] at h
  | cands :: r, sc, t, h => by
    unfold specPickTags at h
    split at h
    · next h2 =>
      rcases List.mem_cons.mp h with h | h
      · have hi : firstMax (sc.take cands.length) < cands.length := by
          by_cases he : sc.take cands.length = []
          · rw [he]
            show 0 < cands.length
            omega
          · have h1 := C12L.firstMax_lt _ he
            have h2 : (sc.take cands.length).length ≤ cands.length := by
              rw [List.length_take]
              exact Nat.min_le_left _ _
            omega
        injection h with h
        refine ⟨cands, List.mem_cons_self, ?_⟩
        rw [h, List.getD_eq_getElem?_getD, List.getElem?_eq_getElem hi]
        exact List.getElem_mem hi
      · obtain ⟨c, hc, ht⟩ := pick_mem r _ t h
        exact ⟨c, List.mem_cons_of_mem _ hc, ht⟩
    · rcases List.mem_cons.mp h with h | h
      · exact ⟨cands, List.mem_cons_self, List.mem_of_mem_head? h.symm⟩
      · obtain ⟨c, hc, ht⟩ := pick_mem r _ t h
        exact ⟨c, List.mem_cons_of_mem _ hc, ht⟩

theorem tokenTags_mem (m : WModel) (text : List Char) (st en : Nat) (t : List Char)
    (h : some t ∈ specTokenTags m text st en) : ∃ tm ∈ m.tagModels, ∃ cands ∈ tm.tags, t ∈ cands := by
  unfold specTokenTags at h
  split at h
  · cases (List.mem_replicate.mp h).2
  · next tm htm =>
    rcases List.mem_append.mp h with h | h
    · exact ⟨tm, C06L.tagModelOf_mem m _ tm htm, pick_mem _ _ t h⟩
    · cases (List.mem_replicate.mp h).2

theorem allTags_mem (m : WModel) (text : List Char) (bs : List B) (t : List Char)
    (h : some t ∈ specAllTags m text bs) : ∃ tm ∈ m.tagModels, ∃ cands ∈ tm.tags, t ∈ cands := by
  unfold specAllTags at h
  obtain ⟨i, _, h⟩ := List.mem_flatMap.mp h
  split at h
  · exact tokenTags_mem m text _ _ t h
  · cases (List.mem_replicate.mp h).2

/-- the flags of `predict --predict-tags --wsconst GD` -/
def wasmFlags : PredictFlags :=
  { noNorm := false, predictTags := true, scores := false, tagScores := false, wsconst := ['G', 'D'] }

/-- the stages that the worker and the tool share, on the normalised message: the sentence `s` after `fill_tags` is
consistent, has no unknown boundary, and carries only tags of the model -/
theorem wasm_stage (cfg : Cfg) (m : WModel) (hm : WFModel m) (ht : WFTags m) (p : Predictor)
    (hp : Predictor.new cfg m true = .ok p) (msg : List Char) (hne : msg ≠ []) (hnul : '\x00' ∉ msg)
    (cl : List Nat) (hpos : ∀ l ∈ cl, 1 ≤ l) (hsum : cl.sum = msg.length) :
    ∃ s1 s2 s3 s,
      Sentence.fromRaw (Gen.fullwidth msg) = .ok (Sentence.mkRaw (Gen.fullwidth msg)) ∧
      p.predict 0 (Sentence.mkRaw (Gen.fullwidth msg)) = .ok s1 ∧
      filterGraphemes cl s1 = .ok s2 ∧ filterWsConst 1 s2 = .ok s3 ∧ p.predictTags s3 = .ok s ∧
      Printed (Gen.fullwidth msg) s ∧
      (∀ t, some t ∈ s.tags → ∃ tm ∈ m.tagModels, ∃ cands ∈ tm.tags, t ∈ cands) := by
  have hx_ne := C16L.fullwidth_ne_nil msg hne
  have hx_nul := C16L.fullwidth_no_nul msg hnul
  have hlen := C16L.fullwidth_length msg
  obtain ⟨s1, e1, hP⟩ := predict_stage cfg m hm true p hp _ hx_ne
  obtain ⟨s2, e2, r2⟩ := graphemes_relabels hP.inv hpos (by rw [hsum, hP.text, hlen])
  obtain ⟨s3, e3, r3⟩ := wsconst_relabels 1 (r2.inv hP.inv)
  obtain ⟨bs3, hs3, l3, hU3⟩ := r2.trans r3
  subst hs3
  obtain ⟨s, e4, _, htg, hF, _⟩ := tags_stage cfg m hm ht p hp p.storeTagScores _ hx_ne s1 e1 hP bs3 l3 (hU3 hP.noU)
  exact ⟨s1, s2, _, s, fromRaw_ok _ hx_ne hx_nul, e1, e2, e3, e4, hF, fun t h => allTags_mem m _ bs3 t (htg ▸ h)⟩

theorem wasm_answer (cfg : Cfg) (m : WModel) (hm : WFModel m) (ht : WFTags m) (p : Predictor)
    (hp : Predictor.new cfg m true = .ok p) (w : WasmWorker) (msg : List Char) (hne : msg ≠ []) (hnul : '\x00' ∉ msg)
    (cl : List Nat) (hpos : ∀ l ∈ cl, 1 ≤ l) (hsum : cl.sum = msg.length) :
    ∃ s w' toks,
      wasmLib p cl (Gen.fullwidth msg) = .ok s ∧
      wasmReceived p cl w msg = .ok (w', toks, s.nTags) ∧
      toks = (iterTokens s.bounds).map (fun se => ((msg.drop se.1).take (se.2 - se.1),
        ((s.tags.drop ((se.2 - 1) * s.nTags)).take s.nTags).map (fun t => t.getD []))) ∧
      (toks.map (·.1)).flatten = msg := by
  have hx_ne := C16L.fullwidth_ne_nil msg hne
  have hx_nul := C16L.fullwidth_no_nul msg hnul
  have hlen := C16L.fullwidth_length msg
  have he : ¬ msg.isEmpty = true := by simpa using hne
  obtain ⟨s1, s2, s3', s3, e0, e1, e2, e3, e4, hF, _⟩ := wasm_stage cfg m hm ht p hp msg hne hnul cl hpos hsum
  -- the copy onto the original characters
  have hl3 : s3.text.length = msg.length := by rw [hF.text, hlen]
  have hb3 := hF.inv.bounds_len
  have htok := wasmTokens_go_ok
    ({ Sentence.mkRaw msg with bounds := s3.bounds, tags := s3.tags, nTags := s3.nTags } : Sentence)
    (iterTokens s3.bounds) (fun se hse => by
      have hr := iterTokens_range s3.bounds se hse
      refine ⟨by omega, ?_, by omega, ?_⟩
      · show se.2 ≤ msg.length
        omega
      · show se.2 * s3.nTags ≤ s3.tags.length
        rw [hF.inv.tags_len]
        exact Nat.mul_le_mul_right _ (by omega))
  refine ⟨s3, { sFiltered := s3, sOrig :=
    ({ Sentence.mkRaw msg with bounds := s3.bounds, tags := s3.tags, nTags := s3.nTags } : Sentence) }, _, ?_, ?_, rfl, ?_⟩
  · simp only [wasmLib, e0, bindR_ok, e1, e2, e3, e4]
  · simp only [wasmReceived, he, Bool.false_eq_true, if_false, updateRaw_ok _ _ hx_ne hx_nul, bindR_ok, Bool.not_true,
      e1, e2, e3, e4, updateRaw_ok _ _ hne hnul, wasmCopy_ok msg hne s3 hF.inv hl3, wasmTokens, htok]
    rfl
  · rw [List.map_map]
    have := C02_partition_concat msg s3.bounds hF.noU (by omega)
    rw [List.flatMap_def] at this
    exact this

theorem new_plain_total (cfg : Cfg) (m : WModel) (hm : WFModel m) : ∃ p, Predictor.new cfg m false = .ok p :=
  C11L.new_total0 cfg m hm.toWFModel0 false (fun c => by cases c) (fun c => by cases c) (fun c => by cases c)

theorem embedded_device (m : WModel) (text : List Char) :
    embeddedDevice m text = bindR (Predictor.new embeddedCfg m false) fun p => embeddedTokenize p text := by
  unfold embeddedDevice embeddedBuild
  cases h : Predictor.new embeddedCfg m false with
  | ok p => simp only [Res.map, bindR_ok, C14L.new_reser h]
  | err e => rfl
  | panic q => rfl
  | ub q => rfl

theorem writeTokBody_congr (s s' : Sentence) (h1 : s.text = s'.text) (h2 : s.tags = s'.tags) (h3 : s.nTags = s'.nTags) :
    ∀ (l : List (Nat × Nat)) (first : Bool), writeTokBody s l first = writeTokBody s' l first := by
  intro l
  induction l with
  | nil => intro first; rfl
  | cons x r ih =>
    intro first
    obtain ⟨st, en⟩ := x
    have hs : s.substring st en = s'.substring st en := by
      unfold Sentence.substring
      rw [h1]
    have ht : s.tokenTags en = s'.tokenTags en := by
      unfold Sentence.tokenTags
      rw [h2, h3]
    simp only [writeTokBody, hs, ht, ih]

theorem tail_congr (s s' : Sentence) (h1 : s.text = s'.text) (h2 : s.types = s'.types) (h3 : s.bounds = s'.bounds)
    (h4 : s.tags = s'.tags) (h5 : s.nTags = s'.nTags) :
    bindR (filterWsConst 1 s) Sentence.writeTokenized = bindR (filterWsConst 1 s') Sentence.writeTokenized := by
  have hgo : filterWsConst.go 1 s.types s.bounds = filterWsConst.go 1 s'.types s'.bounds := by rw [h2, h3]
  have hlen : s.types.length = s'.types.length := by rw [h2]
  unfold filterWsConst
  rw [hlen, hgo]
  split
  · rfl
  · cases filterWsConst.go 1 s'.types s'.bounds with
    | ok bs =>
      simp only [bindR_ok]
      exact writeTokBody_congr ({ s with bounds := bs } : Sentence) ({ s' with bounds := bs } : Sentence) h1 h4 h5
        (iterTokens bs) true
    | err e => rfl
    | panic q => rfl
    | ub q => rfl

theorem embeddedTokenize_indep (cfg₁ cfg₂ : Cfg) (m : WModel) (hm : WFModel m) (p₁ p₂ : Predictor)
    (h₁ : Predictor.new cfg₁ m false = .ok p₁) (h₂ : Predictor.new cfg₂ m false = .ok p₂) (text : List Char) :
    embeddedTokenize p₁ text = embeddedTokenize p₂ text := by
  unfold embeddedTokenize
  rcases raw_cases text with ⟨h, _⟩ | ⟨⟨hne, _⟩, h, _⟩
  · simp only [h]
  · simp only [h]
    obtain ⟨s₁, e₁, _, b1, c1, d1, t1, n1, _⟩ := C01_scores cfg₁ m hm false p₁ h₁ _ (sentOK_mkRaw text hne) 0
    obtain ⟨s₂, e₂, _, b2, c2, d2, t2, n2, _⟩ := C01_scores cfg₂ m hm false p₂ h₂ _ (sentOK_mkRaw text hne) 0
    rw [e₁, e₂]
    simp only [bindR_ok]
    exact tail_congr s₁ s₂ (c1.trans c2.symm) (d1.trans d2.symm) (b1.trans b2.symm) (t1.trans t2.symm) (n1.trans n2.symm)

theorem embedded_cfg_independent (cfg : Cfg) (m : WModel) (hm : WFModel m) (text : List Char) :
    embeddedDevice m text = bindR (Predictor.new cfg m false) fun p => embeddedTokenize p text := by
  obtain ⟨p₁, h₁⟩ := new_plain_total embeddedCfg m hm
  obtain ⟨p₂, h₂⟩ := new_plain_total cfg m hm
  rw [embedded_device, h₁, h₂, bindR_ok, bindR_ok]
  exact embeddedTokenize_indep _ _ m hm p₁ p₂ h₁ h₂ text

end V.ExL

namespace V.ExCli
open V V.C20L V.ExL

theorem trimNone_append : ∀ (l : List Tag), ∃ k, l = trimNone l ++ List.replicate k none
  | [] => ⟨0, rfl⟩
  | t :: ts => by
    obtain ⟨k, hk⟩ := trimNone_append ts
    unfold trimNone
    cases hr : trimNone ts with
    | nil =>
      rw [hr, List.nil_append] at hk
      cases t with
      | none =>
        refine ⟨k + 1, ?_⟩
        simp only [Option.isSome_none, Bool.false_eq_true, if_false, List.nil_append, List.replicate_succ]
        rw [← hk]
      | some x =>
        refine ⟨k, ?_⟩
        simp only [Option.isSome_some, if_true, List.cons_append, List.nil_append]
        rw [← hk]
    | cons a r =>
      rw [hr] at hk
      refine ⟨k, ?_⟩
      show t :: ts = (t :: a :: r) ++ List.replicate k none
      rw [List.cons_append, ← hk]

/-- the worker's answer and the line of the tool: same characters, same segmentation, same tags -/
theorem wasm_eq_tool (cfg : Cfg) (m : WModel) (hm : WFModel m) (ht : WFTags m)
    (htag : ∀ tm ∈ m.tagModels, ∀ cands ∈ tm.tags, ∀ t ∈ cands, t ≠ [] ∧ '\x00' ∉ t)
    (p : Predictor) (hp : Predictor.new cfg m true = .ok p) (w : WasmWorker) (msg : List Char) (hne : msg ≠ [])
    (hnul : '\x00' ∉ msg) (cl : List Nat) (hpos : ∀ l ∈ cl, 1 ≤ l) (hsum : cl.sum = msg.length) :
    ∃ w' toks n line q,
      wasmReceived p cl w msg = .ok (w', toks, n) ∧
      libLine' wasmFlags p [PostFilter.graphemes cl, PostFilter.ws 1] msg = .ok (line ++ ['\n']) ∧
      parseTokenized line = .ok q ∧ q.text = msg ∧
      toks.map (·.1) = (iterTokens q.bounds).map (fun se => (q.text.drop se.1).take (se.2 - se.1)) ∧
      ∀ i, i < toks.length → ∃ k,
        (toks.getD i ([], [])).2 =
          (tokenTagsTrim q.tags (q.tags.length / q.text.length) ((iterTokens q.bounds).getD i (0, 0)).2).map (·.getD [])
            ++ List.replicate k [] := by
  obtain ⟨s1, s2, s3, s, e0, e1, e2, e3, e4, hF, htags⟩ := wasm_stage cfg m hm ht p hp msg hne hnul cl hpos hsum
  obtain ⟨s', w', toks, hlib, hrecv, htoks, _⟩ := wasm_answer cfg m hm ht p hp w msg hne hnul cl hpos hsum
  have hs : s' = s := by
    have h : wasmLib p cl (Gen.fullwidth msg) = .ok s := by simp only [wasmLib, e0, e1, e2, e3, e4, bindR_ok]
    rw [h] at hlib
    injection hlib with h
    exact h.symm
  subst hs
  obtain ⟨shown, wl, sc, ts, c1, c2, c3, c4, hinv, htx, hbd, htg, hnt, hsc, hts⟩ := tail_ok wasmFlags msg hne hnul s' hF
    (fun c => by cases c)
  have hsc0 := hsc rfl
  have hts0 := hts rfl
  subst hsc0 hts0
  have hwf : WFTok shown :=
    ⟨hinv.text_ne, by rw [htx]; exact fun c hc e => hnul (e ▸ hc), hinv.bounds_len, by rw [hbd]; exact hF.noU,
      hinv.tags_len, fun t h => by
        rw [htg] at h
        obtain ⟨tm, h1, c, h2, h3⟩ := htags t h
        obtain ⟨g1, g2⟩ := htag tm h1 c h2 t h3
        exact ⟨g1, fun c hc e => g2 (e ▸ hc)⟩⟩
  obtain ⟨wl', q, hw, hq, hqt, hqb, hqtags⟩ := C03_roundtrip shown hwf
  rw [c2] at hw
  injection hw with hw
  subst hw
  have hb : q.bounds = s'.bounds := hqb.trans hbd
  refine ⟨w', toks, s'.nTags, wl, q, hrecv, ?_, hq, hqt.trans htx, ?_, ?_⟩
  · have n1 : wasmFlags.noNorm = false := rfl
    have n2 : wasmFlags.predictTags = true := rfl
    have n3 : wasmFlags.tagScores = false := rfl
    have n4 : wasmFlags.scores = false := rfl
    have e23 : applyPostFilters [PostFilter.graphemes cl, PostFilter.ws 1] s1 = .ok s3 := by
      simp only [applyPostFilters, e2, e3]
    simp only [libLine', n1, n2, n3, n4, Bool.false_and, Bool.false_eq_true, if_false, if_true, e0, e1, bindR_ok,
      applyWsconst, e23, e4, c1, c2, List.append_nil]
  · rw [htoks, List.map_map, hb, hqt, htx]
    rfl
  · intro i hi
    have hlen : toks.length = (iterTokens s'.bounds).length := by rw [htoks, List.length_map]
    have hi' : i < (iterTokens s'.bounds).length := by omega
    have hmem : (iterTokens s'.bounds)[i] ∈ iterTokens shown.bounds := by
      rw [hbd]
      exact List.getElem_mem hi'
    have hrow := hqtags _ hmem
    obtain ⟨k, hk⟩ := trimNone_append
      ((s'.tags.drop ((((iterTokens s'.bounds)[i]).2 - 1) * s'.nTags)).take s'.nTags)
    refine ⟨k, ?_⟩
    rw [hb, List.getD_eq_getElem?_getD, List.getD_eq_getElem?_getD, List.getElem?_eq_getElem hi',
      List.getElem?_eq_getElem hi]
    simp only [Option.getD_some]
    rw [hrow]
    simp only [htoks, List.getElem_map]
    unfold tokenTagsTrim
    rw [htg, hnt]
    conv => lhs; rw [hk]
    rw [List.map_append, List.map_replicate]
    rfl

end V.ExCli

