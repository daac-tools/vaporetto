import VModel.Spec
import VProofs.Lemmas.TagNew
import VProofs.Lemmas.TagPick
/-!
# The per-token block of `predict_tags` (for C06)
-/
namespace V.C06L
open V.C01L

theorem tags_le_nTags (m : WModel) (tm : TagModel) (h : tm ∈ m.tagModels) : tm.tags.length ≤ specNTags m :=
  (foldl_ge _ (fun _ _ => Nat.le_max_left _ _) m.tagModels 0).2 tm h _ (fun _ => Nat.le_max_right _ _)

theorem list_ext_getZ (a b : List Int) (hl : a.length = b.length)
    (h : ∀ c : Nat, getZ a (c : Int) = getZ b (c : Int)) : a = b := by
  apply List.ext_getElem hl
  intro i h1 h2
  have := h i
  rw [getZ_nat, getZ_nat, List.getD_eq_getElem?_getD, List.getD_eq_getElem?_getD,
    List.getElem?_eq_getElem h1, List.getElem?_eq_getElem h2] at this
  simpa using this

variable {α : Type} [DecidableEq α]

theorem tagNgramScore_nil (seq : List α) (i c : Nat) : tagNgramScore ([] : List (TagNgramData α)) seq i c = 0 := rfl

theorem tagNgramScore_ge (tbl : List (TagNgramData α)) (seq : List α) (i c : Nat)
    (h : ∀ d ∈ tbl, ∀ w ∈ d.weights, w.weights.length ≤ c) : tagNgramScore tbl seq i c = 0 := by
  unfold tagNgramScore
  apply isum_map_eq_zero
  intro d hd
  apply isum_map_eq_zero
  intro w hw
  rw [getZ_ge _ _ (by have := h d hd w hw; omega)]
  split <;> rfl

/-- the score vector `predict_tags` computes for tag model `tm` at last character `i` -/
def scoreVec (cfg : Cfg) (tm : TagModel) (text : List Char) (i : Nat) : List Int :=
  specTagScores tm text i ++ List.replicate (vlen cfg (nClass tm.tags) - nClass tm.tags) 0

theorem specTagScores_length (tm : TagModel) (text : List Char) (i : Nat) :
    (specTagScores tm text i).length = nClass tm.tags := by simp [specTagScores]

theorem scoreVec_length (cfg : Cfg) (tm : TagModel) (text : List Char) (i : Nat) :
    (scoreVec cfg tm text i).length = vlen cfg (nClass tm.tags) := by
  unfold scoreVec
  rw [List.length_append, specTagScores_length, List.length_replicate]
  have := le_vlen cfg (nClass tm.tags)
  omega

theorem scoreVec_take (cfg : Cfg) (tm : TagModel) (text : List Char) (i : Nat) :
    (scoreVec cfg tm text i).take (nClass tm.tags) = specTagScores tm text i :=
  List.take_left' (specTagScores_length tm text i)

theorem specTagScores_getZ (tm : TagModel) (text : List Char) (i c : Nat) (hc : c < nClass tm.tags) :
    getZ (specTagScores tm text i) (c : Int)
      = getZ tm.bias (c : Int) + tagNgramScore tm.charNgrams text i c + tagNgramScore tm.typeNgrams (typesOf text) i c := by
  rw [getZ_nat, List.getD_eq_getElem?_getD]
  unfold specTagScores
  rw [List.getElem?_map, List.getElem?_range hc]
  rfl

theorem getZ_scoreVec (cfg : Cfg) (tm : TagModel) (text : List Char) (i c : Nat) :
    getZ (scoreVec cfg tm text i) (c : Int)
      = if c < nClass tm.tags then
          getZ tm.bias (c : Int) + tagNgramScore tm.charNgrams text i c + tagNgramScore tm.typeNgrams (typesOf text) i c
        else 0 := by
  unfold scoreVec
  rw [getZ_append_replicate]
  by_cases hc : c < nClass tm.tags
  · rw [if_pos hc, specTagScores_getZ tm text i c hc]
  · rw [if_neg hc, getZ_ge _ _ (by rw [specTagScores_length]; omega)]

/-- the tag part of well-formedness that the proofs use -/
structure WFT (m : WModel) : Prop where
  bias_len : ∀ tm ∈ m.tagModels, tm.bias.length = nClass tm.tags
  char_ok : ∀ tm ∈ m.tagModels, ∀ d ∈ tm.charNgrams, ∀ w ∈ d.weights, w.weights.length = nClass tm.tags
  type_ok : ∀ tm ∈ m.tagModels, ∀ d ∈ tm.typeNgrams, ∀ w ∈ d.weights, w.weights.length = nClass tm.tags

/-- the token map `tag_predictor` of a predictor built from `m`, in insertion order -/
def tpmOf (cfg : Cfg) (m : WModel) : List (List Char × Nat × TagPredictor) :=
  (m.tagModels.zipIdx).map fun x => (x.1.token, x.2, mkTP cfg x.1)

/-- a tag-predicting predictor built from `m` -/
structure PredOK (cfg : Cfg) (m : WModel) (p : Predictor) : Prop where
  tpm : p.tagPredictor = some (tpmOf cfg m)
  nTags : p.nTags = specNTags m
  cs : (p.charScorer = none ∧ ∀ tm ∈ m.tagModels.map (·.charNgrams), tm = []) ∨
    ∃ sc, p.charScorer = some sc ∧ TagScorerOK cfg m.charW (m.tagModels.map (·.charNgrams)) (Lm m) sc
  ts : (p.typeScorer = none ∧ ∀ tm ∈ m.tagModels.map (·.typeNgrams), tm = []) ∨
    ∃ sc, p.typeScorer = some (.pma sc) ∧ TagScorerOK cfg m.typeW (m.tagModels.map (·.typeNgrams)) (Lm m) sc

/-- the part of the sentence the token block reads and never writes -/
structure StOK (p : Predictor) (text : List Char) (s : Sentence) : Prop where
  text_eq : s.text = text
  cst : ∀ sc, p.charScorer = some sc → s.cstates = statesOf sc.pats text
  tst : ∀ sc, p.typeScorer = some (.pma sc) → s.tstates = statesOf sc.pats (typesOf text)

theorem lookupLast_zipIdx (cfg : Cfg) (tok : List Char) (tms : List TagModel) :
    ∀ k0, (lookupLast tok ((tms.zipIdx k0).map fun x => (x.1.token, x.2, mkTP cfg x.1)) = none ∧
        tms.reverse.find? (fun tm => tm.token = tok) = none) ∨
      ∃ tid tm, lookupLast tok ((tms.zipIdx k0).map fun x => (x.1.token, x.2, mkTP cfg x.1)) = some (tid, mkTP cfg tm) ∧
        k0 ≤ tid ∧ tms[tid - k0]? = some tm ∧ tms.reverse.find? (fun tm => tm.token = tok) = some tm := by
  induction tms with
  | nil => intro k0; exact .inl ⟨rfl, rfl⟩
  | cons a r ih =>
    intro k0
    rw [List.zipIdx_cons, List.map_cons, lookupLast, List.reverse_cons, List.find?_append]
    rcases ih (k0 + 1) with ⟨h1, h2⟩ | ⟨tid, tm, h1, hle, hget, h2⟩
    · rw [h1, h2, Option.none_or, List.find?_singleton]
      by_cases h : a.token = tok
      · refine .inr ⟨k0, a, ?_, Nat.le_refl _, ?_, ?_⟩
        · simp only [if_pos h]
        · rw [Nat.sub_self, List.getElem?_cons_zero]
        · rw [decide_eq_true h, if_pos rfl]
      · refine .inl ⟨?_, ?_⟩
        · simp only [if_neg h]
        · rw [decide_eq_false h, if_neg Bool.false_ne_true]
    · rw [h1, h2, Option.some_or]
      refine .inr ⟨tid, tm, rfl, Nat.le_of_succ_le hle, ?_, rfl⟩
      rw [show tid - k0 = tid - (k0 + 1) + 1 by omega, List.getElem?_cons_succ]
      exact hget

theorem lookup_tpmOf (cfg : Cfg) (m : WModel) (tok : List Char) :
    (lookupLast tok (tpmOf cfg m) = none ∧ tagModelOf m tok = none) ∨
    ∃ tid tm, lookupLast tok (tpmOf cfg m) = some (tid, mkTP cfg tm) ∧ m.tagModels[tid]? = some tm ∧
      tagModelOf m tok = some tm := by
  rcases lookupLast_zipIdx cfg tok m.tagModels 0 with h | ⟨tid, tm, h1, _, h2, h3⟩
  · exact .inl h
  · exact .inr ⟨tid, tm, h1, h2, h3⟩

theorem mem_of_getElem?' {β : Type} (l : List β) (i : Nat) (a : β) (h : l[i]? = some a) : a ∈ l :=
  List.mem_of_getElem? h

theorem tagScore_phases (cfg : Cfg) (m : WModel) (p : Predictor) (hP : PredOK cfg m p) (hW : WFT m)
    (text : List Char) (s : Sentence) (hs : StOK p text s) (tid : Nat) (tm : TagModel)
    (htid : m.tagModels[tid]? = some tm) (i : Nat) (hi : i < text.length) :
    ∃ sc1 sc2, (mkTP cfg tm).bias.addScores (List.replicate (mkTP cfg tm).bias.len 0) = .ok sc1 ∧
      (match p.charScorer with
        | some sc => pmaAddTagScores sc tid i s.cstates sc1
        | none => .ok sc1) = .ok sc2 ∧
      (match p.typeScorer with
        | some ts => typeAddTagScores ts tid i s.tstates sc2
        | none => .ok sc2) = .ok (scoreVec cfg tm text i) := by
  have hmem : tm ∈ m.tagModels := List.mem_of_getElem? htid
  have hK := Lm_eq m tid tm htid
  have hbl := hW.bias_len tm hmem
  have hlen0 : (mkTP cfg tm).bias.len = vlen cfg (nClass tm.tags) := by
    show (WV.ofList cfg tm.bias).len = _
    rw [ofList_len, hbl]
  obtain ⟨sc1, a1, a2, a3⟩ := ofList_addScores cfg (nClass tm.tags) tm.bias
    (List.replicate (mkTP cfg tm).bias.len 0) hbl (by rw [List.length_replicate, hlen0])
  have hl1 : sc1.length = vlen cfg (nClass tm.tags) := by rw [a2, List.length_replicate, hlen0]
  have hchar : ∃ sc2, (match p.charScorer with
        | some sc => pmaAddTagScores sc tid i s.cstates sc1
        | none => .ok sc1) = .ok sc2 ∧ sc2.length = sc1.length ∧
      ∀ c : Nat, getZ sc2 (c : Int) = getZ sc1 (c : Int) + tagNgramScore tm.charNgrams text i c := by
    rcases hP.cs with ⟨h1, h2⟩ | ⟨sc, h1, h2⟩
    · rw [h1]
      refine ⟨sc1, rfl, rfl, fun c => ?_⟩
      rw [h2 tm.charNgrams (List.mem_map.mpr ⟨tm, hmem, rfl⟩), tagNgramScore_nil]; omega
    · rw [h1, hs.cst sc h1]
      exact pmaAddTagScores_spec cfg m.charW _ (Lm m) sc h2 tid tm.charNgrams
        (by rw [List.getElem?_map, htid]; rfl) text i (by omega) sc1 (by rw [hK, hl1])
  obtain ⟨sc2, b1, b2, b3⟩ := hchar
  have htype : ∃ sc3, (match p.typeScorer with
        | some ts => typeAddTagScores ts tid i s.tstates sc2
        | none => .ok sc2) = .ok sc3 ∧ sc3.length = sc2.length ∧
      ∀ c : Nat, getZ sc3 (c : Int) = getZ sc2 (c : Int) + tagNgramScore tm.typeNgrams (typesOf text) i c := by
    rcases hP.ts with ⟨h1, h2⟩ | ⟨sc, h1, h2⟩
    · rw [h1]
      refine ⟨sc2, rfl, rfl, fun c => ?_⟩
      rw [h2 tm.typeNgrams (List.mem_map.mpr ⟨tm, hmem, rfl⟩), tagNgramScore_nil]; omega
    · rw [h1, hs.tst sc h1]
      exact pmaAddTagScores_spec cfg m.typeW _ (Lm m) sc h2 tid tm.typeNgrams
        (by rw [List.getElem?_map, htid]; rfl) (typesOf text) i
        (by simp only [typesOf, List.length_map]; omega) sc2 (by rw [hK, b2, hl1])
  obtain ⟨sc3, c1, c2, c3⟩ := htype
  have hfin : sc3 = scoreVec cfg tm text i := by
    apply list_ext_getZ
    · rw [scoreVec_length, c2, b2, hl1]
    · intro c
      rw [c3 c, b3 c, a3 c, getZ_replicate, getZ_scoreVec]
      by_cases hc : c < nClass tm.tags
      · rw [if_pos hc]; omega
      · rw [if_neg hc, getZ_ge tm.bias _ (by omega),
          tagNgramScore_ge tm.charNgrams text i c
            (fun d hd w hw => by have := hW.char_ok tm hmem d hd w hw; omega),
          tagNgramScore_ge tm.typeNgrams (typesOf text) i c
            (fun d hd w hw => by have := hW.type_ok tm hmem d hd w hw; omega)]
        rfl
  exact ⟨sc1, sc2, a1, b1, hfin ▸ c1⟩

/-- the row `specTokenTags` prescribes for a token with tag model `tm` whose last character is `i` -/
def rowOf (m : WModel) (tm : TagModel) (text : List Char) (i : Nat) : List Tag :=
  specPickTags tm.tags (specTagScores tm text i) ++ List.replicate (specNTags m - tm.tags.length) none

/-- the effect of the token block on the sentence -/
def tokStep (cfg : Cfg) (m : WModel) (text : List Char) (s : Sentence) (st i : Nat) : Sentence :=
  match tagModelOf m ((text.drop st).take (i + 1 - st)) with
  | none => s
  | some tm =>
    { s with tags := s.tags.take (i * specNTags m) ++ rowOf m tm text i ++ s.tags.drop ((i + 1) * specNTags m),
             tagScores := if s.tagScores.isEmpty then s.tagScores
                          else s.tagScores.set i (some (tm.tags, scoreVec cfg tm text i)) }

theorem tagToken_spec (cfg : Cfg) (m : WModel) (p : Predictor) (hP : PredOK cfg m p) (hW : WFT m)
    (text : List Char) (s : Sentence) (hs : StOK p text s) (st i : Nat) (hst : st ≤ i) (hi : i < text.length)
    (htl : (i + 1) * specNTags m ≤ s.tags.length)
    (hrow : (s.tags.drop (i * specNTags m)).take (specNTags m) = List.replicate (specNTags m) none) :
    tagToken p (tpmOf cfg m) s st i = .ok (tokStep cfg m text s st i) := by
  have hsub : s.substring st (i + 1) = .ok ((text.drop st).take (i + 1 - st)) := by
    unfold Sentence.substring
    rw [hs.text_eq, if_pos ⟨by omega, by omega⟩]
  unfold tagToken tokStep
  rw [hsub]
  simp only
  rcases lookup_tpmOf cfg m ((text.drop st).take (i + 1 - st)) with ⟨h1, h2⟩ | ⟨tid, tm, h1, htid, h2⟩
  · rw [h1, h2]
  · have hmem : tm ∈ m.tagModels := List.mem_of_getElem? htid
    obtain ⟨sc1, sc2, e1, e2, e3⟩ := tagScore_phases cfg m p hP hW text s hs tid tm htid i hi
    have hpred := tagPredict_spec (mkTP cfg tm) (scoreVec cfg tm text i) tm.tags 0
      (List.replicate (specNTags m) none)
      (by rw [scoreVec_length]; have := le_vlen cfg (nClass tm.tags); omega)
      (by rw [List.length_replicate]; exact tags_le_nTags m tm hmem)
    rw [h1, h2]
    simp only
    rw [e1]
    simp only
    -- the `match`es of the goal are those of `tagToken`; restated, `e2` and `e3` apply literally
    show (match (match p.charScorer with
            | some sc => pmaAddTagScores sc tid i s.cstates sc1
            | none => Res.ok sc1) with
          | .ok sc2 => _ | .err e => _ | .panic q => _ | .ub q => _) = _
    rw [e2]
    simp only
    show (match (match p.typeScorer with
            | some ts => typeAddTagScores ts tid i s.tstates sc2
            | none => Res.ok sc2) with
          | .ok sc3 => _ | .err e => _ | .panic q => _ | .ub q => _) = _
    rw [e3]
    simp only
    rw [hP.nTags, if_pos htl, hrow]
    show (match (mkTP cfg tm).predict (scoreVec cfg tm text i) tm.tags 0 (List.replicate (specNTags m) none) with
      | .ok slots => _ | .err e => _ | .panic q => _ | .ub q => _) = _
    rw [hpred]
    simp only [List.drop_zero, scoreVec_take, List.drop_replicate]
    rfl

end V.C06L
