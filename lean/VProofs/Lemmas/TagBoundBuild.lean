import VProofs.Lemmas.ScoreBoundMain
import VProofs.Lemmas.TagBoundMerge
import VProofs.Lemmas.ScoreNew
/-!
# What `Predictor.new` builds for tag prediction stays within the tag mass of the model (for the C06 overflow bound)

The tag-aware scorers (`CharScorerBoundaryTag::new`, `TypeScorerBoundaryTag::new`): the merger run with the checked
`PositionalWeightWithTag::add_assign` (`okWT`), the `tag_weight` tables filled from the merged `tag_info` maps, and the bias
vectors of the tag predictors.
-/
namespace V

/-- every coordinate of every weight vector of the table `tag_weight[token_id][rel_position]` (zero padding of the fixed layout
included) satisfies `Q`; vacuous for a scorer without the table -/
def PmaScorer.tagWeightsIn {α : Type} (Q : Int → Bool) (sc : PmaScorer α) : Prop :=
  ∀ tw, sc.tagWeight = some tw → ∀ row ∈ tw, ∀ cl ∈ row, ∀ e ∈ cl, ∀ x ∈ e.2.toList, Q x = true

/-- `sc` is the scorer that `…BoundaryTag::new` (character window or type window `window`, `n` tag models) builds from the entries
`es`: patterns and boundary weights as in `BuiltFrom`, and the table `tag_weight` is the one `fillTagWeights` produces from the
merged entries, starting from `n` rows of `nRelOf window …` empty cells each -/
def TagBuiltFrom {α : Type} [DecidableEq α] (cfg : Cfg) (window n : Nat) (es : List (List α × PWT)) (sc : PmaScorer α) : Prop :=
  BuiltFrom cfg PWT.add PWT.empty PWT.weight es sc ∧
  ∃ tw, sc.tagWeight = some tw ∧
    fillTagWeights cfg (Merge.mergeEntries PWT.add PWT.empty (addAll PWT.add es [])) 0
      (List.replicate n (List.replicate (C06L.nRelOf window (addAll PWT.add es [])) ([] : List (Nat × WV)))) = .ok tw

/-- `sc` is built from the entries `es`, and both phases of the weight merger, run with a `PositionalWeightWithTag::add_assign`
that tests every boundary coordinate of its result with `P` and every coordinate of every vector of its `tag_info` map with `Q`
(`okWT`; a failed test poisons the weight for good), never trip the test -/
def TagMergerIn {α : Type} [DecidableEq α] (P Q : Int → Bool) (cfg : Cfg) (window n : Nat) (es : List (List α × PWT))
    (sc : PmaScorer α) : Prop :=
  TagBuiltFrom cfg window n es sc ∧
  addAll (Merge.addC (okWT P Q) PWT.add) (Merge.liftE es) [] = Merge.liftE (addAll PWT.add es []) ∧
  Merge.mergeEntries (Merge.addC (okWT P Q) PWT.add) none (Merge.liftE (addAll PWT.add es []))
    = Merge.liftE (Merge.mergeEntries PWT.add PWT.empty (addAll PWT.add es []))

/-- all `i32` values `Predictor::new(model, true)` holds for tag prediction satisfy `Q` (and the boundary values it adds up in the
same `+=` satisfy `P`); `m0` is the model with the switched-off boundary n-grams dropped (same tag models) -/
def TagBuildWithin (P Q : Int → Bool) (cfg : Cfg) (m0 : WModel) (p : Predictor) : Prop :=
  (∀ tpm, p.tagPredictor = some tpm → ∀ e ∈ tpm, ∀ x ∈ e.2.2.bias.toList, Q x = true) ∧
  (∀ sc, p.charScorer = some sc → sc.tagWeightsIn Q ∧
    ((m0.tagModels = [] ∧ sc.tagWeight = none) ∨
     TagMergerIn P Q cfg m0.charW m0.tagModels.length (charEntriesT m0 (m0.tagModels.map (·.charNgrams))) sc)) ∧
  (∀ sc, p.typeScorer = some (.pma sc) → sc.tagWeightsIn Q ∧
    ((m0.tagModels = [] ∧ sc.tagWeight = none) ∨
     TagMergerIn P Q cfg m0.typeW m0.tagModels.length (typeEntriesT m0 (m0.tagModels.map (·.typeNgrams))) sc))

namespace C06B
open C01L C01B C06L Merge
variable {α : Type} [DecidableEq α]

theorem buildBoundaryTag_fill (cfg : Cfg) (window n : Nat) (entries : List (List α × PWT)) (sc : PmaScorer α)
    (h : buildBoundaryTag cfg window n entries = .ok sc) :
    ∃ tw, sc.tagWeight = some tw ∧
      fillTagWeights cfg (Merge.mergeEntries PWT.add PWT.empty entries) 0
        (List.replicate n (List.replicate (nRelOf window entries) ([] : List (Nat × WV)))) = .ok tw := by
  unfold buildBoundaryTag at h
  simp only at h
  split at h
  · rename_i tw hfill
    split at h
    · simp only [Res.ok.injEq] at h
      subst h
      exact ⟨tw, rfl, hfill⟩
    · cases h
  · cases h
  · cases h
  · cases h

theorem isEmpty_false_of_ne {β : Type} (T : List β) (h : T ≠ []) : T.isEmpty = false := by
  cases T with
  | nil => exact absurd rfl h
  | cons _ _ => rfl

theorem charScorerNew_tagBuilt (cfg : Cfg) (hcfg : cfg.tagPred = true) (m : WModel)
    (T : List (List (TagNgramData Char))) (sc : PmaScorer Char)
    (h : charScorerNew cfg m T = .ok (some sc)) :
    (T = [] ∧ sc.tagWeight = none) ∨
    TagBuiltFrom cfg m.charW T.length
      (charEntriesTOf m.charW (if m.charW = 0 then [] else m.charNgrams) m.dict T) sc := by
  rcases charScorerNew_cases cfg m T _ h with ⟨h, _⟩ | ⟨_, h, _, _, hb⟩ | ⟨_, h, hT, hb⟩ <;> cases h
  · exact Or.inr ⟨buildBoundaryTag_ok cfg _ _ _ sc hb, buildBoundaryTag_fill cfg _ _ _ sc hb⟩
  · exact Or.inl ⟨Classical.not_not.mp fun hne => hT ⟨hcfg, hne⟩, buildBoundary_tagWeight cfg _ sc hb⟩

theorem typeScorerNew_tagBuilt (cfg : Cfg) (hcfg : cfg.tagPred = true) (m : WModel)
    (T : List (List (TagNgramData Nat))) (sc : PmaScorer Nat)
    (h : typeScorerNew cfg m T = .ok (some (.pma sc))) :
    (T = [] ∧ sc.tagWeight = none) ∨
    TagBuiltFrom cfg m.typeW T.length (typeEntriesTOf m.typeW (if m.typeW = 0 then [] else m.typeNgrams) T) sc := by
  rcases typeScorerNew_cases cfg m T _ h with ⟨h, _⟩ | ⟨_, h, _, _, hb⟩ | ⟨h, _⟩ | ⟨_, h, hT, _, hb⟩ <;> cases h
  · exact Or.inr ⟨buildBoundaryTag_ok cfg _ _ _ sc hb, buildBoundaryTag_fill cfg _ _ _ sc hb⟩
  · exact Or.inl ⟨Classical.not_not.mp fun hne => hT ⟨hcfg, hne⟩, buildBoundary_tagWeight cfg _ sc hb⟩

/-- all coordinates of all vectors of a table satisfy `Q` -/
def TWIn (Q : Int → Bool) (tw : TW) : Prop := ∀ row ∈ tw, ∀ cl ∈ row, ∀ e ∈ cl, ∀ x ∈ e.2.toList, Q x = true

theorem insert_within (Q : Int → Bool) (h0 : Q 0 = true) (cfg : Cfg) (id : Nat) (info : TI) :
    (∀ kv ∈ info, ∀ x ∈ kv.2, Q x = true) →
    ∀ (tw tw' : TW), insertTagWeights cfg id info tw = .ok tw' → TWIn Q tw → TWIn Q tw' := by
  induction info with
  | nil =>
    intro _ tw tw' h hin
    simp only [insertTagWeights, Res.ok.injEq] at h
    subst h; exact hin
  | cons kv r ih =>
    obtain ⟨⟨tid, rel⟩, w⟩ := kv
    intro hinfo tw tw' h hin
    simp only [insertTagWeights] at h
    split at h
    · cases h
    · rename_i row hrow
      split at h
      · cases h
      · rename_i m hm
        refine ih (fun kv hkv => hinfo kv (List.mem_cons_of_mem _ hkv)) _ tw' h ?_
        intro row' hrow' cl hcl e he x hx
        rcases List.mem_or_eq_of_mem_set hrow' with h1 | h1
        · exact hin row' h1 cl hcl e he x hx
        · subst h1
          rcases List.mem_or_eq_of_mem_set hcl with h2 | h2
          · exact hin row (List.mem_of_getElem? hrow) cl h2 e he x hx
          · subst h2
            rcases List.mem_append.mp he with h3 | h3
            · exact hin row (List.mem_of_getElem? hrow) m (List.mem_of_getElem? hm) e h3 x hx
            · simp only [List.mem_singleton] at h3
              subst h3
              rcases ofList_toList_mem cfg w x hx with h4 | h4
              · exact hinfo ((tid, rel), w) List.mem_cons_self x h4
              · rw [h4]; exact h0

omit [DecidableEq α] in
theorem fill_within (Q : Int → Bool) (h0 : Q 0 = true) (cfg : Cfg) (es : List (List α × PWT)) :
    (∀ e ∈ es, okT Q e.2 = true) →
    ∀ (id : Nat) (tw tw' : TW), fillTagWeights cfg es id tw = .ok tw' → TWIn Q tw → TWIn Q tw' := by
  induction es with
  | nil =>
    intro _ id tw tw' h hin
    simp only [fillTagWeights, Res.ok.injEq] at h
    subst h; exact hin
  | cons e r ih =>
    intro hes id tw tw' h hin
    simp only [fillTagWeights] at h
    split at h
    · rename_i tw1 h1
      exact ih (fun x hx => hes x (List.mem_cons_of_mem _ hx)) _ tw1 tw' h
        (insert_within Q h0 cfg id e.2.tagInfo (okT_spec Q e.2 (hes e List.mem_cons_self)) tw tw1 h1 hin)
    · cases h
    · cases h
    · cases h

theorem TWIn_replicate (Q : Int → Bool) (n k : Nat) : TWIn Q (List.replicate n (List.replicate k ([] : List (Nat × WV)))) := by
  intro row hrow cl hcl e he
  rw [(List.mem_replicate.mp hrow).2] at hcl
  rw [(List.mem_replicate.mp hcl).2] at he
  cases he

theorem tagMergerIn_of_built (P Q : Int → Bool) (M1 M2 : Nat) (hP : ∀ x : Int, x.natAbs ≤ M1 → P x = true)
    (hQ : ∀ x : Int, x.natAbs ≤ M2 → Q x = true) (L : Nat → Nat) (cfg : Cfg) (window : Nat)
    (es bes : List (List α × PWT)) (T : List (List (TagNgramData α))) (hes : es = bes ++ tagEntries T)
    (hbes : ∀ e ∈ bes, e.2.tagInfo = [])
    (hT : ∀ i tm, T[i]? = some tm → ∀ d ∈ tm, ∀ w ∈ d.weights, w.weights.length = L i)
    (hM1 : emass PWT.weight es ≤ M1)
    (hM2 : ∀ tid, tagNgramMass (T.getD tid []) ≤ M2)
    (sc : PmaScorer α) (hb : (T = [] ∧ sc.tagWeight = none) ∨ TagBuiltFrom cfg window T.length es sc) :
    sc.tagWeightsIn Q ∧ ((T = [] ∧ sc.tagWeight = none) ∨ TagMergerIn P Q cfg window T.length es sc) := by
  rcases hb with hb | hb
  · exact ⟨fun tw htw => (nomatch hb.2.symm.trans htw), Or.inl hb⟩
  subst hes
  have hent := entries_TIok L bes T hbes hT
  -- the evaluations of a weight: its boundary values (within `M1`) and the classes of its tag vectors (within `M2`)
  obtain ⟨h1, h2, h3⟩ := merger_chk_gen (ι := EvIx) (.inl 0) (okWT P Q)
    (fun i => match i with | .inl _ => M1 | .inr _ => M2) PWT.add PWT.empty evWT (fun _ t => TIok L t.tagInfo)
    (fun _ _ a b ha hb => PWT_add_ok L a b ha hb)
    (fun i _ _ a b ha hb => match i with
      | .inl x => evg_add PWT.add PWT.weight addOK_PWT x a b
      | .inr i => PWT_add_tval L i.1 i.2 a b ha hb)
    (fun _ w hw h => Bool.and_eq_true_iff.mpr
      ⟨okW_of_evg P M1 hP PWT.weight w fun x => h (.inl x), okT_of_tval Q M2 hQ w hw.1 fun k c => h (.inr (k, c))⟩)
    (bes ++ tagEntries T) hent
    (fun i l hl => match i with
      | .inl x => Int.le_trans (sum_evg_le PWT.weight x l _ hl) (Int.ofNat_le.mpr hM1)
      | .inr i => Int.le_trans (tag_sublist_sum_le bes T hbes i.1.1 i.1.2 i.2 l hl) (Int.ofNat_le.mpr (hM2 i.1.1)))
    (builtFrom_keys_ne addOK_PWT hb.1)
  refine ⟨fun tw htw => ?_, Or.inr ⟨hb, h1, h2⟩⟩
  obtain ⟨tw', htw', hfill⟩ := hb.2
  rw [htw] at htw'
  cases htw'
  exact fill_within Q (hQ 0 (Nat.zero_le _)) cfg _ (fun e he => (okWT_spec P Q e.2 (h3 e he)).2) 0 _ tw hfill
    (TWIn_replicate Q _ _)

end C06B
end V
