import VModel.TrainCli
import VProofs.C05
import VProofs.Lemmas.TkNorm
import VProofs.Lemmas.AsmOrder
import VProofs.Lemmas.MapRes
import VProofs.Lemmas.TokRound
/-!
Helper lemmas for the `train` tool's loading stage (`VModel/TrainCli.lean`); property theorems are in
`VProofs/C10.lean` (`C10_train_tool_*`) and `VProofs/C11.lean` (`C11_train_tool_*`).
-/
namespace V.TrainCliL
open V

theorem parseLine_ok {k : CorpusKind} {line : List Char} {r : Sentence} (h : parseLine k line = .ok r) :
    Inv r ∧ r.scores = [] ∧ '\x00' ∉ r.text := by
  cases k with
  | tok =>
    have h' : Sentence.fromTokenized line = .ok r := h
    obtain ⟨hi, hs⟩ := C05_ctor_inv line r (Or.inr (Or.inl h'))
    refine ⟨hi, hs, ?_⟩
    unfold Sentence.fromTokenized at h'
    split at h'
    · next p hp =>
      rw [(C03L.ofParsed_fields h').1]
      intro hm
      exact (C03L.parseTokenized_nul line p hp).1 _ hm rfl
    · cases h'
    · cases h'
    · cases h'
  | part =>
    have h' : Sentence.fromPartial line = .ok r := h
    obtain ⟨hi, hs⟩ := C05_ctor_inv line r (Or.inr (Or.inr h'))
    refine ⟨hi, hs, ?_⟩
    unfold Sentence.fromPartial at h'
    split at h'
    · next p hp =>
      rw [(C03L.ofParsed_fields h').1]
      intro hm
      obtain ⟨_, _, _, hn, _⟩ := C04L.parsePartial_ok hp
      exact hn _ hm rfl
    · cases h'
    · cases h'
    · cases h'

/-- with normalisation (`--no-norm` not given, the flag is `false`), on a consistent sentence with NUL-free text both slice
copies of the normalise-and-copy step fit -/
theorem transferNorm_false {r : Sentence} (hi : Inv r) (hn : '\x00' ∉ r.text) :
    ∃ s', transferNorm false r = .ok s' ∧ s'.text = Gen.fullwidth r.text ∧
      s'.types = typesOf (Gen.fullwidth r.text) ∧ s'.bounds = r.bounds ∧ s'.nTags = r.nTags ∧ s'.tags = r.tags ∧
      s'.scores = [] ∧ Inv s' := by
  have hlen : (Gen.fullwidth r.text).length = r.text.length := C16L.fullwidth_length r.text
  have hraw : Sentence.fromRaw (Gen.fullwidth r.text) = .ok (Sentence.mkRaw (Gen.fullwidth r.text)) := by
    rw [fromRaw_eq, if_pos ⟨C16L.fullwidth_ne_nil r.text hi.text_ne, C16L.fullwidth_no_nul r.text hn⟩]
  have hb : (Sentence.mkRaw (Gen.fullwidth r.text)).bounds.length = r.bounds.length := by
    have := hi.bounds_len
    simp only [Sentence.mkRaw, List.length_replicate]
    omega
  have ht : (({ Sentence.mkRaw (Gen.fullwidth r.text) with bounds := r.bounds } : Sentence).resetTags r.nTags).tags.length
      = r.tags.length := by
    simp only [Sentence.resetTags, Sentence.mkRaw, List.length_replicate, typesOf_length, hlen, hi.tags_len]
    exact Nat.mul_comm _ _
  refine ⟨{ ({ Sentence.mkRaw (Gen.fullwidth r.text) with bounds := r.bounds } : Sentence).resetTags r.nTags with
      tags := r.tags }, ?_, rfl, rfl, rfl, rfl, rfl, rfl, ?_⟩
  · unfold transferNorm
    simp only [Bool.false_eq_true, if_false, hraw, bindR, Res.bind_ok]
    rw [if_neg (by simpa using hb), if_neg (by simpa using ht)]
  · refine ⟨C16L.fullwidth_ne_nil r.text hi.text_ne, rfl, ?_, ?_, Or.inl rfl⟩
    · show r.bounds.length + 1 = (Gen.fullwidth r.text).length
      rw [hlen]; exact hi.bounds_len
    · show r.tags.length = (Gen.fullwidth r.text).length * r.nTags
      rw [hlen]; exact hi.tags_len

/-- under `--no-norm` (the flag is `true`) a line is only parsed -/
theorem loadLine_true (k : CorpusKind) (line : List Char) : loadLine k true line = parseLine k line := by
  unfold loadLine
  have : transferNorm true = fun s => Res.ok s := by
    funext s
    simp [transferNorm]
  rw [this]
  cases parseLine k line <;> rfl

theorem loadLine_err {k : CorpusKind} {line : List Char} {e : Err} (h : parseLine k line = .err e) (nn : Bool) :
    loadLine k nn line = .err e := by
  unfold loadLine
  rw [h]
  rfl

theorem loadLine_false_ok {k : CorpusKind} {line : List Char} {r : Sentence} (h : parseLine k line = .ok r) :
    ∃ s', loadLine k false line = .ok s' ∧ s'.text = Gen.fullwidth r.text ∧
      s'.types = typesOf (Gen.fullwidth r.text) ∧ s'.bounds = r.bounds ∧ s'.nTags = r.nTags ∧ s'.tags = r.tags ∧
      s'.scores = [] ∧ Inv s' := by
  obtain ⟨hi, _, hn⟩ := parseLine_ok h
  obtain ⟨s', h1, h2⟩ := transferNorm_false hi hn
  refine ⟨s', ?_, h2⟩
  unfold loadLine
  rw [h]
  exact h1

theorem loadLine_inv {k : CorpusKind} {nn : Bool} {line : List Char} {s : Sentence} (h : loadLine k nn line = .ok s) :
    Inv s := by
  cases nn with
  | true =>
    rw [loadLine_true] at h
    exact (parseLine_ok h).1
  | false =>
    obtain ⟨r, hr, _⟩ := Res.bind_eq_ok h
    obtain ⟨s', h1, h2⟩ := loadLine_false_ok hr
    rw [h] at h1
    injection h1 with h1
    rw [h1]
    exact h2.2.2.2.2.2.2

theorem loadLine_safe (k : CorpusKind) (nn : Bool) (line : List Char) : (loadLine k nn line).Safe := by
  refine Res.Safe.bind ?_ fun r hr => ?_
  · cases k
    · exact (paired_tokenized line).ctor_safe
    · exact (paired_partial line).ctor_safe
  · cases nn
    · obtain ⟨s', h1, _⟩ := transferNorm_false (parseLine_ok hr).1 (parseLine_ok hr).2.2
      rw [h1]
      trivial
    · trivial

theorem substring_ok {s : Sentence} (hi : Inv s) {p : Nat × Nat} (hp : p ∈ iterTokens s.bounds) :
    ∃ w, s.substring p.1 p.2 = .ok w ∧ w ≠ [] := by
  have hr := iterTokens_range s.bounds p hp
  have hb := hi.bounds_len
  have h2 : p.2 ≤ s.text.length := by omega
  refine ⟨_, s.substring_eq (Nat.le_of_lt hr.1) h2, fun he => ?_⟩
  have := congrArg List.length he
  rw [C03L.slice_length _ (p.1, p.2) h2, List.length_nil] at this
  omega

theorem surfacesOf_mem {s : Sentence} {ws : List (List Char)} (h : surfacesOf s = .ok ws) (w : List Char) :
    w ∈ ws ↔ ∃ p ∈ iterTokens s.bounds, s.substring p.1 p.2 = .ok w :=
  ⟨mapRes_mem h, fun ⟨_, hp, hw⟩ => mem_of_mapRes h hp hw⟩

theorem mem_insertWord (x : List Char) : ∀ (l : List (List Char)) (w : List Char), w ∈ insertWord x l ↔ w = x ∨ w ∈ l
  | [], w => by simp [insertWord]
  | y :: r, w => by
    unfold insertWord
    split
    · next hxy =>
      rw [hxy]
      exact ⟨Or.inr, fun h => h.elim (fun e => e ▸ List.mem_cons_self) id⟩
    · split
      · simp
      · rw [List.mem_cons, mem_insertWord x r w, List.mem_cons]
        exact or_left_comm

abbrev WLt (a b : List Char) : Prop := lexLt ltChar a b = true

theorem sorted_insertWord (x : List Char) : ∀ (l : List (List Char)), l.Pairwise WLt → (insertWord x l).Pairwise WLt
  | [], _ => by simp [insertWord]
  | y :: r, h => by
    have h' := List.pairwise_cons.mp h
    unfold insertWord
    split
    · exact h
    · next hne =>
      split
      · next hlt =>
        refine List.pairwise_cons.mpr ⟨?_, h⟩
        intro z hz
        rcases List.mem_cons.mp hz with e | hz
        · rw [e]; exact hlt
        · exact (C09L.lexLt_st C09L.ltChar_st).trans _ _ _ hlt (h'.1 z hz)
      · next hnlt =>
        refine List.pairwise_cons.mpr ⟨?_, sorted_insertWord x r h'.2⟩
        intro z hz
        rcases (mem_insertWord x r z).mp hz with e | hz
        · rw [e]
          exact (C09L.lexLt_st C09L.ltChar_st).conn x y hne (by simpa using hnlt)
        · exact h'.1 z hz

theorem foldl_insertWord (ws : List (List Char)) : ∀ (acc : List (List Char)), acc.Pairwise WLt →
    (ws.foldl (fun acc w => insertWord w acc) acc).Pairwise WLt ∧
    ∀ w, w ∈ ws.foldl (fun acc w => insertWord w acc) acc ↔ w ∈ ws ∨ w ∈ acc := by
  induction ws with
  | nil => intro acc h; simp [h]
  | cons x xs ih =>
    intro acc h
    obtain ⟨h1, h2⟩ := ih (insertWord x acc) (sorted_insertWord x acc h)
    refine ⟨h1, fun w => ?_⟩
    rw [List.foldl_cons, h2 w, mem_insertWord, List.mem_cons]
    exact or_left_comm.trans or_assoc.symm

theorem sorted_nodup : ∀ {l : List (List Char)}, l.Pairwise WLt → l.Nodup := by
  intro l h
  refine List.Pairwise.imp ?_ h
  intro a b hab e
  rw [e] at hab
  have hab' : lexLt ltChar b b = true := hab
  rw [(C09L.lexLt_st C09L.ltChar_st).irrefl b] at hab'
  exact Bool.noConfusion hab'

theorem loadFiles_safe (k : CorpusKind) (nn : Bool) (files : List (List Char)) : (loadFiles k nn files).Safe :=
  mapRes_safe _ _ (fun x _ => loadLine_safe k nn x)

theorem loadDict_safe (nn : Bool) (files : List (List Char)) : (loadDict nn files).Safe := by
  refine mapRes_safe _ _ fun line _ => Res.Safe.bind (loadLine_safe .tok nn line) fun s hs => ?_
  refine Res.Safe.bind (mapRes_safe _ _ fun p hp => ?_) fun ws _ => trivial
  obtain ⟨w, hw, _⟩ := substring_ok (loadLine_inv hs) hp
  rw [hw]
  trivial

theorem loadDict_ok {nn : Bool} {files : List (List Char)} {ds : List (Sentence × List (List Char))}
    (h : loadDict nn files = .ok ds) : ∀ d ∈ ds, Inv d.1 ∧ surfacesOf d.1 = .ok d.2 := by
  intro d hd
  obtain ⟨line, _, hl⟩ := mapRes_mem h hd
  obtain ⟨s, hs, hl⟩ := Res.bind_eq_ok hl
  obtain ⟨ws, hws, hl⟩ := Res.bind_eq_ok hl
  cases hl
  exact ⟨loadLine_inv hs, hws⟩

theorem trainCliInputs_ok {nn : Bool} {tok part dict : List (List Char)} {inp : TrainInputs}
    (h : trainCliInputs nn tok part dict = .ok inp) :
    ∃ ts ps ds, loadFiles .tok nn tok = .ok ts ∧ loadFiles .part nn part = .ok ps ∧ loadDict nn dict = .ok ds ∧
      inp = { dictWords := (ds.flatMap (·.2)).foldl (fun acc w => insertWord w acc) [], tagDict := ds.map (·.1),
              corpus := ts ++ ps } := by
  obtain ⟨ts, hts, h⟩ := Res.bind_eq_ok h
  obtain ⟨ps, hps, h⟩ := Res.bind_eq_ok h
  obtain ⟨ds, hds, h⟩ := Res.bind_eq_ok h
  injection h with h
  exact ⟨ts, ps, ds, hts, hps, hds, h.symm⟩

end V.TrainCliL
