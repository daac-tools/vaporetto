import VModel.Spec
import VProofs.Lemmas.TagFill
import VProofs.Lemmas.TagMerge
/-!
# A tag-aware scorer: structure of the built table, and `add_tag_scores` against `tagNgramScore` (for C06)
-/
namespace V.C06L
open V.C01L V.PermL
variable {α : Type} [DecidableEq α]

/-- length of the score vector / of every weight vector of a tag model with `k` classes -/
def vlen (cfg : Cfg) (k : Nat) : Nat := if (cfg.fixed && decide (k ≤ fixedLen)) = true then fixedLen else k

theorem ofList_len (cfg : Cfg) (w : List Int) : (WV.ofList cfg w).len = vlen cfg w.length := by
  unfold WV.ofList vlen
  split <;> rfl

theorem le_vlen (cfg : Cfg) (k : Nat) : k ≤ vlen cfg k := by
  unfold vlen
  split
  · rename_i h
    simp only [Bool.and_eq_true, decide_eq_true_eq] at h
    exact h.2
  · exact Nat.le_refl _

theorem ofList_addScores (cfg : Cfg) (K : Nat) (v sc0 : List Int) (hv : v.length = K) (hs : sc0.length = vlen cfg K) :
    ∃ sc', (WV.ofList cfg v).addScores sc0 = .ok sc' ∧ sc'.length = sc0.length ∧
      ∀ c : Nat, getZ sc' (c : Int) = getZ sc0 (c : Int) + getZ v (c : Int) := by
  unfold vlen at hs
  unfold WV.ofList
  rw [hv]
  by_cases hc : (cfg.fixed && decide (K ≤ fixedLen)) = true
  · rw [if_pos hc] at hs ⊢
    simp only [WV.addScores]
    rw [if_pos (by omega)]
    refine ⟨_, rfl, zipAdd_length _ _, fun c => ?_⟩
    simp only [Bool.and_eq_true, decide_eq_true_eq] at hc
    rw [getZ_zipAdd _ _ (by simp only [List.length_append, List.length_replicate]; omega), getZ_append_replicate]
  · rw [if_neg hc] at hs ⊢
    simp only [WV.addScores]
    exact ⟨_, rfl, zipAdd_length _ _, fun c => getZ_zipAdd _ _ (by omega) c⟩


theorem tagGo_spec (cfg : Cfg) (K : Nat) (sts : List (Option Nat)) :
    ∀ (row : List (List (Nat × WV))) (sc0 : List Int) (F : Nat → Option (List Int)),
      sc0.length = vlen cfg K →
      (∀ j st m, sts[j]? = some st → row[j]? = some m →
        st.bind (fun id => (m.reverse.find? (fun e => decide (e.1 = id))).map Prod.snd) = (F j).map (WV.ofList cfg)) →
      (∀ j v, F j = some v → v.length = K) →
      (∀ j, sts.length ≤ j → F j = none) →
      ∃ sc', pmaAddTagScores.go sts row sc0 = .ok sc' ∧ sc'.length = sc0.length ∧
        ∀ c : Nat, getZ sc' (c : Int) = getZ sc0 (c : Int)
          + ((List.range row.length).map fun j => getZ ((F j).getD []) (c : Int)).sum := by
  induction sts with
  | nil =>
    intro row sc0 F _ _ _ h0
    refine ⟨sc0, by rw [pmaAddTagScores.go], rfl, fun c => ?_⟩
    rw [isum_map_eq_zero]
    · omega
    · intro j _
      rw [h0 j (Nat.zero_le _)]
      exact getZ_nil _
  | cons st sr ih =>
    intro row sc0 F hs hF hK h0
    cases row with
    | nil =>
      have hgo : pmaAddTagScores.go (st :: sr) [] sc0 = .ok sc0 := by
        rw [pmaAddTagScores.go]
        intro h; cases h
      refine ⟨sc0, hgo, rfl, fun c => ?_⟩
      simp
    | cons m mr =>
      have hF0 := hF 0 st m rfl rfl
      have ih' := fun sc1 (h1 : sc1.length = vlen cfg K) => ih mr sc1 (fun j => F (j + 1)) h1
        (fun j st' m' h1 h2 => hF (j + 1) st' m' (by simpa using h1) (by simpa using h2))
        (fun j v h => hK (j + 1) v h)
        (fun j hj => h0 (j + 1) (by simp only [List.length_cons]; omega))
      rw [pmaAddTagScores.go]
      simp only [List.length_cons]
      cases hF0v : F 0 with
      | none =>
        rw [hF0v] at hF0
        simp only [Option.map_none] at hF0
        simp only [hF0]
        obtain ⟨sc', e1, e2, e3⟩ := ih' sc0 hs
        refine ⟨sc', e1, e2, fun c => ?_⟩
        rw [e3 c, isum_range_succ, hF0v]
        simp only [Option.getD_none]
        rw [getZ_nil]; omega
      | some v =>
        rw [hF0v] at hF0
        simp only [Option.map_some] at hF0
        simp only [hF0]
        obtain ⟨sc1, a1, a2, a3⟩ := ofList_addScores cfg K v sc0 (hK 0 v hF0v) hs
        rw [a1]
        simp only
        obtain ⟨sc', e1, e2, e3⟩ := ih' sc1 (by omega)
        refine ⟨sc', e1, by omega, fun c => ?_⟩
        rw [e3 c, a3 c, isum_range_succ, hF0v]
        simp only [Option.getD_some]
        omega

/-- what `…BoundaryTag::new` establishes about the tag table `tw`, with `vec t r id` the vector of pattern `id` in cell `(t, r)`, in
this order: the scorer has the table; one entry per tag model; every token has the same number `nRel` of rows; `nRel` is at least
`window + 1`; and more than every relative position of the tag n-grams; looking `id` up in a cell gives `vec`; the vectors of token `t`
have length `L t`; class `c` of `vec t r id` is `tagSum` of the pattern; every tag n-gram with a weight is a pattern -/
def TagScorerOK (cfg : Cfg) (window : Nat) (T : List (List (TagNgramData α))) (L : Nat → Nat) (sc : PmaScorer α) : Prop :=
  ∃ (tw : TW) (vec : Nat → Nat → Nat → Option (List Int)) (nRel : Nat),
    sc.tagWeight = some tw ∧ tw.length = T.length ∧ (∀ t, t < T.length → rowLen tw t = nRel) ∧
    window + 1 ≤ nRel ∧
    (∀ (i : Nat) (tm : List (TagNgramData α)) (d : TagNgramData α) (w : TagWeight),
      T[i]? = some tm → d ∈ tm → w ∈ d.weights → w.rel < nRel) ∧
    (∀ t r id, ((cell tw t r).reverse.find? (fun e => decide (e.1 = id))).map Prod.snd
      = (vec t r id).map (WV.ofList cfg)) ∧
    (∀ t r id v, vec t r id = some v → v.length = L t) ∧
    (∀ t r id p (c : Nat), sc.pats[id]? = some p → getZ ((vec t r id).getD []) (c : Int) = tagSum (T.getD t []) r p c) ∧
    (∀ (i : Nat) (tm : List (TagNgramData α)) (d : TagNgramData α),
      T[i]? = some tm → d ∈ tm → d.weights ≠ [] → d.ngram ∈ sc.pats)

theorem buildBoundaryTag_tagOK (cfg : Cfg) (window : Nat) (L : Nat → Nat) (bes : List (List α × PWT))
    (T : List (List (TagNgramData α))) (hbes : ∀ e ∈ bes, e.2.tagInfo = [])
    (hT : ∀ i tm, T[i]? = some tm → ∀ d ∈ tm, ∀ w ∈ d.weights, w.weights.length = L i)
    (sc : PmaScorer α)
    (h : buildBoundaryTag cfg window T.length (addAll PWT.add (bes ++ tagEntries T) []) = .ok sc) :
    TagScorerOK cfg window T L sc := by
  have hrows := nRelOf_ge window (addAll PWT.add (bes ++ tagEntries T) [])
  have hrel := tagRel_lt_nRel window bes T
  unfold buildBoundaryTag at h
  simp only at h
  change (match fillTagWeights cfg _ 0 (List.replicate T.length
      (List.replicate (nRelOf window (addAll PWT.add (bes ++ tagEntries T) [])) ([] : List (Nat × WV)))) with
    | .ok tw => _ | .err x => _ | .panic p => _ | .ub p => _) = _ at h
  generalize nRelOf window (addAll PWT.add (bes ++ tagEntries T) []) = nRel at h hrows hrel
  split at h
  · rename_i tw hfill
    split at h
    · rename_i hok
      simp only [Res.ok.injEq] at h
      subst h
      obtain ⟨hM1, hM2⟩ := merged_tval L bes T hbes hT hok
      generalize hMdef : Merge.mergeEntries PWT.add PWT.empty (addAll PWT.add (bes ++ tagEntries T) []) = M
        at hfill hok hM1 hM2
      obtain ⟨f1, f2, f3⟩ := fill_spec cfg M 0 _ tw hfill
      have hnd : ∀ e ∈ M, (e.2.tagInfo.map Prod.fst).Nodup := by
        intro e he
        obtain ⟨id, hid⟩ := List.mem_iff_getElem?.mp he
        exact (hM1 id e hid).1.1
      refine ⟨tw, fun t r id => (M[id]?).bind (fun e => lookupK e.2.tagInfo (t, r)), nRel, rfl, ?_, ?_, hrows, hrel,
        ?_, ?_, ?_, ?_⟩
      · rw [f1, List.length_replicate]
      · intro t ht
        rw [f2, rowLen_replicate _ _ _ ht]
      · intro t r id
        rw [f3, cell_replicate, List.nil_append, chunks_find cfg t r M hnd 0 id, if_pos (Nat.zero_le _), Nat.sub_zero]
        dsimp only
        cases M[id]? <;> rfl
      · intro t r id v hv
        dsimp only at hv
        cases hid : M[id]? with
        | none => rw [hid] at hv; cases hv
        | some e =>
          rw [hid] at hv
          simp only [Option.bind_some] at hv
          exact (hM1 id e hid).1.2 ((t, r), v) (mem_of_lookupK hv)
      · intro t r id p c hp
        dsimp only
        simp only [List.getElem?_map] at hp
        cases hid : M[id]? with
        | none => rw [hid] at hp; cases hp
        | some e =>
          rw [hid] at hp
          simp only [Option.map_some, Option.some.injEq] at hp
          subst hp
          simp only [Option.bind_some]
          exact (hM1 id e hid).2 t r c
      · exact hM2
    · cases h
  · cases h
  · cases h
  · cases h

/-- the states `predict` records: for every end position the longest pattern that is a suffix of the prefix -/
def statesOf (pats : List (List α)) (seq : List α) : List (Option Nat) :=
  (List.range seq.length).map fun k => longestMatch pats (seq.take (k + 1))

theorem statesOf_length (pats : List (List α)) (seq : List α) : (statesOf pats seq).length = seq.length := by
  rw [statesOf, List.length_map, List.length_range]

theorem statesOf_getElem? (pats : List (List α)) (seq : List α) (k : Nat) :
    (statesOf pats seq)[k]? = if k < seq.length then some (longestMatch pats (seq.take (k + 1))) else none := by
  rw [statesOf, List.getElem?_map]
  split
  · rename_i h
    rw [List.getElem?_range h]
    rfl
  · rename_i h
    rw [List.getElem?_eq_none (by rw [List.length_range]; omega)]
    rfl

theorem tagSum_total (tm : List (TagNgramData α)) (N : Nat) (seq : List α) (i c : Nat)
    (hrel : ∀ d ∈ tm, ∀ w ∈ d.weights, w.rel < N) :
    ((List.range N).map fun rel =>
      if i + rel < seq.length then tagSum tm rel (seq.take (i + rel + 1)) c else 0).sum
      = tagNgramScore tm seq i c := by
  unfold tagNgramScore
  have h1 : ∀ rel ∈ List.range N,
      (if i + rel < seq.length then tagSum tm rel (seq.take (i + rel + 1)) c else 0)
      = (tm.map fun d => (d.weights.map fun w =>
          if w.rel = rel then
            (if i + rel < seq.length ∧ d.ngram.isSuffixOf (seq.take (i + rel + 1)) = true
              then getZ w.weights (c : Int) else 0) else 0).sum).sum := by
    intro rel _
    unfold tagSum
    by_cases hlt : i + rel < seq.length
    · rw [if_pos hlt]
      apply isum_map_congr
      intro d _
      apply isum_map_congr
      intro w _
      by_cases h2 : w.rel = rel <;> simp [h2, hlt]
    · rw [if_neg hlt]
      symm
      apply isum_map_eq_zero
      intro d _
      apply isum_map_eq_zero
      intro w _
      simp [hlt]
  rw [isum_map_congr _ _ _ h1, isum_comm]
  apply isum_map_congr
  intro d hd
  rw [isum_comm]
  apply isum_map_congr
  intro w hw
  rw [isum_range_select N w.rel (fun rel =>
    if i + rel < seq.length ∧ d.ngram.isSuffixOf (seq.take (i + rel + 1)) = true then getZ w.weights (c : Int) else 0)]
  rw [if_pos (hrel d hd w hw)]

theorem pmaAddTagScores_spec (cfg : Cfg) (window : Nat) (T : List (List (TagNgramData α))) (L : Nat → Nat)
    (sc : PmaScorer α) (hsc : TagScorerOK cfg window T L sc)
    (tid : Nat) (tm : List (TagNgramData α)) (htid : T[tid]? = some tm)
    (seq : List α) (i : Nat) (hi : i ≤ seq.length) (sc0 : List Int) (hs : sc0.length = vlen cfg (L tid)) :
    ∃ sc', pmaAddTagScores sc tid i (statesOf sc.pats seq) sc0 = .ok sc' ∧ sc'.length = sc0.length ∧
      ∀ c : Nat, getZ sc' (c : Int) = getZ sc0 (c : Int) + tagNgramScore tm seq i c := by
  obtain ⟨tw, vec, nRel, h1, h2, h3, _, hrel, h4, h5, h6, h7⟩ := hsc
  obtain ⟨hlt, _⟩ := List.getElem?_eq_some_iff.mp htid
  have hrow : ∃ row, tw[tid]? = some row := ⟨tw[tid]'(h2 ▸ hlt), List.getElem?_eq_getElem _⟩
  obtain ⟨row, hrow⟩ := hrow
  have hrl : row.length = nRel := by
    have := h3 tid hlt
    unfold rowLen at this
    rw [hrow] at this
    exact this
  have hcell : ∀ r m, row[r]? = some m → cell tw tid r = m := by
    intro r m hm
    unfold cell
    rw [hrow]
    simp only [Option.getD_some, hm]
  have hsl := statesOf_length sc.pats seq
  unfold pmaAddTagScores
  rw [h1]
  simp only [hrow]
  rw [if_neg (Nat.not_lt.mpr (hsl.symm ▸ hi))]
  let F : Nat → Option (List Int) := fun j =>
    if i + j < seq.length then (longestMatch sc.pats (seq.take (i + j + 1))).bind (vec tid j) else none
  obtain ⟨sc', e1, e2, e3⟩ := tagGo_spec cfg (L tid) ((statesOf sc.pats seq).drop i) row sc0 F hs
    (by
      intro j st m hst hm
      rw [List.getElem?_drop, statesOf_getElem?] at hst
      show _ = (if i + j < seq.length then _ else none).map _
      split at hst
      · rename_i hj
        cases hst
        rw [if_pos hj]
        cases hst' : longestMatch sc.pats (seq.take (i + j + 1)) with
        | none => rfl
        | some id =>
          simp only [Option.bind_some]
          rw [← hcell j m hm]
          exact h4 tid j id
      · cases hst)
    (by
      intro j v hv
      simp only [F] at hv
      split at hv
      · cases hlm : longestMatch sc.pats (seq.take (i + j + 1)) with
        | none => rw [hlm] at hv; cases hv
        | some id =>
          rw [hlm] at hv
          exact h5 tid j id v hv
      · cases hv)
    (by
      intro j hj
      rw [List.length_drop, hsl] at hj
      exact if_neg (Nat.not_lt.mpr (Nat.sub_le_iff_le_add'.mp hj)))
  refine ⟨sc', e1, e2, fun c => ?_⟩
  rw [e3 c, hrl, ← tagSum_total tm nRel seq i c (fun d hd w hw => hrel tid tm d w htid hd hw)]
  congr 1
  apply isum_map_congr
  intro j _
  simp only [F]
  by_cases hj : i + j < seq.length
  · rw [if_pos hj, if_pos hj]
    have hT : T.getD tid [] = tm := by rw [List.getD_eq_getElem?_getD, htid]; rfl
    cases hlm : longestMatch sc.pats (seq.take (i + j + 1)) with
    | none =>
      simp only [Option.bind_none, Option.getD_none]
      rw [getZ_nil]
      have hnone := longestMatch_none sc.pats _ hlm
      symm
      unfold tagSum
      apply isum_map_eq_zero
      intro d hd
      apply isum_map_eq_zero
      intro w hw
      have hmem := h7 tid tm d htid hd (List.ne_nil_of_mem hw)
      rw [hnone d.ngram hmem]
      simp
    | some id =>
      simp only [Option.bind_some]
      obtain ⟨p, hp, _, hall⟩ := longestMatch_some sc.pats _ id hlm
      rw [h6 tid j id p c hp, hT]
      unfold tagSum
      apply isum_map_congr
      intro d hd
      apply isum_map_congr
      intro w hw
      have hmem := h7 tid tm d htid hd (List.ne_nil_of_mem hw)
      rw [hall d.ngram hmem]
  · rw [if_neg hj, if_neg hj]
    exact getZ_nil _

end V.C06L
