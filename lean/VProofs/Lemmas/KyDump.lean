import VModel.Kytea
import VProofs.Lemmas.Base
/-!
# C17 — `Dictionary::dump_items`

* `Enc states entries i w x`: what a state table encodes below state `i` reached by spelling `w`.
* `dumpItems_invariant`: what every successful pop keeps holds of the result; `dump_spec` (what the stack still has to emit) is one such invariant, and `dump_correct` is its case of the initial stack.
* `TreeTable`: the goto edges form a tree below state 0; `dump_terminates`: then `states.length` pops suffice.
-/
namespace V.C17L
open V V.Ky

inductive Enc {τ : Type} (states : List KState) (entries : List τ) : Nat → List Char → List Char × τ → Prop
  | here {i w st o os e} : states[i]? = some st → st.isBranch = true → st.outputs = o :: os → entries[o]? = some e →
      Enc states entries i w (w, e)
  | child {i w st g x} : states[i]? = some st → g ∈ st.gotos → Enc states entries g.2 (w ++ [g.1]) x →
      Enc states entries i w x

variable {τ : Type}

/-- what popping state `st`, reached by spelling `word`, appends to the output -/
def visit (entries : List τ) (st : KState) (word : List Char) : Res (List (List Char × τ)) :=
  if st.isBranch then
    match st.outputs with
    | [] => .panic "outputs[0]"
    | o :: _ =>
      match entries[o]? with
      | none => .panic "entries[outputs[0]]"
      | some e => .ok [(word, e)]
  else .ok []

def children (st : KState) (word : List Char) : List (Nat × List Char) := st.gotos.map fun g => (g.2, word ++ [g.1])

theorem dumpItems_pop {states : List KState} {entries : List τ} {idx : Nat} {st : KState} (hst : states[idx]? = some st)
    (fuel : Nat) (word : List Char) (rest : List (Nat × List Char)) (acc : List (List Char × τ)) :
    dumpItems states entries (fuel + 1) ((idx, word) :: rest) acc
      = (visit entries st word).bind fun out => dumpItems states entries fuel (children st word ++ rest) (acc ++ out) := by
  simp only [dumpItems, hst, visit, children]
  cases st.isBranch with
  | false => simp only [Bool.false_eq_true, if_false, Res.bind_ok, List.append_nil]
  | true =>
    simp only [if_true]
    cases st.outputs with
    | nil => rfl
    | cons o os =>
      dsimp only
      cases entries[o]? <;> rfl

theorem visit_ok {entries : List τ} {st : KState} {word : List Char} {out : List (List Char × τ)} :
    visit entries st word = .ok out ↔ (st.isBranch = false ∧ out = []) ∨
      (st.isBranch = true ∧ ∃ o os e, st.outputs = o :: os ∧ entries[o]? = some e ∧ out = [(word, e)]) := by
  unfold visit
  constructor
  · intro h
    by_cases hb : st.isBranch = true
    · rw [if_pos hb] at h
      cases ho : st.outputs with
      | nil => rw [ho] at h; cases h
      | cons o os =>
        rw [ho] at h
        cases he : entries[o]? with
        | none => simp only [he] at h; cases h
        | some e =>
          simp only [he, Res.ok.injEq] at h
          exact Or.inr ⟨hb, o, os, e, rfl, he, h.symm⟩
    · rw [if_neg hb] at h
      exact Or.inl ⟨Bool.eq_false_iff.2 hb, (Res.ok.inj h).symm⟩
  · rintro (⟨hb, rfl⟩ | ⟨hb, o, os, e, ho, he, rfl⟩)
    · rw [hb]; rfl
    · rw [if_pos hb, ho]
      simp only [he]

theorem dumpItems_invariant {states : List KState} {entries : List τ}
    {I : List (Nat × List Char) → List (List Char × τ) → Prop}
    (step : ∀ idx word rest acc st out, states[idx]? = some st → visit entries st word = .ok out →
      I ((idx, word) :: rest) acc → I (children st word ++ rest) (acc ++ out)) :
    ∀ (fuel : Nat) (stack : List (Nat × List Char)) (acc res : List (List Char × τ)),
      dumpItems states entries fuel stack acc = .ok res → I stack acc → I [] res
  | _, [], acc, res, h, hI => by
    simp only [dumpItems] at h
    cases h
    exact hI
  | 0, _ :: _, _, _, h, _ => by simp only [dumpItems] at h; cases h
  | fuel + 1, (idx, word) :: rest, acc, res, h, hI => by
    cases hst : states[idx]? with
    | none => simp only [dumpItems, hst] at h; cases h
    | some st =>
      rw [dumpItems_pop hst] at h
      obtain ⟨out, hv, h⟩ := Res.bind_eq_ok h
      exact dumpItems_invariant step fuel _ _ res h (step idx word rest acc st out hst hv hI)

theorem enc_iff {states : List KState} {entries : List τ} {i : Nat} {w : List Char} {st : KState}
    (hst : states[i]? = some st) (x : List Char × τ) : Enc states entries i w x ↔
      (∃ out, visit entries st w = .ok out ∧ x ∈ out) ∨ ∃ p ∈ children st w, Enc states entries p.1 p.2 x := by
  constructor
  · intro h
    cases h with
    | here h1 h2 h3 h4 =>
      rw [hst] at h1; cases h1
      exact Or.inl ⟨_, visit_ok.2 (Or.inr ⟨h2, _, _, _, h3, h4, rfl⟩), List.mem_singleton.2 rfl⟩
    | child h1 h2 h3 =>
      rw [hst] at h1; cases h1
      exact Or.inr ⟨_, List.mem_map.2 ⟨_, h2, rfl⟩, h3⟩
  · rintro (⟨out, hv, hx⟩ | ⟨p, hp, he⟩)
    · rcases visit_ok.1 hv with ⟨_, rfl⟩ | ⟨hb, o, os, e, ho, he, rfl⟩
      · cases hx
      · rw [List.mem_singleton.1 hx]
        exact Enc.here hst hb ho he
    · obtain ⟨g, hm, rfl⟩ := List.mem_map.1 hp
      exact Enc.child hst hm he

/-- the worklist invariant: output and worklist together always stand for the same set of items -/
theorem dump_spec (states : List KState) (entries : List τ) (fuel : Nat) (stack : List (Nat × List Char))
    (acc res : List (List Char × τ)) (h : dumpItems states entries fuel stack acc = .ok res) (x : List Char × τ) :
    x ∈ res ↔ x ∈ acc ∨ ∃ p ∈ stack, Enc states entries p.1 p.2 x := by
  have := dumpItems_invariant
    (I := fun stack' acc' => (x ∈ acc' ∨ ∃ p ∈ stack', Enc states entries p.1 p.2 x) ↔
      (x ∈ acc ∨ ∃ p ∈ stack, Enc states entries p.1 p.2 x))
    (fun idx word rest acc' st out hst hv hI => by
      rw [← hI]
      simp only [List.mem_append, List.mem_cons, or_and_right, exists_or, exists_eq_left, enc_iff hst, hv,
        Res.ok.injEq, exists_eq_left', or_assoc])
    fuel stack acc res h Iff.rfl
  simpa only [List.not_mem_nil, false_and, exists_false, or_false] using this

theorem dump_correct (states : List KState) (entries : List τ) (fuel : Nat) (res : List (List Char × τ))
    (h : dumpItems states entries fuel [(0, [])] [] = .ok res) : ∀ x, x ∈ res ↔ Enc states entries 0 [] x := by
  intro x
  rw [dump_spec states entries fuel _ _ _ h x]
  simp only [List.not_mem_nil, false_or, List.mem_singleton, exists_eq_left]

/-- the goto edges form a tree (every state is the target of at most one edge, none leads to state 0 or outside the
table) and every branch state carries a valid entry index -/
structure TreeTable (states : List KState) (entries : List τ) : Prop where
  nonempty : 0 < states.length
  inj : ∀ (i i' : Nat) (st st' : KState) (g g' : Char × Nat), states[i]? = some st → states[i']? = some st' → g ∈ st.gotos → g' ∈ st'.gotos →
    g.2 = g'.2 → i = i'
  nodup : ∀ (i : Nat) (st : KState), states[i]? = some st → (st.gotos.map (·.2)).Nodup
  range : ∀ (i : Nat) (st : KState), states[i]? = some st → ∀ g ∈ st.gotos, g.2 < states.length ∧ g.2 ≠ 0
  branch : ∀ (i : Nat) (st : KState), states[i]? = some st → st.isBranch = true → ∃ o os e, st.outputs = o :: os ∧ entries[o]? = some e

theorem TreeTable.visit_ok {states : List KState} {entries : List τ} (T : TreeTable states entries) {i : Nat} {st : KState}
    (hst : states[i]? = some st) (word : List Char) : ∃ out, visit entries st word = .ok out := by
  cases hb : st.isBranch with
  | false => exact ⟨[], C17L.visit_ok.2 (Or.inl ⟨hb, rfl⟩)⟩
  | true =>
    obtain ⟨o, os, e, ho, he⟩ := T.branch i st hst hb
    exact ⟨_, C17L.visit_ok.2 (Or.inr ⟨hb, o, os, e, ho, he, rfl⟩)⟩

/-- `S` holds the states not popped yet: it contains the worklist and every goto target of its members, the worklist has
distinct states, and no edge from `S` leads into the worklist -/
theorem dump_terminates_aux {states : List KState} {entries : List τ} (T : TreeTable states entries) :
    ∀ (fuel : Nat) (S : List Nat) (stack : List (Nat × List Char)) (acc : List (List Char × τ)),
    S.Nodup → (∀ i ∈ S, i < states.length) →
    (stack.Pairwise fun p q => p.1 ≠ q.1) → (∀ p ∈ stack, p.1 ∈ S) →
    (∀ i ∈ S, ∀ st, states[i]? = some st → ∀ g ∈ st.gotos, g.2 ∈ S ∧ ∀ p ∈ stack, p.1 ≠ g.2) →
    S.length ≤ fuel → ∃ res, dumpItems states entries fuel stack acc = .ok res := by
  intro fuel
  induction fuel with
  | zero =>
    intro S stack acc _ _ _ hsub _ hlen
    cases stack with
    | nil => exact ⟨acc, rfl⟩
    | cons p r => exact absurd (List.length_pos_of_mem (hsub p List.mem_cons_self)) (Nat.not_lt.2 hlen)
  | succ fuel ih =>
    intro S stack acc hS hrange hstk hsub hch hlen
    cases stack with
    | nil => exact ⟨acc, rfl⟩
    | cons p rest =>
      obtain ⟨idx, word⟩ := p
      have hidxS : idx ∈ S := hsub _ List.mem_cons_self
      obtain ⟨st, hst⟩ : ∃ st, states[idx]? = some st := ⟨_, List.getElem?_eq_getElem (hrange idx hidxS)⟩
      rw [List.pairwise_cons] at hstk
      obtain ⟨out, hv⟩ := T.visit_ok hst word
      rw [dumpItems_pop hst, hv]
      refine ih (S.erase idx) _ _ (hS.erase idx) (fun i hi => hrange i (List.mem_of_mem_erase hi)) ?_ ?_ ?_ ?_
      · refine List.pairwise_append.2 ⟨List.pairwise_map.2 (List.pairwise_map.1 (T.nodup idx st hst)), hstk.2, ?_⟩
        intro a ha q hq
        obtain ⟨g, hg, rfl⟩ := List.mem_map.1 ha
        exact ((hch idx hidxS st hst g hg).2 q (List.mem_cons_of_mem _ hq)).symm
      · intro p hp
        rcases List.mem_append.1 hp with hp | hp
        · obtain ⟨g, hg, rfl⟩ := List.mem_map.1 hp
          have h1 := hch idx hidxS st hst g hg
          exact hS.mem_erase_iff.2 ⟨(h1.2 _ List.mem_cons_self).symm, h1.1⟩
        · exact hS.mem_erase_iff.2 ⟨(hstk.1 p hp).symm, hsub p (List.mem_cons_of_mem _ hp)⟩
      · intro i hi st' hst' g hg
        have hi' := hS.mem_erase_iff.1 hi
        have h1 := hch i hi'.2 st' hst' g hg
        refine ⟨hS.mem_erase_iff.2 ⟨(h1.2 _ List.mem_cons_self).symm, h1.1⟩, fun p hp => ?_⟩
        rcases List.mem_append.1 hp with hp | hp
        · obtain ⟨g', hg', rfl⟩ := List.mem_map.1 hp
          exact fun heq => hi'.1 (T.inj i idx st' st g g' hst' hst hg hg' heq.symm)
        · exact h1.2 p (List.mem_cons_of_mem _ hp)
      · have := List.length_erase_of_mem hidxS
        omega

/-- on a tree the walk pops every state at most once -/
theorem dump_terminates {states : List KState} {entries : List τ} (T : TreeTable states entries) (fuel : Nat)
    (hf : states.length ≤ fuel) : ∃ res, dumpItems states entries fuel [(0, [])] [] = .ok res := by
  refine dump_terminates_aux T fuel (List.range states.length) _ _ List.nodup_range (fun i hi => List.mem_range.1 hi)
    (List.pairwise_singleton _ _) (fun p hp => ?_) (fun i _ st hst g hg => ?_) (by rwa [List.length_range])
  · rw [List.mem_singleton.1 hp]
    exact List.mem_range.2 T.nonempty
  · have := T.range i st hst g hg
    exact ⟨List.mem_range.2 this.1, fun p hp => List.mem_singleton.1 hp ▸ this.2.symm⟩

end V.C17L
