import VProofs.Lemmas.TagAsmTokens
/-!
# C12 helpers: hash-map iteration orders in `tag_trainer.rs` are not observable

* `train_tag`: `for (feature, fid) in feature_ids` (a `HashMap`) — the order of the trace items.  Two items with different
  `(token, feature, class slot)` commute in each of the three folds of `assembleTag`; all panics of one fold carry the same
  site string, so the outcomes are EQUAL.
* `TagTrainer::train`: `for (token, tags) in self.default_tags` (a `HashMap`) — the order of the dictionary-only tokens.
-/
namespace V.C12L
open V V.PermL V.C09L

theorem pair_st {β : Type} [DecidableEq β] {lt : β → β → Bool} (st : StrictTotal lt) (ltp : β × Nat → β × Nat → Bool)
    (h : ∀ a b, ltp a b = if lt a.1 b.1 then true else if a.1 = b.1 then decide (a.2 < b.2) else false) :
    StrictTotal ltp := by
  have iff : ∀ a b, ltp a b = true ↔ lt a.1 b.1 = true ∨ (a.1 = b.1 ∧ a.2 < b.2) := by
    intro a b
    rw [h]
    by_cases h1 : lt a.1 b.1 = true
    · rw [if_pos h1]
      exact ⟨fun _ => Or.inl h1, fun _ => rfl⟩
    · by_cases h2 : a.1 = b.1
      · rw [if_neg h1, if_pos h2]
        exact ⟨fun l => Or.inr ⟨h2, of_decide_eq_true l⟩, fun l => l.elim (fun l => absurd l h1) fun l => decide_eq_true l.2⟩
      · rw [if_neg h1, if_neg h2]
        exact ⟨fun l => (nomatch l), fun l => l.elim (fun l => absurd l h1) fun l => absurd l.1 h2⟩
  refine ⟨fun a => ?_, fun a b c hab hbc => ?_, fun a b hne hab => ?_⟩
  · refine Bool.eq_false_iff.mpr fun hl => ?_
    rcases (iff a a).mp hl with h1 | ⟨_, h1⟩
    · rw [st.irrefl] at h1
      cases h1
    · exact Nat.lt_irrefl _ h1
  · rw [iff] at hab hbc ⊢
    rcases hab with h1 | ⟨e1, l1⟩ <;> rcases hbc with h2 | ⟨e2, l2⟩
    · exact Or.inl (st.trans _ _ _ h1 h2)
    · exact Or.inl (e2 ▸ h1)
    · exact Or.inl (e1 ▸ h2)
    · exact Or.inr ⟨e1.trans e2, Nat.lt_trans l1 l2⟩
  · rw [iff]
    have hab' : ¬ (lt a.1 b.1 = true ∨ (a.1 = b.1 ∧ a.2 < b.2)) := fun h' => by
      rw [(iff a b).mpr h'] at hab
      cases hab
    by_cases e : a.1 = b.1
    · have h2 : a.2 ≠ b.2 := fun h2 => hne (Prod.ext e h2)
      exact Or.inr ⟨e.symm, Nat.lt_of_le_of_ne (Nat.le_of_not_lt fun l => hab' (Or.inr ⟨e, l⟩)) (Ne.symm h2)⟩
    · exact Or.inl (st.conn a.1 b.1 e (Bool.eq_false_iff.mpr fun l => hab' (Or.inl l)))

theorem ltPairC_st : StrictTotal ltPairC := pair_st (lexLt_st ltChar_st) ltPairC (fun _ _ => rfl)
theorem ltPairT_st : StrictTotal ltPairT := pair_st (lexLt_st ltNat_st) ltPairT (fun _ _ => rfl)

/-- two items are independent when they write different cells: another feature (or the bias), or another class slot -/
def Rcell (x y : TagTraceItem) : Prop := x.feat = y.feat → x.offset + x.cls ≠ y.offset + y.cls

theorem Rcell.symm {x y : TagTraceItem} (h : Rcell x y) : Rcell y x := fun hf he => h hf.symm he.symm

section
variable {κ : Type} [DecidableEq κ]

/-- a reachable weight table of `train_tag` -/
def TagTabWF (lt : κ → κ → Bool) (n : Nat) (m : List (κ × List Int)) : Prop := KSorted lt m ∧ VecLen n m

theorem insK_wf {lt : κ → κ → Bool} (st : StrictTotal lt) {n : Nat} (k : κ) (slot : Nat) (w : Int) (m : List (κ × List Int))
    (hm : TagTabWF lt n m) : TagTabWF lt n (insK lt k (slotF n slot w) m) :=
  ⟨insK_sorted st k _ hm.1, insK_all lt k _ (fun v : List Int => v.length = n) (slotF_length n slot w) m hm.2⟩

theorem tagUpsert_wf {lt : κ → κ → Bool} (st : StrictTotal lt) {n : Nat} (k : κ) (slot : Nat) (w : Int)
    (m m' : List (κ × List Int)) (hm : TagTabWF lt n m) (h : tagUpsert lt n k slot w m = .ok m') : TagTabWF lt n m' := by
  rw [tagUpsert_eq_insK lt k slot w hm.2] at h
  split at h
  · cases h
    exact insK_wf st k slot w m hm
  · cases h

/-- writes to different `(key, slot)` cells commute; the outcomes are equal (one site string) -/
theorem tagUpsert_comm {lt : κ → κ → Bool} (st : StrictTotal lt) {n : Nat} {m : List (κ × List Int)} (hm : TagTabWF lt n m)
    (k₁ k₂ : κ) (p q : Nat) (w₁ w₂ : Int) (hne : ¬ (k₁ = k₂ ∧ p = q)) :
    (tagUpsert lt n k₁ p w₁ m).bind (tagUpsert lt n k₂ q w₂) = (tagUpsert lt n k₂ q w₂ m).bind (tagUpsert lt n k₁ p w₁) := by
  refine (guard_comm (TagTabWF lt n) _ _ (p < n) (q < n) _ _ (insK lt k₁ (slotF n p w₁)) (insK lt k₂ (slotF n q w₂))
    (fun m hm => tagUpsert_eq_insK lt k₁ p w₁ hm.2) (fun m hm => tagUpsert_eq_insK lt k₂ q w₂ hm.2)
    (fun _ => insK_wf st k₁ p w₁) (fun _ => insK_wf st k₂ q w₂) hm
    (fun _ _ => insK_comm st k₁ k₂ _ _ ?_ hm.1)).elim id fun h => h.1.trans h.2.symm
  intro hk o
  exact List.set_comm _ _ (fun hpq => hne ⟨hk, hpq⟩)

theorem gstep_comm {lt : κ → κ → Bool} (st : StrictTotal lt) (n : Nat) (sel : TagTraceItem → Option κ)
    (hsel : ∀ x y k, sel x = some k → sel y = some k → x.feat = y.feat)
    (s : Res (List (κ × List Int))) (x y : TagTraceItem) (hs : ∀ m, s = .ok m → TagTabWF lt n m) (hxy : Rcell x y) :
    gstep lt n sel (gstep lt n sel s x) y = gstep lt n sel (gstep lt n sel s y) x := by
  unfold gstep
  cases hx : sel x with
  | none => rfl
  | some k₁ =>
    cases hy : sel y with
    | none => rfl
    | some k₂ =>
      by_cases wx : x.weight = 0
      · simp only [wx, if_true]
      · by_cases wy : y.weight = 0
        · simp only [wy, if_true]
        · simp only [wx, wy, if_false]
          cases s with
          | ok m =>
            refine tagUpsert_comm st (hs m rfl) k₁ k₂ _ _ _ _ ?_
            rintro ⟨hk, hpq⟩
            exact hxy (hsel x y k₁ hx (hk ▸ hy)) hpq
          | err _ => rfl
          | panic _ => rfl
          | ub _ => rfl

theorem gfold_perm {lt : κ → κ → Bool} (st : StrictTotal lt) (n : Nat) (sel : TagTraceItem → Option κ)
    (hsel : ∀ x y k, sel x = some k → sel y = some k → x.feat = y.feat)
    {l₁ l₂ : List TagTraceItem} (p : l₁.Perm l₂) (hp : l₁.Pairwise Rcell) :
    l₁.foldl (gstep lt n sel) (.ok []) = l₂.foldl (gstep lt n sel) (.ok []) :=
  foldl_perm_gen (gstep lt n sel) Eq (fun s => ∀ m, s = .ok m → TagTabWF lt n m) Rcell
    (fun _ => rfl) (fun _ _ _ h₁ h₂ => h₁.trans h₂) (fun _ _ _ _ _ h => h ▸ rfl)
    (gstep_inv sel (TagTabWF lt n) (tagUpsert_wf st)) (fun _ _ => Rcell.symm) (gstep_comm st n sel hsel) p hp (.ok [])
    (fun _ h => Res.ok.inj h ▸ ⟨List.Pairwise.nil, fun _ he => nomatch he⟩)

end

theorem selC_inj (x y : TagTraceItem) (k : List Char × Nat) (hx : selC x = some k) (hy : selC y = some k) :
    x.feat = y.feat := by
  unfold selC at hx hy
  split at hx
  · next ex =>
    split at hy
    · next ey =>
      cases hx
      cases hy
      exact ex.trans ey.symm
    · cases hy
  · cases hx

theorem selT_inj (x y : TagTraceItem) (k : List Nat × Nat) (hx : selT x = some k) (hy : selT y = some k) :
    x.feat = y.feat := by
  unfold selT at hx hy
  split at hx
  · next ex =>
    split at hy
    · next ey =>
      cases hx
      cases hy
      exact ex.trans ey.symm
    · cases hy
  · cases hx

theorem biasStep_comm (s : Res (List Int)) (x y : TagTraceItem) (hxy : Rcell x y) :
    biasStep (biasStep s x) y = biasStep (biasStep s y) x := by
  simp only [biasStep_eq]
  cases hx : x.feat with
  | some _ => rfl
  | none =>
    cases hy : y.feat with
    | some _ => rfl
    | none =>
      cases s with
      | ok b =>
        -- the bounds checks read the length of the current vector, which no write changes
        refine (guard_comm (fun b' : List Int => b'.length = b.length) (biasSet x) (biasSet y)
          (x.offset + x.cls < b.length) (y.offset + y.cls < b.length) _ _ (fun b' => b'.set (x.offset + x.cls) x.weight)
          (fun b' => b'.set (y.offset + y.cls) y.weight) (fun b' hb => by rw [biasSet, hb]) (fun b' hb => by rw [biasSet, hb])
          (fun _ b' hb => (List.length_set ..).trans hb) (fun _ b' hb => (List.length_set ..).trans hb) rfl
          (fun _ _ => List.set_comm _ _ (hxy (hx.trans hy.symm)))).elim id fun h => h.1.trans h.2.symm
      | err _ => rfl
      | panic _ => rfl
      | ub _ => rfl

theorem biasFold_perm (n : Nat) {l₁ l₂ : List TagTraceItem} (p : l₁.Perm l₂) (hp : l₁.Pairwise Rcell) :
    l₁.foldl biasStep (.ok (List.replicate n 0)) = l₂.foldl biasStep (.ok (List.replicate n 0)) :=
  foldl_perm_gen biasStep Eq (fun _ => True) Rcell (fun _ => rfl) (fun _ _ _ h₁ h₂ => h₁.trans h₂)
    (fun _ _ _ _ _ h => h ▸ rfl) (fun _ _ _ => trivial) (fun _ _ => Rcell.symm) (fun s x y _ => biasStep_comm s x y)
    p hp _ trivial

theorem dstep_sorted (m : EMap) (d : List Char × List Tag) (hs : KSorted (lexLt ltChar) m) :
    KSorted (lexLt ltChar) (dstep m d) := by
  rw [dstep_eq hs]
  split
  · exact insK_sorted ltStr_st _ _ hs
  · exact hs

theorem dstep_comm (m : EMap) (d d' : List Char × List Tag) (hs : KSorted (lexLt ltChar) m) (hne : d.1 ≠ d'.1) :
    dstep (dstep m d) d' = dstep (dstep m d') d := by
  rw [dstep_eq (dstep_sorted m d hs), dstep_eq (dstep_sorted m d' hs), dstep_eq hs, dstep_eq hs]
  by_cases c : d.2.any Option.isSome = true
  · by_cases c' : d'.2.any Option.isSome = true
    · simp only [if_pos c, if_pos c']
      exact insK_comm ltStr_st d.1 d'.1 _ _ (fun h => absurd h hne) hs
    · simp only [if_neg c']
  · simp only [if_neg c]

end V.C12L
