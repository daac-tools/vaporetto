import VProofs.Lemmas.BinVarint
/-!
# UTF-8: decoding the encoding of a `List Char` gives it back

The encoder is described once, by the payload digits of each byte (`utf8EncodeChar_cases`); the decoder is described on
sequences of that form (`utf8DecodeChar?_two` …).  Division and remainder occur in the first only.
-/
namespace V.BinL
open V V.Bin

theorem mkChar?_toNat (c : Char) : mkChar? c.toNat = some c := by
  have h : c.toNat.isValidChar := c.valid
  simp only [mkChar?, h, dite_true]
  congr 1

/-- `b` is the continuation byte that carries the base-64 digit `x` -/
def Cont (b : UInt8) (x : Nat) : Prop := b.toNat = 0x80 + x ∧ x < 64

theorem isCont_of {b : UInt8} {x : Nat} (h : Cont b x) : isCont b = true := by
  simp only [isCont, h.1, Bool.and_eq_true, decide_eq_true_eq]
  have := h.2
  omega

theorem isCont_false_of {b : UInt8} (h : b.toNat < 0x80 ∨ 0xC0 ≤ b.toNat) : isCont b = false := by
  cases hc : isCont b with
  | false => rfl
  | true =>
    simp only [isCont, Bool.and_eq_true, decide_eq_true_eq] at hc
    omega

theorem toNat_ofNat_add {k x b : Nat} (hx : x < b) (hk : k + b ≤ 256) : (UInt8.ofNat (k + x)).toNat = k + x := by
  rw [ofNat_toNat, Nat.mod_eq_of_lt (by omega)]

theorem cont_ofNat {x : Nat} (h : x < 64) : Cont (UInt8.ofNat (0x80 + x)) x :=
  ⟨toNat_ofNat_add h (by decide), h⟩

/-- The four forms of an encoded character: the lead byte carries the top digit `x0`, every further byte one base-64 digit. -/
theorem utf8EncodeChar_cases (c : Char) :
    (c.toNat < 0x80 ∧ ∃ b0, utf8EncodeChar c = [b0] ∧ b0.toNat = c.toNat) ∨
    (∃ b0 b1 x0 x1, utf8EncodeChar c = [b0, b1] ∧ b0.toNat = 0xC0 + x0 ∧ Cont b1 x1 ∧
      2 ≤ x0 ∧ x0 < 32 ∧ c.toNat = x0 * 64 + x1 ∧ 0x80 ≤ c.toNat) ∨
    (∃ b0 b1 b2 x0 x1 x2, utf8EncodeChar c = [b0, b1, b2] ∧ b0.toNat = 0xE0 + x0 ∧ Cont b1 x1 ∧ Cont b2 x2 ∧
      x0 < 16 ∧ c.toNat = x0 * 4096 + x1 * 64 + x2 ∧ 0x800 ≤ c.toNat) ∨
    (∃ b0 b1 b2 b3 x0 x1 x2 x3, utf8EncodeChar c = [b0, b1, b2, b3] ∧ b0.toNat = 0xF0 + x0 ∧ Cont b1 x1 ∧
      Cont b2 x2 ∧ Cont b3 x3 ∧ x0 < 5 ∧ c.toNat = x0 * 262144 + x1 * 4096 + x2 * 64 + x3 ∧ 0x10000 ≤ c.toNat) := by
  have hv : c.toNat < 0x110000 := by
    have : c.toNat.isValidChar := c.valid
    simp only [Nat.isValidChar] at this
    omega
  simp only [utf8EncodeChar]
  generalize c.toNat = n at hv
  -- the base-64 digits of `n` as variables, so that `omega` sees linear facts only
  have d2 : n / 4096 = n / 64 / 64 := by rw [Nat.div_div_eq_div_mul]
  have d3 : n / 262144 = n / 64 / 64 / 64 := by rw [Nat.div_div_eq_div_mul, Nat.div_div_eq_div_mul]
  rw [d2, d3]
  have s1 := Nat.div_add_mod' n 64
  have s2 := Nat.div_add_mod' (n / 64) 64
  have s3 := Nat.div_add_mod' (n / 64 / 64) 64
  have m1 : n % 64 < 64 := Nat.mod_lt _ (by decide)
  have m2 : n / 64 % 64 < 64 := Nat.mod_lt _ (by decide)
  have m3 : n / 64 / 64 % 64 < 64 := Nat.mod_lt _ (by decide)
  clear d2 d3
  generalize n % 64 = x3 at *
  generalize n / 64 % 64 = x2 at *
  generalize n / 64 / 64 % 64 = x1 at *
  generalize n / 64 / 64 / 64 = x0 at *
  generalize n / 64 / 64 = q2 at *
  generalize n / 64 = q1 at *
  by_cases h1 : n < 0x80
  · exact .inl ⟨h1, _, by rw [if_pos h1], by rw [ofNat_toNat, Nat.mod_eq_of_lt (Nat.lt_trans h1 (by decide))]⟩
  · by_cases h2 : n < 0x800
    · have b : 2 ≤ q1 ∧ q1 < 32 := by omega
      exact .inr (.inl ⟨_, _, q1, x3, by rw [if_neg h1, if_pos h2], toNat_ofNat_add b.2 (by decide), cont_ofNat m1,
        b.1, b.2, s1.symm, Nat.not_lt.1 h1⟩)
    · by_cases h3 : n < 0x10000
      · have b : q2 < 16 ∧ n = q2 * 4096 + x2 * 64 + x3 := by omega
        exact .inr (.inr (.inl ⟨_, _, _, q2, x2, x3, by rw [if_neg h1, if_neg h2, if_pos h3],
          toNat_ofNat_add b.1 (by decide), cont_ofNat m2, cont_ofNat m1, b.1, b.2, Nat.not_lt.1 h2⟩))
      · have b : x0 < 5 ∧ n = x0 * 262144 + x1 * 4096 + x2 * 64 + x3 := by omega
        exact .inr (.inr (.inr ⟨_, _, _, _, x0, x1, x2, x3, by rw [if_neg h1, if_neg h2, if_neg h3],
          toNat_ofNat_add b.1 (by decide), cont_ofNat m3, cont_ofNat m2, cont_ofNat m1, b.1, b.2, Nat.not_lt.1 h3⟩))

theorem utf8DecodeChar?_one {b0 : UInt8} (r : Bytes) (h0 : b0.toNat < 0x80) :
    utf8DecodeChar? (b0 :: r) = (mkChar? b0.toNat).map (·, r) := by
  unfold utf8DecodeChar?
  dsimp only
  rw [if_pos h0]

theorem utf8DecodeChar?_two {b0 b1 : UInt8} {x0 x1 : Nat} (r : Bytes) (h0 : b0.toNat = 0xC0 + x0) (c1 : Cont b1 x1)
    (l0 : 2 ≤ x0) (u0 : x0 < 32) : utf8DecodeChar? (b0 :: b1 :: r) = (mkChar? (x0 * 64 + x1)).map (·, r) := by
  unfold utf8DecodeChar?
  dsimp only
  rw [h0, if_neg (by omega), if_neg (by omega), if_pos (by omega), if_pos (isCont_of c1), c1.1,
    Nat.add_sub_cancel_left, Nat.add_sub_cancel_left]

theorem utf8DecodeChar?_three {b0 b1 b2 : UInt8} {x0 x1 x2 : Nat} (r : Bytes) (h0 : b0.toNat = 0xE0 + x0)
    (c1 : Cont b1 x1) (c2 : Cont b2 x2) (u0 : x0 < 16) (hn : 0x800 ≤ x0 * 4096 + x1 * 64 + x2) :
    utf8DecodeChar? (b0 :: b1 :: b2 :: r) = (mkChar? (x0 * 4096 + x1 * 64 + x2)).map (·, r) := by
  unfold utf8DecodeChar?
  dsimp only
  rw [h0, if_neg (by omega), if_neg (by omega), if_neg (by omega), if_pos (by omega), isCont_of c1, isCont_of c2]
  simp only [Bool.and_self, if_true, c1.1, c2.1, Nat.add_sub_cancel_left]
  rw [if_neg (Nat.not_lt.2 hn)]

theorem utf8DecodeChar?_four {b0 b1 b2 b3 : UInt8} {x0 x1 x2 x3 : Nat} (r : Bytes) (h0 : b0.toNat = 0xF0 + x0)
    (c1 : Cont b1 x1) (c2 : Cont b2 x2) (c3 : Cont b3 x3) (u0 : x0 < 5)
    (hn : 0x10000 ≤ x0 * 262144 + x1 * 4096 + x2 * 64 + x3) :
    utf8DecodeChar? (b0 :: b1 :: b2 :: b3 :: r) = (mkChar? (x0 * 262144 + x1 * 4096 + x2 * 64 + x3)).map (·, r) := by
  unfold utf8DecodeChar?
  dsimp only
  rw [h0, if_neg (by omega), if_neg (by omega), if_neg (by omega), if_neg (by omega), if_pos (by omega), isCont_of c1,
    isCont_of c2, isCont_of c3]
  simp only [Bool.and_self, if_true, c1.1, c2.1, c3.1, Nat.add_sub_cancel_left]
  rw [if_neg (Nat.not_lt.2 hn)]

theorem utf8DecodeChar_encode (c : Char) (r : Bytes) :
    utf8DecodeChar? (utf8EncodeChar c ++ r) = some (c, r) := by
  have hm := mkChar?_toNat c
  rcases utf8EncodeChar_cases c with ⟨h, b0, he, h0⟩ | ⟨b0, b1, x0, x1, he, h0, c1, l0, u0, hn, _⟩ |
    ⟨b0, b1, b2, x0, x1, x2, he, h0, c1, c2, u0, hn, hl⟩ |
    ⟨b0, b1, b2, b3, x0, x1, x2, x3, he, h0, c1, c2, c3, u0, hn, hl⟩
  · rw [he, List.singleton_append, utf8DecodeChar?_one r (h0 ▸ h), h0, hm]; rfl
  · rw [he, List.cons_append, List.singleton_append, utf8DecodeChar?_two r h0 c1 l0 u0, ← hn, hm]; rfl
  · rw [he, List.cons_append, List.cons_append, List.singleton_append,
      utf8DecodeChar?_three r h0 c1 c2 u0 (hn ▸ hl), ← hn, hm]; rfl
  · rw [he, List.cons_append, List.cons_append, List.cons_append, List.singleton_append,
      utf8DecodeChar?_four r h0 c1 c2 c3 u0 (hn ▸ hl), ← hn, hm]; rfl

theorem utf8EncodeChar_nonempty (c : Char) : 1 ≤ (utf8EncodeChar c).length := by
  rcases utf8EncodeChar_cases c with ⟨_, _, he, _⟩ | ⟨_, _, _, _, he, _⟩ | ⟨_, _, _, _, _, _, he, _⟩ |
    ⟨_, _, _, _, _, _, _, _, he, _⟩ <;> rw [he] <;> exact Nat.le_add_left 1 _

theorem utf8Encode_nil : utf8Encode [] = [] := rfl

theorem utf8Encode_cons (c : Char) (s : List Char) : utf8Encode (c :: s) = utf8EncodeChar c ++ utf8Encode s := by
  simp [utf8Encode]

theorem utf8Encode_append (a b : List Char) : utf8Encode (a ++ b) = utf8Encode a ++ utf8Encode b := by
  simp [utf8Encode]

theorem length_le_utf8Encode (s : List Char) : s.length ≤ (utf8Encode s).length := by
  induction s with
  | nil => simp
  | cons c s ih =>
    have := utf8EncodeChar_nonempty c
    simp only [utf8Encode_cons, List.length_cons, List.length_append]; omega

theorem utf8DecodeFuel_encode (s : List Char) : ∀ fuel, s.length ≤ fuel →
    utf8DecodeFuel fuel (utf8Encode s) = some s := by
  induction s with
  | nil => intro fuel _; simp [utf8Encode, utf8DecodeFuel]
  | cons c s ih =>
    intro fuel hf
    cases fuel with
    | zero => simp at hf
    | succ f =>
      have hne := utf8EncodeChar_nonempty c
      rw [utf8Encode_cons]
      cases hb : utf8EncodeChar c ++ utf8Encode s with
      | nil => simp at hb; rw [hb.1] at hne; simp at hne
      | cons b t =>
        simp only [utf8DecodeFuel]
        rw [← hb, utf8DecodeChar_encode]
        simp only [List.length_cons] at hf
        simp only [ih f (by omega), Option.map_some]

theorem utf8Decode_encode (s : List Char) : utf8Decode? (utf8Encode s) = some s :=
  utf8DecodeFuel_encode s _ (length_le_utf8Encode s)

end V.BinL
