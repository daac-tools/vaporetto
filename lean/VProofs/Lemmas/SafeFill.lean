import VProofs.Lemmas.SafeInv
/-!
# `predict` and `fill_tags` inside a history (for C18)

`predict` re-establishes the invariant from any consistent sentence.  The model's well-formedness enters here only, through
`C01_scores_window0` and `C06_predictTags_window0`.  `predict_tags` never reads the tags, the tag count
or the stored tag scores of the sentence (it overwrites them), so the C06 theorems — stated for the sentence `predict`
returned with other labels — apply to every sentence a history can reach.
-/
namespace V.C18L

theorem predict_store (p0 : Predictor) (store : Bool) (k : Nat) (s : Sentence) :
    ({ p0 with storeTagScores := store } : Predictor).predict k s = p0.predict k s := rfl

theorem predict_step {env : List Predictor} {s : Sentence} (h : Inv s) (k : Nat) (p : Predictor)
    (hk : env[k]? = some p) (henv : EnvWF0 env) : ∃ s', p.predict k s = .ok s' ∧ InvH env s' := by
  obtain ⟨cfg, m, pt, p0, store, hm, _, hnew, rfl⟩ := henv p (List.mem_of_getElem? hk)
  have hs : SentOK s := ⟨h.text_ne, h.types_eq, h.bounds_len⟩
  obtain ⟨s', h1, h2, h3, h4, h5, h6, h7, h8⟩ := C01_scores_window0 cfg m hm pt p0 hnew s hs k
  have h1' := (predict_store p0 store k s).trans h1
  have hbl := C01L.predict_bounds_length p0 k s s' h1
  refine ⟨s', h1', ⟨?_, ?_, ?_, ?_, ?_⟩, fun k' hk' => ?_⟩
  · rw [h4]; exact h.text_ne
  · rw [h5, h4]; exact h.types_eq
  · rw [hbl, h4]; exact h.bounds_len
  · rw [h6, h7, h4]; exact h.tags_len
  · unfold Sentence.boundaryScores at h2
    split at h2
    · next he => exact Or.inl (List.isEmpty_iff.mp he)
    · split at h2
      · next hle => exact Or.inr hle
      · cases h2
  · rw [h8] at hk'
    cases hk'
    exact ⟨_, hk, s, s', hs, h1', rfl, rfl, rfl, rfl, rfl, rfl, rfl⟩

theorem predictTags_frame (p : Predictor) (s : Sentence) (t : List Tag) (k : Nat)
    (ts : List (Option (List (List (List Char)) × List Int))) (hn : p.nTags ≠ 0) :
    p.predictTags { s with tags := t, nTags := k, tagScores := ts } = p.predictTags s := by
  cases htp : p.tagPredictor with
  | none =>
    unfold Predictor.predictTags
    rw [htp]
  | some tpm =>
    rw [C06L.predictTags_eq p tpm _ htp hn, C06L.predictTags_eq p tpm s htp hn]

theorem predictTags_zero (p : Predictor) (s : Sentence) (h : p.tagPredictor.isSome = true) (hn : p.nTags = 0) :
    p.predictTags s =
      .ok { s with tagScores := if p.storeTagScores then List.replicate s.types.length none else [] } := by
  unfold Predictor.predictTags
  cases htp : p.tagPredictor with
  | none => rw [htp] at h; cases h
  | some tpm => simp only [hn, if_true]

/-- the sentence of a history as a modification of the sentence `predict` returned -/
theorem sent_eq (s s1 : Sentence) (e1 : s.text = s1.text) (e2 : s.types = s1.types) (e3 : s.scores = s1.scores)
    (e4 : s.padding = s1.padding) (e5 : s.cstates = s1.cstates) (e6 : s.tstates = s1.tstates) (e7 : s.pred = s1.pred) :
    s = { ({ s1 with bounds := s.bounds } : Sentence) with tags := s.tags, nTags := s.nTags, tagScores := s.tagScores } := by
  cases s; cases s1
  simp only at e1 e2 e3 e4 e5 e6 e7
  subst e1 e2 e3 e4 e5 e6 e7
  rfl


theorem new_false_none (cfg : Cfg) (m : WModel) (p : Predictor) (hp : Predictor.new cfg m false = .ok p) :
    p.tagPredictor = none :=
  (C01L.new_inv cfg m false p hp).2.2.2.2.1

theorem predict_pred (p : Predictor) (k : Nat) (s0 s1 : Sentence) (h : p.predict k s0 = .ok s1) : s1.pred = some k := by
  obtain ⟨_, _, _, _, _, _, rfl⟩ := C01L.predict_finish p k s0 s1 h
  rfl

theorem fillTags_step {env : List Predictor} (henv : EnvWF0 env) {s : Sentence} (h : InvH env s)
    (hv : ∀ k, s.pred = some k → ∃ p, env[k]? = some p ∧ p.tagPredictor.isSome = true) :
    ∃ s', s.fillTags (fun k => env[k]?) = .ok s' ∧ InvH env s' := by
  unfold Sentence.fillTags
  cases hpr : s.pred with
  | none => exact ⟨s, rfl, h⟩
  | some k =>
    obtain ⟨p, hk, htp⟩ := hv k hpr
    obtain ⟨p', hk', s0, s1, hs0, h1, e1, e2, e3, e4, e5, e6, e7⟩ := h.2 k hpr
    rw [hk] at hk'
    cases hk'
    simp only [hk]
    obtain ⟨cfg, m, pt, p0, store, hm, ht, hnew, rfl⟩ := henv p (List.mem_of_getElem? hk)
    have hpt : pt = true := by
      cases pt
      · have htp' : p0.tagPredictor.isSome = true := htp
        rw [new_false_none cfg m p0 hnew] at htp'
        cases htp'
      · rfl
    subst hpt
    obtain ⟨_, _, hnt, _⟩ := C06L.new_tag_ok cfg m p0 hnew
    have hnt' : ({ p0 with storeTagScores := store } : Predictor).nTags = specNTags m := hnt
    have h1' : p0.predict k s0 = .ok s1 := h1
    have htext : s1.text = s0.text := (C06L.predict_states p0 k s0 s1 h1').1
    by_cases hn : specNTags m = 0
    · rw [predictTags_zero _ s htp (by rw [hnt', hn])]
      exact ⟨_, rfl, invH_frame h ⟨h.1.text_ne, h.1.types_eq, h.1.bounds_len, h.1.tags_len, h.1.scores_ok⟩
        rfl rfl rfl rfl rfl rfl rfl rfl⟩
    · have hpos : 0 < specNTags m := Nat.pos_of_ne_zero hn
      obtain ⟨_, h3⟩ := C06_predictTags_window0 cfg m hm ht p0 hnew store s0 s1 hs0 k h1' s.bounds e7 hpos
      have hse := sent_eq s s1 e1 e2 e3 e4 e5 e6 (hpr.trans (predict_pred _ k s0 s1 h1).symm)
      have hrun : ({ p0 with storeTagScores := store } : Predictor).predictTags s = _ :=
        (congrArg _ hse).trans ((predictTags_frame _ _ _ _ _ (by rw [hnt']; exact hn)).trans h3)
      refine ⟨_, hrun, invH_frame h ⟨e1 ▸ h.1.text_ne, ?_, e1 ▸ h.1.bounds_len, ?_, ?_⟩
        ((predict_pred _ k s0 s1 h1).trans hpr.symm) e1.symm e2.symm e3.symm e4.symm e5.symm e6.symm rfl⟩
      · show s1.types = typesOf s1.text
        rw [← e1, ← e2]; exact h.1.types_eq
      · show (specAllTags m s0.text s.bounds).length = s1.text.length * specNTags m
        rw [C06L.specAllTags_length, htext]
      · show s1.scores = [] ∨ s1.padding + s.bounds.length ≤ s1.scores.length
        rw [← e3, ← e4]; exact h.1.scores_ok

end V.C18L
