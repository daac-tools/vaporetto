import VModel.Scorer
import VProofs.Lemmas.TagInfo
/-!
# `insertTagWeights` / `fillTagWeights`: the table `tag_weight[token id][rel]` (for C06)
-/
namespace V.C06L
open V.PermL
variable {α : Type}

abbrev TW := List (List (List (Nat × WV)))

def cell (tw : TW) (t r : Nat) : List (Nat × WV) := ((tw[t]?.getD [])[r]?).getD []

def rowLen (tw : TW) (t : Nat) : Nat := (tw[t]?.getD []).length

theorem cell_set (tw : TW) (tid rel : Nat) (row : List (List (Nat × WV))) (m : List (Nat × WV)) (x : Nat × WV)
    (h1 : tw[tid]? = some row) (h2 : row[rel]? = some m) (t r : Nat) :
    cell (tw.set tid (row.set rel (m ++ [x]))) t r
      = if (tid, rel) = (t, r) then cell tw t r ++ [x] else cell tw t r := by
  obtain ⟨hlt, _⟩ := List.getElem?_eq_some_iff.mp h1
  obtain ⟨hlr, _⟩ := List.getElem?_eq_some_iff.mp h2
  unfold cell
  rw [List.getElem?_set]
  by_cases ht : tid = t
  · subst ht
    rw [if_pos rfl, if_pos hlt, h1]
    simp only [Option.getD_some]
    rw [List.getElem?_set]
    by_cases hr : rel = r
    · subst hr
      rw [if_pos rfl, if_pos hlr, if_pos rfl, h2]
      rfl
    · rw [if_neg hr, if_neg (by intro e; exact hr (Prod.mk.inj e).2)]
  · rw [if_neg ht, if_neg (by intro e; exact ht (Prod.mk.inj e).1)]

theorem rowLen_set (tw : TW) (tid rel : Nat) (row : List (List (Nat × WV))) (y : List (Nat × WV))
    (h1 : tw[tid]? = some row) (t : Nat) :
    rowLen (tw.set tid (row.set rel y)) t = rowLen tw t := by
  obtain ⟨hlt, _⟩ := List.getElem?_eq_some_iff.mp h1
  unfold rowLen
  rw [List.getElem?_set]
  by_cases ht : tid = t
  · subst ht
    rw [if_pos rfl, if_pos hlt, h1]
    simp
  · rw [if_neg ht]

/-- what pattern `id` with tag info `info` contributes to cell `(t, r)` -/
def chunkOf (cfg : Cfg) (t r : Nat) (info : TI) (id : Nat) : List (Nat × WV) :=
  (info.filter (fun kv => decide (kv.1 = (t, r)))).map (fun kv => (id, WV.ofList cfg kv.2))

theorem insert_spec (cfg : Cfg) (id : Nat) (info : TI) :
    ∀ (tw tw' : TW), insertTagWeights cfg id info tw = .ok tw' →
      tw'.length = tw.length ∧ (∀ t, rowLen tw' t = rowLen tw t) ∧
      ∀ t r, cell tw' t r = cell tw t r ++ chunkOf cfg t r info id := by
  induction info with
  | nil =>
    intro tw tw' h
    simp only [insertTagWeights, Res.ok.injEq] at h
    subst h
    exact ⟨rfl, fun _ => rfl, fun t r => by simp [chunkOf]⟩
  | cons e rest ih =>
    obtain ⟨⟨tid, rel⟩, w⟩ := e
    intro tw tw' h
    rw [insertTagWeights] at h
    split at h
    · cases h
    · rename_i row h1
      split at h
      · cases h
      · rename_i m h2
        obtain ⟨i1, i2, i3⟩ := ih _ tw' h
        refine ⟨by rw [i1, List.length_set], fun t => by rw [i2, rowLen_set tw tid rel row _ h1], ?_⟩
        intro t r
        rw [i3, cell_set tw tid rel row m _ h1 h2]
        unfold chunkOf
        by_cases hk : (tid, rel) = (t, r)
        · rw [if_pos hk, List.filter_cons_of_pos (by simpa using hk)]
          simp
        · rw [if_neg hk, List.filter_cons_of_neg (by simpa using hk)]

/-- the contributions of the patterns `es` numbered from `id` -/
def chunks (cfg : Cfg) (t r : Nat) : List (List α × PWT) → Nat → List (Nat × WV)
  | [], _ => []
  | e :: es, id => chunkOf cfg t r e.2.tagInfo id ++ chunks cfg t r es (id + 1)

theorem fill_spec (cfg : Cfg) (es : List (List α × PWT)) :
    ∀ (id : Nat) (tw tw' : TW), fillTagWeights cfg es id tw = .ok tw' →
      tw'.length = tw.length ∧ (∀ t, rowLen tw' t = rowLen tw t) ∧
      ∀ t r, cell tw' t r = cell tw t r ++ chunks cfg t r es id := by
  induction es with
  | nil =>
    intro id tw tw' h
    simp only [fillTagWeights, Res.ok.injEq] at h
    subst h
    exact ⟨rfl, fun _ => rfl, fun t r => by simp [chunks]⟩
  | cons e es ih =>
    intro id tw tw' h
    rw [fillTagWeights] at h
    split at h
    · rename_i tw1 h1
      obtain ⟨a1, a2, a3⟩ := insert_spec cfg id e.2.tagInfo tw tw1 h1
      obtain ⟨b1, b2, b3⟩ := ih (id + 1) tw1 tw' h
      refine ⟨by rw [b1, a1], fun t => by rw [b2, a2], fun t r => ?_⟩
      rw [b3, a3, chunks, List.append_assoc]
    · cases h
    · cases h
    · cases h

theorem chunks_find (cfg : Cfg) (t r : Nat) (es : List (List α × PWT))
    (hnd : ∀ e ∈ es, (e.2.tagInfo.map Prod.fst).Nodup) :
    ∀ (id0 id : Nat),
      (((chunks cfg t r es id0).reverse.find? (fun e => decide (e.1 = id))).map Prod.snd)
        = if id0 ≤ id then (es[id - id0]?).bind (fun e => (lookupK e.2.tagInfo (t, r)).map (WV.ofList cfg))
          else none := by
  induction es with
  | nil => intro id0 id; simp [chunks]
  | cons e es ih =>
    intro id0 id
    have hch : chunkOf cfg t r e.2.tagInfo id0
        = ((lookupK e.2.tagInfo (t, r)).map fun v => (id0, WV.ofList cfg v)).toList := by
      unfold chunkOf
      rw [filter_key _ (hnd e List.mem_cons_self)]
      cases lookupK e.2.tagInfo (t, r) <;> rfl
    rw [chunks, List.reverse_append, List.find?_append, Option.map_or, ih (fun x hx => hnd x (List.mem_cons_of_mem _ hx)), hch]
    by_cases h1 : id0 + 1 ≤ id
    · rw [if_pos h1, if_pos (by omega)]
      have hidx : id - id0 = (id - (id0 + 1)) + 1 := by omega
      rw [hidx, List.getElem?_cons_succ]
      have hno : (((lookupK e.2.tagInfo (t, r)).map fun v => (id0, WV.ofList cfg v)).toList.reverse.find?
          (fun e => decide (e.1 = id))) = none := by
        cases lookupK e.2.tagInfo (t, r) with
        | none => rfl
        | some v =>
          have : ¬ id0 = id := by omega
          simp [this]
      rw [hno, Option.map_none, Option.or_none]
    · rw [if_neg h1]
      simp only [Option.none_or]
      by_cases h2 : id0 = id
      · subst h2
        rw [if_pos (Nat.le_refl _), Nat.sub_self, List.getElem?_cons_zero]
        show _ = (lookupK e.2.tagInfo (t, r)).map (WV.ofList cfg)
        cases lookupK e.2.tagInfo (t, r) with
        | none => rfl
        | some v => simp
      · rw [if_neg (by omega)]
        cases lookupK e.2.tagInfo (t, r) with
        | none => rfl
        | some v => simp [h2]

theorem cell_replicate (n w t r : Nat) :
    cell (List.replicate n (List.replicate w ([] : List (Nat × WV)))) t r = [] := by
  unfold cell
  rw [List.getElem?_replicate]
  split
  · simp only [Option.getD_some, List.getElem?_replicate]
    split <;> rfl
  · rfl

theorem rowLen_replicate (n w t : Nat) (h : t < n) :
    rowLen (List.replicate n (List.replicate w ([] : List (Nat × WV)))) t = w := by
  unfold rowLen
  rw [List.getElem?_replicate, if_pos h]
  simp

end V.C06L
