import VProofs.Lemmas.ScoreBoundRun
import VProofs.Lemmas.TagToken
import VProofs.Lemmas.Base
/-!
# The mass of a tag model and the bound on the specified tag scores (for the C06 overflow bound)

`TagModel.mass` is the sum of the absolute values of ALL weights of one tag model (bias, character tag n-grams, type tag
n-grams, every relative position, every class); `TagModel.classMass tm c` is the part of it that belongs to class `c`.
A tag n-gram weight vector `w` of an entry `d` is counted for a token at most once (it asks for ONE end position,
`i + w.rel`), so every class score is within the class mass, hence within the mass.  Entries and weight vectors that occur
several times in the lists of the model count with their multiplicity, on both sides.

`WModel.tagMass` is the MAXIMUM of the masses of the tag models: scores and merged weights of different tag models
(`token_id`s) are never added to each other.
-/
namespace V

/-- sum of the absolute values of all weights of a list of tag n-grams -/
def tagNgramMass {α : Type} (tbl : List (TagNgramData α)) : Nat :=
  (tbl.map fun d => (d.weights.map fun w => absSum w.weights).sum).sum

/-- the part of `tagNgramMass` that belongs to class `c` -/
def tagNgramClassMass {α : Type} (tbl : List (TagNgramData α)) (c : Nat) : Nat :=
  (tbl.map fun d => (d.weights.map fun w => (getZ w.weights (c : Int)).natAbs).sum).sum

/-- the mass of one tag model: the absolute values of its bias and of all its tag n-gram weights -/
def TagModel.mass (tm : TagModel) : Nat :=
  absSum tm.bias + tagNgramMass tm.charNgrams + tagNgramMass tm.typeNgrams

/-- the mass of class `c` of one tag model -/
def TagModel.classMass (tm : TagModel) (c : Nat) : Nat :=
  (getZ tm.bias (c : Int)).natAbs + tagNgramClassMass tm.charNgrams c + tagNgramClassMass tm.typeNgrams c

/-- the tag mass of a model: the largest mass of its tag models -/
def WModel.tagMass (m : WModel) : Nat := m.tagModels.foldl (fun acc tm => max acc tm.mass) 0

namespace C06B
open C01L C01B C06L
variable {α : Type} [DecidableEq α]

omit [DecidableEq α] in
theorem classMass_cast (tbl : List (TagNgramData α)) (c : Nat) :
    ((tagNgramClassMass tbl c : Nat) : Int)
      = (tbl.map fun d => (d.weights.map fun w => iabs (getZ w.weights (c : Int))).sum).sum := by
  unfold tagNgramClassMass
  rw [natsum_cast]
  apply isum_map_congr
  intro d _
  rw [natsum_cast]
  rfl

omit [DecidableEq α] in
theorem tagNgramClassMass_le (tbl : List (TagNgramData α)) (c : Nat) : tagNgramClassMass tbl c ≤ tagNgramMass tbl :=
  natsum_map_le _ _ _ fun _ _ => natsum_map_le _ _ _ fun w _ => Int.ofNat_le.mp (iabs_getZ_le w.weights (c : Int))

theorem classMass_le_mass (tm : TagModel) (c : Nat) : tm.classMass c ≤ tm.mass :=
  Nat.add_le_add (Nat.add_le_add (Int.ofNat_le.mp (iabs_getZ_le tm.bias (c : Int))) (tagNgramClassMass_le tm.charNgrams c))
    (tagNgramClassMass_le tm.typeNgrams c)

theorem mass_le_tagMass (m : WModel) (tm : TagModel) (h : tm ∈ m.tagModels) : tm.mass ≤ m.tagMass :=
  (le_foldl_max TagModel.mass m.tagModels 0).2 tm h

theorem tagNgramScore_abs_le (tbl : List (TagNgramData α)) (seq : List α) (i c : Nat) :
    iabs (tagNgramScore tbl seq i c) ≤ ((tagNgramClassMass tbl c : Nat) : Int) := by
  unfold tagNgramScore
  rw [classMass_cast]
  refine Int.le_trans (iabs_sum_map_le _ _) (isum_map_le _ _ _ fun d _ => ?_)
  refine Int.le_trans (iabs_sum_map_le _ _) (isum_map_le _ _ _ fun w _ => ?_)
  split
  · exact Int.le_refl _
  · rw [iabs_zero]; exact iabs_nonneg _

theorem specTagScores_class_le (tm : TagModel) (text : List Char) (i c : Nat) :
    (getZ (specTagScores tm text i) (c : Int)).natAbs ≤ tm.classMass c := by
  by_cases hc : c < nClass tm.tags
  · rw [specTagScores_getZ tm text i c hc]
    exact natAbs_add_le _ _ _ _ (natAbs_add_le _ _ _ _ (Nat.le_refl _) (tagNgramScore_abs_le tm.charNgrams text i c))
      (tagNgramScore_abs_le tm.typeNgrams (typesOf text) i c)
  · rw [getZ_ge _ _ (by rw [specTagScores_length]; omega)]
    exact Nat.zero_le _

end C06B
end V
