import VProofs.Lemmas.KyTrie
import VProofs.Lemmas.BinVarint
/-!
# C17 — sizes: every count of a file shorter than 4 GiB is a `u32`

Each count is bounded by the length of its dictionary's encoding, and each dictionary is a sublist of the file.
-/
namespace V.C17L
open V V.Ky List
open V.Bin (Bytes leBytes)

theorem encU8_length (n : Nat) : (encU8 n).length = 1 := BinL.leBytes_length 1 n
theorem encU32_length (n : Nat) : (encU32 n).length = 4 := BinL.leBytes_length 4 n

theorem encVecOf_length {α : Type} (e : α → Bytes) (xs : List α) :
    (encVecOf e xs).length = 4 + (xs.flatMap e).length := by
  simp only [encVecOf, List.length_append, encU32_length]

theorem length_le_encVecOf {α : Type} {e : α → Bytes} (hne : ∀ v, 1 ≤ (e v).length) (xs : List α) :
    xs.length ≤ (encVecOf e xs).length := by
  rw [encVecOf_length]
  exact Nat.le_trans (BinL.length_le_encList hne xs) (Nat.le_add_left _ _)

theorem mem_length_le_encVecOf {α : Type} (e : α → Bytes) {x : α} {xs : List α} (hx : x ∈ xs) :
    (e x).length ≤ (encVecOf e xs).length := by
  rw [encVecOf_length]
  exact Nat.le_trans (BinL.mem_length_le_encList e hx) (Nat.le_add_left _ _)

theorem length_le_encI16s (v : List Int) : v.length ≤ (encI16s v).length :=
  length_le_encVecOf (fun x => by rw [encI16, BinL.leBytes_length]; decide) v

theorem length_le_encStr (cm : List Char) (s : List Char) : s.length ≤ (encStr cm s).length :=
  length_le_encVecOf (fun c => by rw [encChar, encU16, BinL.leBytes_length]; decide) s

theorem encState_length_pos (cm : List Char) (st : KState) : 1 ≤ (encState cm st).length := by
  simp only [encState, List.length_append, encU8_length]
  exact Nat.le_add_left _ _

theorem encDict_bounds {τ : Type} (cm : List Char) (nD : Nat) (keys : List (List Char)) (e : τ → Bytes)
    (entries : List τ) :
    (trieStates keys).length ≤ (encDict cm nD keys e entries).length ∧
    (keys ≠ [] → (encVecOf e entries).length ≤ (encDict cm nD keys e entries).length) := by
  by_cases hk : keys = []
  · subst hk
    exact ⟨by rw [encDict_nil, List.length_append, encU8_length]; exact Nat.le_add_right 1 _, fun h => absurd rfl h⟩
  · rw [encDict_ne_nil cm nD hk]
    simp only [List.length_append]
    have : (trieStates keys).length ≤ ((trieStates keys).flatMap (encState cm)).length :=
      BinL.length_le_encList (encState_length_pos cm) (trieStates keys)
    exact ⟨by omega, fun _ => Nat.le_add_left _ _⟩

theorem ngram_bounds (cm : List Char) (l : List (List Char × List Int)) (hne : l ≠ []) :
    l.length ≤ (encDict cm 0 (l.map (·.1)) encI16s (l.map (·.2))).length ∧
    ∀ e ∈ l, e.2.length ≤ (encDict cm 0 (l.map (·.1)) encI16s (l.map (·.2))).length := by
  have h1 := (encDict_bounds cm 0 (l.map (·.1)) encI16s (l.map (·.2))).2 (mt List.map_eq_nil_iff.1 hne)
  constructor
  · have := length_le_encVecOf (e := encI16s)
      (fun v => by rw [encI16s, encVecOf_length]; omega) (l.map (·.2))
    rw [List.length_map] at this
    exact Nat.le_trans this h1
  · intro e he
    have h2 := mem_length_le_encVecOf encI16s (List.mem_map.2 ⟨e, he, rfl⟩ : e.2 ∈ l.map (·.2))
    exact Nat.le_trans (length_le_encI16s e.2) (Nat.le_trans h2 h1)

theorem word_bounds (k : AbsKytea) (hne : k.words ≠ []) :
    k.words.length ≤ (encDict k.charMap k.nDicts (k.words.map (·.1)) (encTagEntry k) k.words).length ∧
    ∀ e ∈ k.words, e.1.length ≤ (encDict k.charMap k.nDicts (k.words.map (·.1)) (encTagEntry k) k.words).length := by
  have h1 := (encDict_bounds k.charMap k.nDicts (k.words.map (·.1)) (encTagEntry k) k.words).2
    (mt List.map_eq_nil_iff.1 hne)
  have hstr : ∀ e, (encStr k.charMap e.1).length ≤ (encTagEntry k e).length := by
    intro e
    simp only [encTagEntry, List.length_append]
    omega
  constructor
  · refine Nat.le_trans (length_le_encVecOf (fun e => ?_) k.words) h1
    simp only [encTagEntry, List.length_append, encU8_length]
    omega
  · intro e he
    exact Nat.le_trans (length_le_encStr k.charMap e.1)
      (Nat.le_trans (hstr e) (Nat.le_trans (mem_length_le_encVecOf (encTagEntry k) he) h1))

theorem lookup_part (k : AbsKytea) : encLookup k <+ encodeKytea k := by
  unfold encodeKytea encWordseg
  exact sublist_append_of_sublist_left (sublist_append_of_sublist_left (sublist_append_of_sublist_left
    (sublist_append_of_sublist_right (sublist_append_right _ _))))

theorem file_parts (k : AbsKytea) :
    encDict k.charMap 0 (k.charNgrams.map (·.1)) encI16s (k.charNgrams.map (·.2)) <+ encodeKytea k ∧
    encDict k.charMap 0 (k.typeNgrams.map (·.1)) encI16s (k.typeNgrams.map (·.2)) <+ encodeKytea k ∧
    encI16s k.dictVec <+ encodeKytea k ∧
    encDict k.charMap k.nDicts (k.words.map (·.1)) (encTagEntry k) k.words <+ encodeKytea k := by
  refine ⟨.trans ?_ (lookup_part k), .trans ?_ (lookup_part k), .trans ?_ (lookup_part k), ?_⟩
  · exact sublist_append_of_sublist_left (sublist_append_of_sublist_left (sublist_append_of_sublist_left
      (sublist_append_of_sublist_left (sublist_append_of_sublist_left (sublist_append_of_sublist_left
        (sublist_append_right _ _))))))
  · exact sublist_append_of_sublist_left (sublist_append_of_sublist_left (sublist_append_of_sublist_left
      (sublist_append_of_sublist_left (sublist_append_of_sublist_left (sublist_append_right _ _)))))
  · exact sublist_append_of_sublist_left (sublist_append_of_sublist_left (sublist_append_of_sublist_left
      (sublist_append_right _ _)))
  · exact sublist_append_of_sublist_left (sublist_append_right _ _)

theorem trieFuel_le (k : AbsKytea) : trieFuel k ≤ (encodeKytea k).length := by
  obtain ⟨hc, ht, _, hw⟩ := file_parts k
  exact Nat.max_le.2 ⟨Nat.le_trans (encDict_bounds ..).1 hc.length_le,
    Nat.max_le.2 ⟨Nat.le_trans (encDict_bounds ..).1 ht.length_le, Nat.le_trans (encDict_bounds ..).1 hw.length_le⟩⟩

end V.C17L
