import VProofs.Lemmas.TagMerge
import VProofs.Lemmas.PermTagInfo
import VProofs.Lemmas.ScoreNew
/-!
# C06 helpers: predictor construction with arbitrary `tag_info` iteration orders

`Predictor.newG add' shuf` is `Predictor.new` in which
* every `+=` of two `PositionalWeightWithTag`s (in `merger.add` and in `merger.merge`) is performed by `add'`, ANY function that
  returns `PWT.add`'s map with its entries listed in some other order (the order may depend on both arguments in any way), and
* the `tag_info` of every merged pattern is iterated in the order `shuf` puts it in (again any order),
so that `Predictor.newG PWT.add id = Predictor.new`.  Theorem `new_sim`: the two constructions give the same outcome.
-/
namespace V
variable {α : Type} [DecidableEq α]

/-- `add'` computes `PWT.add` up to the listing order of the `tagInfo` map -/
abbrev AddLike (add' : PWT → PWT → PWT) : Prop :=
  ∀ a b : PWT, (a.tagInfo.map Prod.fst).Nodup → (b.tagInfo.map Prod.fst).Nodup → (a.add b).equiv (add' a b)

/-- `shuf` only changes the listing order of the `tagInfo` map -/
abbrev ShufLike (shuf : PWT → PWT) : Prop := ∀ a : PWT, (a.tagInfo.map Prod.fst).Nodup → a.equiv (shuf a)

def buildBoundaryTagG (add' : PWT → PWT → PWT) (shuf : PWT → PWT) (cfg : Cfg) (window nTagModels : Nat)
    (entries : List (List α × PWT)) : Res (PmaScorer α) :=
  let merged := (Merge.mergeEntries add' PWT.empty entries).map fun e => (e.1, shuf e.2)
  let pats := merged.map Prod.fst
  let nRel := entries.foldl (fun acc e => e.2.tagInfo.foldl (fun a kv => max a (kv.1.2 + 1)) acc) (window + 1)
  let table := List.replicate nTagModels (List.replicate nRel ([] : List (Nat × WV)))
  (fillTagWeights cfg merged 0 table).bind fun tw =>
    if pmaBuildOk pats then
      .ok { pats := pats, weights := merged.map fun e => e.2.weight.map (·.toPWV cfg), tagWeight := some tw }
    else .err .invalidModel

def charScorerNewG (add' : PWT → PWT → PWT) (shuf : PWT → PWT) (cfg : Cfg) (m : WModel)
    (tagNgrams : List (List (TagNgramData Char))) : Res (Option (PmaScorer Char)) :=
  let noTagNgrams := !cfg.tagPred || tagNgrams.all (·.isEmpty)
  let m : WModel := if m.charW = 0 then { m with charNgrams := [] } else m
  if m.charNgrams.isEmpty && m.dict.isEmpty && noTagNgrams then .ok none
  else if m.dict.any (fun d => 32767 < d.word.length) then .err .invalidModel
  else
    let off : Int := -(m.charW : Int)
    if cfg.tagPred && !tagNgrams.isEmpty then
      let es := m.charNgrams.map (fun d => (d.ngram, ({ weight := some ⟨off, d.weights⟩, tagInfo := [] } : PWT)))
        ++ m.dict.map (fun d => (d.word, ({ weight := some ⟨-(d.word.length : Int), d.weights⟩, tagInfo := [] } : PWT)))
        ++ tagEntries tagNgrams
      (buildBoundaryTagG add' shuf cfg m.charW tagNgrams.length (addAll add' es [])).map some
    else
      let es := m.charNgrams.map (fun d => (d.ngram, (⟨off, d.weights⟩ : PW)))
        ++ m.dict.map (fun d => (d.word, (⟨-(d.word.length : Int), d.weights⟩ : PW)))
      (buildBoundary cfg (addAll PW.add es [])).map some

def typeScorerNewG (add' : PWT → PWT → PWT) (shuf : PWT → PWT) (cfg : Cfg) (m : WModel)
    (tagNgrams : List (List (TagNgramData Nat))) : Res (Option TypeScorer) :=
  let noTagNgrams := !cfg.tagPred || tagNgrams.all (·.isEmpty)
  let m : WModel := if m.typeW = 0 then { m with typeNgrams := [] } else m
  if m.typeNgrams.isEmpty && noTagNgrams then .ok none
  else
    let off : Int := -(m.typeW : Int)
    if cfg.tagPred && !tagNgrams.isEmpty then
      let es := m.typeNgrams.map (fun d => (d.ngram, ({ weight := some ⟨off, d.weights⟩, tagInfo := [] } : PWT)))
        ++ tagEntries tagNgrams
      (buildBoundaryTagG add' shuf cfg m.typeW tagNgrams.length (addAll add' es [])).map fun s => some (.pma s)
    else if cfg.cache && m.typeW ≤ 3 then
      if pmaBuildOk (m.typeNgrams.map (·.ngram)) then .ok (some (.cache m.typeNgrams m.typeW)) else .err .invalidModel
    else
      let es := m.typeNgrams.map (fun d => (d.ngram, (⟨off, d.weights⟩ : PW)))
      (buildBoundary cfg (addAll PW.add es [])).map fun s => some (.pma s)

def Predictor.newG (add' : PWT → PWT → PWT) (shuf : PWT → PWT) (cfg : Cfg) (m : WModel) (predictTags : Bool) :
    Res Predictor :=
  if predictTags && !cfg.tagPred then .panic "tag prediction is unsupported" else
  let useTags := predictTags && cfg.tagPred
  let tagPredictor := if useTags then
      some ((m.tagModels.zipIdx).map fun (tm, i) => (tm.token, i, ({ tags := tm.tags, bias := WV.ofList cfg tm.bias } : TagPredictor)))
    else none
  let nTags := if useTags then m.tagModels.foldl (fun acc tm => max acc tm.tags.length) 0 else 0
  let tagChar := if useTags then m.tagModels.map (·.charNgrams) else []
  let tagType := if useTags then m.tagModels.map (·.typeNgrams) else []
  (charScorerNewG add' shuf cfg m tagChar).bind fun cs =>
    (typeScorerNewG add' shuf cfg m tagType).bind fun ts =>
      .ok { charScorer := cs, typeScorer := ts, bias := m.bias, tagPredictor := tagPredictor,
            nTags := nTags, storeTagScores := false }

end V

namespace V.C06L
open V V.PermL
variable {α : Type} [DecidableEq α]

theorem buildBoundaryTagG_id (cfg : Cfg) (window nTagModels : Nat) (es : List (List α × PWT)) :
    buildBoundaryTagG PWT.add id cfg window nTagModels es = buildBoundaryTag cfg window nTagModels es := by
  unfold buildBoundaryTagG buildBoundaryTag
  simp only [id_eq, Prod.eta, List.map_id']
  cases fillTagWeights cfg _ 0 _ <;> rfl

omit [DecidableEq α] in
theorem nRel_rel {es es' : List (List α × PWT)} (h : ListRel (ERel PWT.equiv) es es') : ∀ init : Nat,
    es.foldl (fun acc e => e.2.tagInfo.foldl (fun a kv => max a (kv.1.2 + 1)) acc) init
      = es'.foldl (fun acc e => e.2.tagInfo.foldl (fun a kv => max a (kv.1.2 + 1)) acc) init := by
  induction h with
  | nil => intro _; rfl
  | cons hab _ ih =>
    intro init
    rw [List.foldl_cons, List.foldl_cons,
      hab.2.2.1.foldl_eq' (fun x _ y _ z => Nat.max_right_comm z (x.1.2 + 1) (y.1.2 + 1)) init]
    exact ih _

theorem hadd_of_addLike {add' : PWT → PWT → PWT} (h : AddLike add') :
    ∀ a a' b b', PWT.equiv a a' → PWT.equiv b b' → PWT.equiv (PWT.add a b) (add' a' b') := by
  intro a a' b b' ha hb
  exact equiv_trans (add_equiv ha hb) (h a' b' (equiv_nodup_right ha) (equiv_nodup_right hb))

theorem buildBoundaryTagG_sim {add' : PWT → PWT → PWT} {shuf : PWT → PWT} (hadd : AddLike add') (hshuf : ShufLike shuf)
    (cfg : Cfg) (window nTagModels : Nat) {es es' : List (List α × PWT)} (h : ListRel (ERel PWT.equiv) es es') :
    ResSim (buildBoundaryTag cfg window nTagModels es) (buildBoundaryTagG add' shuf cfg window nTagModels es') := by
  have hm := (mergeEntries_rel PWT.equiv PWT.add add' (hadd_of_addLike hadd) PWT.empty PWT.empty equiv_empty h).map_right
    (fun e => (e.1, shuf e.2)) fun a b hab => ⟨hab.1, equiv_trans hab.2 (hshuf b.2 (equiv_nodup_right hab.2))⟩
  rw [← buildBoundaryTagG_id]
  unfold buildBoundaryTagG
  simp only [id_eq, Prod.eta, List.map_id']
  rw [← hm.map_eq Prod.fst Prod.fst fun _ _ hab => hab.1,
    ← hm.map_eq (fun e => e.2.weight.map (·.toPWV cfg)) (fun e => e.2.weight.map (·.toPWV cfg)) fun _ _ hab => by rw [hab.2.1],
    ← nRel_rel h]
  exact (fill_perm cfg hm 0 _).bind _

omit [DecidableEq α] in
theorem tagEntries_selfEquiv (T : List (List (TagNgramData α))) : ∀ e ∈ tagEntries T, PWT.equiv e.2 e.2 := by
  intro e he
  obtain ⟨i, tm, d, w, _, _, _, rfl⟩ := mem_tagEntries T e he
  exact equiv_refl _ (by simp)

theorem addAll_sim {add' : PWT → PWT → PWT} (hadd : AddLike add') (es : List (List α × PWT))
    (hes : ∀ e ∈ es, PWT.equiv e.2 e.2) :
    ListRel (ERel PWT.equiv) (addAll PWT.add es []) (addAll add' es []) :=
  addAll_rel PWT.equiv PWT.add add' (hadd_of_addLike hadd) (ListRel.refl_of es fun e he => ⟨rfl, hes e he⟩) .nil

/-- `rG` (a scorer constructor) either hands entries whose `tag_info` maps have distinct keys to the tag-aware builder and wraps
the scorer it returns, or does not touch a `tag_info` map at all (and then builds no `tag_weight` table) -/
def TagShaped {σ : Type} (cfg : Cfg) (wrap : PmaScorer α → σ) (rG : (PWT → PWT → PWT) → (PWT → PWT) → Res σ) : Prop :=
  (∃ w n es, (∀ e ∈ es, PWT.equiv e.2 e.2) ∧
    ∀ add' shuf, rG add' shuf = (buildBoundaryTagG add' shuf cfg w n (addAll add' es [])).map wrap) ∨
  ∃ r, (∀ add' shuf, rG add' shuf = r) ∧ ∀ sc, r = .ok (wrap sc) → sc.tagWeight = none

variable {σ : Type} {cfg : Cfg} {wrap : PmaScorer α → σ}

theorem TagShaped.sim {rG : (PWT → PWT → PWT) → (PWT → PWT) → Res σ} (h : TagShaped cfg wrap rG) {add' : PWT → PWT → PWT} {shuf : PWT → PWT} (hadd : AddLike add') (hshuf : ShufLike shuf) :
    ResSim (rG PWT.add id) (rG add' shuf) := by
  rcases h with ⟨w, n, es, hes, h⟩ | ⟨r, h, _⟩
  · rw [h PWT.add id, h add' shuf, buildBoundaryTagG_id]
    exact (buildBoundaryTagG_sim hadd hshuf cfg w n (addAll_sim hadd es hes)).map wrap
  · rw [h, h]
    exact ResSim.refl r

variable (cfg) in
theorem TagShaped.const (r : Res σ)
    (h : ∀ sc, r = .ok (wrap sc) → sc.tagWeight = none) : TagShaped cfg wrap fun _ _ => r :=
  Or.inr ⟨r, fun _ _ => rfl, h⟩

theorem TagShaped.ite (c : Prop) [Decidable c]
    {f g : (PWT → PWT → PWT) → (PWT → PWT) → Res σ} (hf : TagShaped cfg wrap f) (hg : TagShaped cfg wrap g) :
    TagShaped cfg wrap fun add' shuf => if c then f add' shuf else g add' shuf := by
  by_cases hc : c
  · simp only [if_pos hc]; exact hf
  · simp only [if_neg hc]; exact hg

variable (cfg) in
theorem TagShaped.plain (hw : ∀ a b, wrap a = wrap b → a = b)
    (es : List (List α × PW)) : TagShaped cfg wrap fun _ _ => (buildBoundary cfg es).map wrap := by
  refine .const cfg _ fun sc h => ?_
  obtain ⟨sc', h', e⟩ := Res.map_eq_ok h
  cases hw _ _ e
  exact C01L.buildBoundary_tagWeight cfg es sc h'

omit [DecidableEq α] in
theorem plainEntries_selfEquiv {β : Type} (l : List β) (k : β → List α) (pw : β → PW) :
    ∀ e ∈ l.map (fun d => (k d, ({ weight := some (pw d), tagInfo := [] } : PWT))), PWT.equiv e.2 e.2 := by
  intro e he
  obtain ⟨d, _, rfl⟩ := List.mem_map.mp he
  exact equiv_refl _ List.nodup_nil

omit [DecidableEq α] in
theorem append_selfEquiv {es es' : List (List α × PWT)} (h : ∀ e ∈ es, PWT.equiv e.2 e.2) (h' : ∀ e ∈ es', PWT.equiv e.2 e.2) :
    ∀ e ∈ es ++ es', PWT.equiv e.2 e.2 :=
  fun e he => (List.mem_append.mp he).elim (h e) (h' e)

theorem charScorerNewG_shaped (cfg : Cfg) (m : WModel) (T : List (List (TagNgramData Char))) :
    TagShaped cfg some fun add' shuf => charScorerNewG add' shuf cfg m T :=
  .ite _ (.const cfg _ fun _ h => nomatch h) <| .ite _ (.const cfg _ fun _ h => nomatch h) <|
    .ite _ (Or.inl ⟨_, _, _, append_selfEquiv (append_selfEquiv (plainEntries_selfEquiv _ _ _) (plainEntries_selfEquiv _ _ _))
      (tagEntries_selfEquiv T), fun _ _ => rfl⟩) (.plain cfg (fun _ _ => Option.some.inj) _)

theorem typeScorerNewG_shaped (cfg : Cfg) (m : WModel) (T : List (List (TagNgramData Nat))) :
    TagShaped cfg (fun s => some (.pma s)) fun add' shuf => typeScorerNewG add' shuf cfg m T :=
  .ite _ (.const cfg _ fun _ h => nomatch h) <|
    .ite _ (Or.inl ⟨_, _, _, append_selfEquiv (plainEntries_selfEquiv _ _ _) (tagEntries_selfEquiv T), fun _ _ => rfl⟩) <|
      .ite _ (.ite _ (.const cfg _ fun _ h => nomatch h) (.const cfg _ fun _ h => nomatch h))
        (.plain cfg (fun _ _ h => TypeScorer.pma.inj (Option.some.inj h)) _)

theorem charScorerNewG_id (cfg : Cfg) (m : WModel) (T : List (List (TagNgramData Char))) :
    charScorerNewG PWT.add id cfg m T = charScorerNew cfg m T := by
  unfold charScorerNewG charScorerNew
  simp only [buildBoundaryTagG_id]

theorem typeScorerNewG_id (cfg : Cfg) (m : WModel) (T : List (List (TagNgramData Nat))) :
    typeScorerNewG PWT.add id cfg m T = typeScorerNew cfg m T := by
  unfold typeScorerNewG typeScorerNew
  simp only [buildBoundaryTagG_id]

theorem newG_id (cfg : Cfg) (m : WModel) (predictTags : Bool) :
    Predictor.newG PWT.add id cfg m predictTags = Predictor.new cfg m predictTags := by
  unfold Predictor.newG
  rw [funext (charScorerNewG_id cfg m), funext (typeScorerNewG_id cfg m)]
  unfold Predictor.new
  refine ite_congr rfl (fun _ => rfl) fun _ => ?_
  simp only
  cases charScorerNew cfg m _ with
  | ok cs => cases typeScorerNew cfg m _ <;> rfl
  | err _ => rfl
  | panic _ => rfl
  | ub _ => rfl

theorem new_sim {add' : PWT → PWT → PWT} {shuf : PWT → PWT} (hadd : AddLike add') (hshuf : ShufLike shuf)
    (cfg : Cfg) (m : WModel) (predictTags : Bool) :
    ResSim (Predictor.new cfg m predictTags) (Predictor.newG add' shuf cfg m predictTags) := by
  rw [← newG_id]
  exact .ite _ (.refl _) <| ((charScorerNewG_shaped cfg m _).sim hadd hshuf).bind2 fun cs =>
    ((typeScorerNewG_shaped cfg m _).sim hadd hshuf).bind2 fun ts => .refl _

theorem addLike_add : AddLike PWT.add := fun a b ha hb => add_equiv (equiv_refl a ha) (equiv_refl b hb)

theorem addLike_of_perm (π : TI → TI) (hπ : ∀ l, (π l).Perm l) :
    AddLike fun a b => { a.add b with tagInfo := π (a.add b).tagInfo } := by
  intro a b ha _
  refine ⟨rfl, (hπ _).symm, ?_⟩
  rw [PWT_add_tagInfo]
  exact fold_nodup _ _ ha

theorem shufLike_of_perm (π : TI → TI) (hπ : ∀ l, (π l).Perm l) : ShufLike fun a => { a with tagInfo := π a.tagInfo } := by
  intro a ha
  exact ⟨rfl, (hπ _).symm, ha⟩

end V.C06L
