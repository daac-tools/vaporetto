import VProofs.Lemmas.TagBoundSpec
import VProofs.Lemmas.TagFinal
/-!
# The tag score vector of a token stays within the mass of its tag model after any number of positions
(for the C06 overflow bound)

`tagToken` computes the class scores of a token in three phases: the bias (`tp.bias.add_scores`), the character scorer's
`add_tag_scores` and the type scorer's `add_tag_scores`; the last two are the loop `pmaAddTagScores.go` over the recorded
automaton states from the token's last character on, zipped with the rows `rel = 0, 1, …` of the token's part of the table
`tag_weight`.  This file bounds the vector after ANY prefix of that loop.
-/
namespace V

/-- the character phase of `tagToken` (`r2`) -/
def tagCharPhase (p : Predictor) (tid i : Nat) (s : Sentence) (sc1 : List Int) : Res (List Int) :=
  match p.charScorer with
  | some sc => pmaAddTagScores sc tid i s.cstates sc1
  | none => .ok sc1

/-- the type phase of `tagToken` (`r3`) -/
def tagTypePhase (p : Predictor) (tid i : Nat) (s : Sentence) (sc2 : List Int) : Res (List Int) :=
  match p.typeScorer with
  | some ts => typeAddTagScores ts tid i s.tstates sc2
  | none => .ok sc2

/-- one `add_tag_scores` pass of the scorer `sc` over the states `states`, started from the vector `sc0`: the pass is the loop
`pmaAddTagScores.go` over `states.drop i` and the rows of token `tid`; stopped after any number `k` of positions it has not failed
and every entry of the vector satisfies `Q` -/
def TagPassWithin {α : Type} (Q : Int → Bool) (sc : PmaScorer α) (tid i : Nat) (states : List (Option Nat)) (sc0 : List Int) :
    Prop :=
  ∃ tw row, sc.tagWeight = some tw ∧ tw[tid]? = some row ∧
    pmaAddTagScores sc tid i states sc0 = pmaAddTagScores.go (states.drop i) row sc0 ∧
    ∀ k, ∃ r, pmaAddTagScores.go ((states.drop i).take k) row sc0 = .ok r ∧ ∀ x ∈ r, Q x = true

/-- all values the tag score vector of one token holds during `tagToken` satisfy `Q`: the vector `sc1` after the bias; from `sc1`,
the vector after any prefix of the positions of the character pass; the vector `sc2` the character pass leaves; from `sc2`, the
vector after any prefix of the positions of the type pass; and the final vector `fin` -/
def TagRunWithin (Q : Int → Bool) (p : Predictor) (s : Sentence) (tid : Nat) (tp : TagPredictor) (i : Nat) (fin : List Int) :
    Prop :=
  ∃ sc1 sc2, tp.bias.addScores (List.replicate tp.bias.len 0) = .ok sc1 ∧ (∀ x ∈ sc1, Q x = true) ∧
    (∀ sc, p.charScorer = some sc → TagPassWithin Q sc tid i s.cstates sc1) ∧
    tagCharPhase p tid i s sc1 = .ok sc2 ∧ (∀ x ∈ sc2, Q x = true) ∧
    (∀ sc, p.typeScorer = some (.pma sc) → TagPassWithin Q sc tid i s.tstates sc2) ∧
    (∀ ng w, p.typeScorer ≠ some (.cache ng w)) ∧
    tagTypePhase p tid i s sc2 = .ok fin ∧ (∀ x ∈ fin, Q x = true)

namespace C06B
open C01L C01B C06L
variable {α : Type} [DecidableEq α]

omit [DecidableEq α] in
theorem pmaAddTagScores_eq_go (sc : PmaScorer α) (tid pos : Nat) (states : List (Option Nat)) (scores : List Int)
    (tw : List (List (List (Nat × WV)))) (row : List (List (Nat × WV)))
    (h1 : sc.tagWeight = some tw) (h2 : tw[tid]? = some row) (h3 : pos ≤ states.length) :
    pmaAddTagScores sc tid pos states scores = pmaAddTagScores.go (states.drop pos) row scores := by
  unfold pmaAddTagScores
  rw [h1]
  simp only [h2]
  rw [if_neg (by omega)]

theorem within_of_class (Q : Int → Bool) (M : Nat) (hQ : ∀ x : Int, x.natAbs ≤ M → Q x = true) (r : List Int)
    (h : ∀ c : Nat, iabs (getZ r (c : Int)) ≤ ((M : Nat) : Int)) : ∀ x ∈ r, Q x = true := by
  intro x hx
  obtain ⟨j, _, rfl⟩ := mem_getD r x hx
  apply hQ
  rw [← getZ_nat]
  exact (iabs_le_iff _ _).mp (h j)

theorem statesOf_take (pats : List (List α)) (seq : List α) (n : Nat) :
    statesOf pats (seq.take n) = (statesOf pats seq).take n := by
  unfold statesOf
  rw [← List.map_take, List.take_range, List.length_take]
  apply List.map_congr_left
  intro k hk
  have := List.mem_range.mp hk
  rw [List.take_take, Nat.min_eq_left (by omega)]

/-- The pass stopped after `k` positions is the whole pass over the first `i + k` characters, which adds the specified tag n-gram
scores of that shorter text: class `c` has moved by at most the class mass of the token's tag n-grams of this kind.  `states` are
the states `predict` recorded, `r` is what the whole pass leaves. -/
theorem tagPass_within (Q : Int → Bool) (M : Nat) (hQ : ∀ x : Int, x.natAbs ≤ M → Q x = true)
    (cfg : Cfg) (window : Nat) (T : List (List (TagNgramData α))) (L : Nat → Nat)
    (sc : PmaScorer α) (hsc : TagScorerOK cfg window T L sc)
    (tid : Nat) (tm : List (TagNgramData α)) (htid : T[tid]? = some tm)
    (seq : List α) (i : Nat) (hi : i ≤ seq.length) (sc0 : List Int) (hs : sc0.length = vlen cfg (L tid))
    (b : Nat → Nat) (hb0 : ∀ c : Nat, iabs (getZ sc0 (c : Int)) ≤ ((b c : Nat) : Int))
    (hM : ∀ c, b c + tagNgramClassMass tm c ≤ M)
    (states : List (Option Nat)) (hst : states = statesOf sc.pats seq)
    (r : List Int) (hr : pmaAddTagScores sc tid i states sc0 = .ok r) :
    TagPassWithin Q sc tid i states sc0 ∧ r.length = sc0.length ∧
      ∀ c : Nat, iabs (getZ r (c : Int)) ≤ ((b c + tagNgramClassMass tm c : Nat) : Int) := by
  subst hst
  obtain ⟨tw, _, _, h1, h2, _⟩ := id hsc
  have hlt : tid < tw.length := h2 ▸ (List.getElem?_eq_some_iff.mp htid).1
  have hrow : tw[tid]? = some tw[tid] := List.getElem?_eq_getElem hlt
  have h3 := pmaAddTagScores_eq_go sc tid i _ sc0 tw _ h1 hrow ((statesOf_length sc.pats seq).symm ▸ hi)
  have hcl : ∀ k, ∃ r, pmaAddTagScores.go (((statesOf sc.pats seq).drop i).take k) tw[tid] sc0 = .ok r ∧
      r.length = sc0.length ∧
      ∀ c : Nat, iabs (getZ r (c : Int)) ≤ ((b c + tagNgramClassMass tm c : Nat) : Int) := by
    intro k
    have hik : i ≤ (seq.take (i + k)).length := by rw [List.length_take]; omega
    obtain ⟨r, g1, g2, g3⟩ := pmaAddTagScores_spec cfg window T L sc hsc tid tm htid (seq.take (i + k)) i hik sc0 hs
    rw [pmaAddTagScores_eq_go sc tid i _ sc0 tw _ h1 hrow ((statesOf_length sc.pats _).symm ▸ hik), statesOf_take, List.drop_take,
      Nat.add_sub_cancel_left] at g1
    refine ⟨r, g1, g2, fun c => ?_⟩
    rw [g3 c, Int.natCast_add]
    exact Int.le_trans (iabs_add_le _ _) (Int.add_le_add (hb0 c) (tagNgramScore_abs_le tm _ i c))
  refine ⟨⟨tw, tw[tid], h1, hrow, h3, fun k => ?_⟩, ?_⟩
  · obtain ⟨r, g1, _, g3⟩ := hcl k
    exact ⟨r, g1, within_of_class Q M hQ r fun c => Int.le_trans (g3 c) (Int.ofNat_le.mpr (hM c))⟩
  · obtain ⟨r', g1, g2, g3⟩ := hcl ((statesOf sc.pats seq).drop i).length
    rw [List.take_length, ← h3, hr] at g1
    cases g1
    exact ⟨g2, g3⟩

/-- the final vector `scoreVec cfg tm text i` is the one `fill_tags` picks the tags from and stores in `tag_scores` -/
theorem run_within_tag (cfg : Cfg) (m : WModel) (p : Predictor) (hP : PredOK cfg m p) (hW : WFT m)
    (text : List Char) (s : Sentence) (hs : StOK p text s) (tid : Nat) (tm : TagModel)
    (htid : m.tagModels[tid]? = some tm) (i : Nat) (hi : i < text.length)
    (Q : Int → Bool) (hQ : ∀ x : Int, x.natAbs ≤ tm.mass → Q x = true) :
    TagRunWithin Q p s tid (mkTP cfg tm) i (scoreVec cfg tm text i) := by
  have hK := Lm_eq m tid tm htid
  have hbl := hW.bias_len tm (List.mem_of_getElem? htid)
  obtain ⟨sc1, sc2, e1, hphase2, hphase3⟩ := tagScore_phases cfg m p hP hW text s hs tid tm htid i hi
  change tagCharPhase p tid i s sc1 = .ok sc2 at hphase2
  change tagTypePhase p tid i s sc2 = .ok (scoreVec cfg tm text i) at hphase3
  -- the class masses after the bias, after the character pass, after the type pass
  let b1 : Nat → Nat := fun c => (getZ tm.bias (c : Int)).natAbs
  let b2 : Nat → Nat := fun c => b1 c + tagNgramClassMass tm.charNgrams c
  have hm3 : ∀ c : Nat, b2 c + tagNgramClassMass tm.typeNgrams c ≤ tm.mass := fun c => classMass_le_mass tm c
  have hm2 : ∀ c : Nat, b2 c ≤ tm.mass := fun c => Nat.le_trans (Nat.le_add_right _ _) (hm3 c)
  have hm1 : ∀ c : Nat, b1 c ≤ tm.mass := fun c => Nat.le_trans (Nat.le_add_right _ _) (hm2 c)
  have hlen0 : (mkTP cfg tm).bias.len = vlen cfg (nClass tm.tags) := by
    show (WV.ofList cfg tm.bias).len = _
    rw [ofList_len, hbl]
  obtain ⟨sc1', a1, a2, a3⟩ := ofList_addScores cfg (nClass tm.tags) tm.bias
    (List.replicate (mkTP cfg tm).bias.len 0) hbl (by rw [List.length_replicate, hlen0])
  obtain rfl : sc1' = sc1 := Res.ok.inj (a1.symm.trans e1)
  have hl1 : sc1'.length = vlen cfg (nClass tm.tags) := by rw [a2, List.length_replicate, hlen0]
  have hb1 : ∀ c : Nat, iabs (getZ sc1' (c : Int)) ≤ ((b1 c : Nat) : Int) := by
    intro c
    rw [a3 c, getZ_replicate, Int.zero_add]
    exact Int.le_refl _
  have hchar : (∀ sc, p.charScorer = some sc → TagPassWithin Q sc tid i s.cstates sc1') ∧
      sc2.length = sc1'.length ∧ ∀ c : Nat, iabs (getZ sc2 (c : Int)) ≤ ((b2 c : Nat) : Int) := by
    have e2 := hphase2
    unfold tagCharPhase at e2
    rcases hP.cs with ⟨h1, _⟩ | ⟨sc, h1, h2⟩ <;> rw [h1] at e2
    · cases e2
      exact ⟨fun sc hsc => (nomatch h1.symm.trans hsc), rfl,
        fun c => Int.le_trans (hb1 c) (Int.ofNat_le.mpr (Nat.le_add_right _ _))⟩
    · obtain ⟨g1, g3, g4⟩ := tagPass_within Q tm.mass hQ cfg m.charW _ (Lm m) sc h2 tid tm.charNgrams
        (by rw [List.getElem?_map, htid]; rfl) text i (Nat.le_of_lt hi) sc1' (by rw [hK, hl1]) b1 hb1 hm2
        s.cstates (hs.cst sc h1) sc2 e2
      exact ⟨fun sc' hsc' => by cases h1.symm.trans hsc'; exact g1, g3, g4⟩
  obtain ⟨c1, c2, c3⟩ := hchar
  have htype : (∀ sc, p.typeScorer = some (.pma sc) → TagPassWithin Q sc tid i s.tstates sc2) ∧
      (∀ ng w, p.typeScorer ≠ some (.cache ng w)) ∧
      ∀ c : Nat, iabs (getZ (scoreVec cfg tm text i) (c : Int)) ≤ ((tm.mass : Nat) : Int) := by
    have e3 := hphase3
    unfold tagTypePhase at e3
    rcases hP.ts with ⟨h1, _⟩ | ⟨sc, h1, h2⟩ <;> rw [h1] at e3
    · cases e3
      exact ⟨fun sc hsc => (nomatch h1.symm.trans hsc), fun ng w hsc => (nomatch h1.symm.trans hsc),
        fun c => Int.le_trans (c3 c) (Int.ofNat_le.mpr (hm2 c))⟩
    · obtain ⟨g1, _, g4⟩ := tagPass_within Q tm.mass hQ cfg m.typeW _ (Lm m) sc h2 tid tm.typeNgrams
        (by rw [List.getElem?_map, htid]; rfl) (typesOf text) i
        (by rw [typesOf, List.length_map]; exact Nat.le_of_lt hi) sc2 (by rw [hK, c2, hl1]) b2 c3 hm3
        s.tstates (hs.tst sc h1) _ e3
      exact ⟨fun sc' hsc' => by cases h1.symm.trans hsc'; exact g1, fun ng w hsc => (nomatch h1.symm.trans hsc),
        fun c => Int.le_trans (g4 c) (Int.ofNat_le.mpr (hm3 c))⟩
  obtain ⟨t1, t2, t3⟩ := htype
  exact ⟨sc1', sc2, e1,
    within_of_class Q tm.mass hQ sc1' fun c => Int.le_trans (hb1 c) (Int.ofNat_le.mpr (hm1 c)), c1, hphase2,
    within_of_class Q tm.mass hQ sc2 fun c => Int.le_trans (c3 c) (Int.ofNat_le.mpr (hm2 c)), t1, t2, hphase3,
    within_of_class Q tm.mass hQ _ t3⟩

end C06B
end V
