import VModel.Spec
import VProofs.Lemmas.TagMain
/-!
# From `Predictor.new` / `predict` to the invariants of the tag loop; `tag_candidates` (for C06)
-/
namespace V.C06L
open V.C01L

theorem tagModels_ne_nil (m : WModel) (hn : 0 < specNTags m) : m.tagModels ≠ [] := by
  intro h
  unfold specNTags at hn
  rw [h] at hn
  exact Nat.lt_irrefl _ hn

theorem predOK_of_new (cfg : Cfg) (m : WModel) (hW : WFT m)
    (p : Predictor) (hp : Predictor.new cfg m true = .ok p) (hne : m.tagModels ≠ []) : PredOK cfg m p := by
  obtain ⟨hcfg, h1, h2, h3, h4⟩ := new_tag_ok cfg m p hp
  exact ⟨h1, h2,
    charScorer_tag cfg hcfg m _ (by simpa using hne) (Lm m) (tagNgrams_len m _ hW.char_ok) p.charScorer h3,
    typeScorer_tag cfg hcfg m _ (by simpa using hne) (Lm m) (tagNgrams_len m _ hW.type_ok) p.typeScorer h4⟩

theorem tagScorerOK_isSome {α : Type} [DecidableEq α] (cfg : Cfg) (w : Nat) (T : List (List (TagNgramData α)))
    (L : Nat → Nat) (sc : PmaScorer α) (h : TagScorerOK cfg w T L sc) : sc.tagWeight.isSome = true := by
  obtain ⟨tw, _, _, h1, _⟩ := h
  rw [h1]; rfl

theorem stOK_of_predict (cfg : Cfg) (m : WModel) (p : Predictor) (hP : PredOK cfg m p) (pid : Nat)
    (s s1 : Sentence) (htypes : s.types = typesOf s.text) (h : p.predict pid s = .ok s1) :
    StOK p s.text s1 ∧ s1.types = s.types := by
  obtain ⟨a1, a2, a3, a4⟩ := predict_states p pid s s1 h
  refine ⟨⟨a1, ?_, ?_⟩, a2⟩
  · intro sc hsc
    rcases hP.cs with ⟨h1, _⟩ | ⟨sc', h1, h2⟩
    · rw [h1] at hsc; cases hsc
    · rw [h1] at hsc
      simp only [Option.some.injEq] at hsc
      subst hsc
      exact a3 sc' h1 (tagScorerOK_isSome _ _ _ _ _ h2)
  · intro sc hsc
    rcases hP.ts with ⟨h1, _⟩ | ⟨sc', h1, h2⟩
    · rw [h1] at hsc; cases hsc
    · rw [h1] at hsc
      simp only [Option.some.injEq, TypeScorer.pma.injEq] at hsc
      subst hsc
      rw [← htypes]
      exact a4 sc' h1 (tagScorerOK_isSome _ _ _ _ _ h2)

theorem tagCandidates_spec (cfg : Cfg) (m : WModel) (text : List Char) (bs : List B)
    (hbs : bs.length + 1 = text.length) (s3 : Sentence) (hts : s3.tagScores = allScores cfg m text bs)
    (se : Nat × Nat) (hse : se ∈ specTokens bs) :
    s3.tagCandidates se.2 = .ok (match tagModelOf m ((text.drop se.1).take (se.2 - se.1)) with
      | some tm => specCandidates tm.tags (specTagScores tm text (se.2 - 1))
      | none => []) := by
  have hr := specTokens_range bs se hse
  have hlen : (allScores cfg m text bs).length = text.length := by
    unfold allScores
    rw [foldl_set_length, List.length_replicate]
  have hget : (allScores cfg m text bs)[se.2 - 1]? = some (scoreVal cfg m text se) := by
    unfold allScores
    rw [foldl_set_get _ _ (specTokens_keys_nodup bs), find?_key_self _ (specTokens_keys_nodup bs) se hse]
    simp only
    rw [List.length_replicate, if_pos (by omega)]
  unfold Sentence.tagCandidates
  rw [hts]
  have hne : (allScores cfg m text bs).isEmpty = false := by
    cases hA : allScores cfg m text bs with
    | nil => rw [hA] at hlen; simp only [List.length_nil] at hlen; omega
    | cons _ _ => rfl
  rw [hne, hget]
  simp only [Bool.false_eq_true, if_false]
  unfold scoreVal
  cases tagModelOf m ((text.drop se.1).take (se.2 - se.1)) with
  | none => rfl
  | some tm =>
    simp only [Option.map_some]
    rw [candidatesLoop_spec tm.tags _ 0 (by rw [scoreVec_length]; have := le_vlen cfg (nClass tm.tags); omega),
      List.drop_zero, scoreVec_take]

theorem predictTags_full (cfg : Cfg) (m : WModel) (hW : WFT m)
    (p : Predictor) (hp : Predictor.new cfg m true = .ok p) (store : Bool)
    (s s1 : Sentence) (htypes : s.types = typesOf s.text)
    (hbl0 : s.bounds.length + 1 = s.text.length) (pid : Nat) (h1 : p.predict pid s = .ok s1)
    (bs : List B) (hbs : bs.length = s1.bounds.length) (hn : 0 < specNTags m) :
    bs.length + 1 = s.text.length ∧
    ({ p with storeTagScores := store } : Predictor).predictTags { s1 with bounds := bs }
      = .ok { s1 with bounds := bs, nTags := specNTags m, tags := specAllTags m s.text bs,
                      tagScores := if store = true then allScores cfg m s.text bs else [] } := by
  have hP := predOK_of_new cfg m hW p hp (tagModels_ne_nil m hn)
  obtain ⟨hst, hty⟩ := stOK_of_predict cfg m p hP pid s s1 htypes h1
  have hbl : bs.length + 1 = s.text.length := by
    rw [hbs, predict_bounds_length p pid s s1 h1, hbl0]
  exact ⟨hbl, predictTags_spec cfg m p hP hW s.text s1 hst
    (by rw [hty, htypes, typesOf, List.length_map]) bs hbl hn store⟩

theorem predictTags_total (cfg : Cfg) (m : WModel) (hW : WFT m)
    (p : Predictor) (hp : Predictor.new cfg m true = .ok p) (store : Bool)
    (s s1 : Sentence) (htypes : s.types = typesOf s.text)
    (hbl0 : s.bounds.length + 1 = s.text.length) (pid : Nat) (h1 : p.predict pid s = .ok s1) :
    ∃ s2, ({ p with storeTagScores := store } : Predictor).predictTags s1 = .ok s2 := by
  rcases Nat.eq_zero_or_pos (specNTags m) with hn | hn
  · obtain ⟨_, h1', h2', _⟩ := new_tag_ok cfg m p hp
    unfold Predictor.predictTags
    simp only [h1', h2', hn, if_true]
    exact ⟨_, rfl⟩
  · exact ⟨_, (predictTags_full cfg m hW p hp store s s1 htypes hbl0 pid h1 s1.bounds rfl hn).2⟩

end V.C06L
