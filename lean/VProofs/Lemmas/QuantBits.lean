import VProofs.Lemmas.QuantAll
/-!
# Sanity of the binary64 model: decoding gives doubles, division gives doubles, `toBits ∘ ofBits = id`
-/
namespace V.QuantL
open V V.F64

theorem repUnits_of_repU {r : Nat} (h : RepU r) : repUnits r = true := by
  obtain ⟨c, t, rfl, hc⟩ := h
  have hs := log2_mul_pow_le c t hc
  unfold repUnits
  rw [beq_iff_eq]
  generalize (c * 2 ^ t).log2 - 52 = sh at hs ⊢
  rw [pow_split hs, ← Nat.mul_assoc]
  exact Nat.mul_mod_left _ _

theorem repU_of_repUnits {r : Nat} (h : repUnits r = true) : RepU r := by
  unfold repUnits at h
  rw [beq_iff_eq] at h
  refine ⟨r / 2 ^ (r.log2 - 52), r.log2 - 52, ?_, ?_⟩
  · have := Nat.div_add_mod r (2 ^ (r.log2 - 52))
    rw [h, Nat.add_zero, Nat.mul_comm] at this
    exact this.symm
  · apply (Nat.div_lt_iff_lt_mul (Nat.two_pow_pos _)).mpr
    rw [← Nat.pow_add]
    have h1 : r < 2 ^ (r.log2 + 1) := Nat.lt_log2_self
    exact Nat.lt_of_lt_of_le h1 (pow_mono2 (by omega))

theorem isDouble_fin {s : Bool} {r : Nat} (h : r < top) (hr : RepU r) : (F64.fin s r).IsDouble :=
  ⟨h, repUnits_of_repU hr⟩

theorem f64Div_isDouble (x y : F64) : (f64Div x y).IsDouble := by
  cases x with
  | nan => exact trivial
  | inf s => cases y <;> exact trivial
  | fin s a =>
    cases y with
    | nan => exact trivial
    | inf t => exact isDouble_fin top_pos ⟨0, 0, rfl, by decide⟩
    | fin t b =>
      by_cases hb : b = 0
      · unfold f64Div
        simp only []
        rw [if_pos hb]
        split <;> exact trivial
      · rw [f64Div_fin_cases s t a b hb]
        cases Nat.lt_or_ge (roundUnits (a * unit) b) top with
        | inl hr =>
          rw [if_pos hr]
          exact isDouble_fin hr (roundUnits_rep _ _ (Nat.pos_of_ne_zero hb))
        | inr hr =>
          rw [if_neg (Nat.not_lt.mpr hr)]
          exact trivial

set_option exponentiation.threshold 5000 in
/-- a mantissa below `2^53` with an exponent field of at most 2046 stays below `2^1024` -/
theorem normal_lt_top {c e : Nat} (hc : c < 2 ^ 53) (he : e ≤ 2045) : c * 2 ^ e < top := by
  have h2 : 2 ^ 53 * 2 ^ e ≤ top := by
    unfold top
    rw [← Nat.pow_add]
    exact pow_mono2 (by omega)
  exact Nat.lt_of_lt_of_le (Nat.mul_lt_mul_of_pos_right hc (Nat.two_pow_pos e)) h2

theorem toBits_inf (s : Bool) : toBits (.inf s) = (if s then 2 ^ 63 else 0) + 2047 * 2 ^ 52 := rfl
theorem toBits_fin (s : Bool) (a : Nat) : toBits (.fin s a) =
    (if s then 2 ^ 63 else 0) +
      (if a < 2 ^ 52 then a else (a.log2 - 52 + 1) * 2 ^ 52 + (a / 2 ^ (a.log2 - 52) - 2 ^ 52)) := rfl

theorem ofBits_eq (b : Nat) : ofBits b =
    if b / 2 ^ 52 % 2 ^ 11 = 2047 then (if b % 2 ^ 52 = 0 then .inf (b / 2 ^ 63 % 2 == 1) else .nan)
    else if b / 2 ^ 52 % 2 ^ 11 = 0 then .fin (b / 2 ^ 63 % 2 == 1) (b % 2 ^ 52)
    else .fin (b / 2 ^ 63 % 2 == 1) ((2 ^ 52 + b % 2 ^ 52) * 2 ^ (b / 2 ^ 52 % 2 ^ 11 - 1)) := rfl

theorem ofBits_isDouble (b : Nat) : (ofBits b).IsDouble := by
  have hf : b % 2 ^ 52 < 2 ^ 52 := Nat.mod_lt _ (by decide)
  have he : b / 2 ^ 52 % 2 ^ 11 < 2 ^ 11 := Nat.mod_lt _ (by decide)
  rw [ofBits_eq]
  generalize b % 2 ^ 52 = f at hf ⊢
  generalize b / 2 ^ 52 % 2 ^ 11 = e at he ⊢
  by_cases h1 : e = 2047
  · rw [if_pos h1]
    split <;> exact trivial
  · rw [if_neg h1]
    by_cases h0 : e = 0
    · rw [if_pos h0]
      have := normal_lt_top (c := 1) (e := 52) (by decide) (by decide)
      rw [Nat.one_mul] at this
      exact isDouble_fin (Nat.lt_trans hf this) ⟨f, 0, (Nat.mul_one f).symm, Nat.lt_trans hf (by decide)⟩
    · rw [if_neg h0]
      have hc : 2 ^ 52 + f < 2 ^ 53 := by omega
      exact isDouble_fin (normal_lt_top hc (by omega)) ⟨_, _, rfl, hc⟩

/-- decoding loses nothing: every non-NaN 64-bit pattern is recovered from its value (so `ofBits` is injective off the NaNs) -/
theorem toBits_ofBits (b : Nat) (hb : b < 2 ^ 64) (hn : ofBits b ≠ .nan) : toBits (ofBits b) = b := by
  -- the pattern is the sum of its three fields; from here on they are variables
  have hsplit : b = b / 2 ^ 63 * 2 ^ 63 + b / 2 ^ 52 % 2 ^ 11 * 2 ^ 52 + b % 2 ^ 52 ∧ b / 2 ^ 63 < 2 := by omega
  have hf : b % 2 ^ 52 < 2 ^ 52 := Nat.mod_lt _ (by decide)
  rw [ofBits_eq] at hn ⊢
  generalize b % 2 ^ 52 = f at hsplit hf hn ⊢
  generalize b / 2 ^ 52 % 2 ^ 11 = e at hsplit hn ⊢
  generalize b / 2 ^ 63 = σ at hsplit hn ⊢
  obtain ⟨rfl, hσ⟩ := hsplit
  have hsgn : (if (σ % 2 == 1) = true then 2 ^ 63 else 0) = σ * 2 ^ 63 := by
    rcases Nat.lt_succ_iff_lt_or_eq.mp hσ with h | rfl
    · rw [Nat.lt_one_iff.mp h]; rfl
    · rfl
  by_cases he1 : e = 2047
  · rw [if_pos he1] at hn ⊢
    by_cases hf0 : f = 0
    · rw [if_pos hf0, toBits_inf, hsgn, he1, hf0]
    · rw [if_neg hf0] at hn
      exact absurd rfl hn
  · rw [if_neg he1]
    by_cases he0 : e = 0
    · rw [if_pos he0, toBits_fin, hsgn, if_pos hf, he0, Nat.zero_mul, Nat.add_zero]
    · rw [if_neg he0, toBits_fin, hsgn, log2_normal _ (e - 1) (by omega) (Or.inr (Nat.le_add_right _ _)),
        Nat.mul_div_cancel _ (Nat.two_pow_pos _)]
      have hge : ¬ (2 ^ 52 + f) * 2 ^ (e - 1) < 2 ^ 52 := by
        have := Nat.le_mul_of_pos_right (2 ^ 52 + f) (Nat.two_pow_pos (e - 1))
        omega
      rw [if_neg hge, Nat.add_sub_cancel_left, Nat.sub_add_cancel (Nat.pos_of_ne_zero he0), Nat.add_assoc]

end V.QuantL
