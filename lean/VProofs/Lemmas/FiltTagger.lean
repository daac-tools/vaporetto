import VModel.Filters
import VProofs.Lemmas.Inv
/-! Helper lemmas for C15: `PatternMatchTagger::filter` — the collected queue and its application. -/
namespace V.C15L

theorem pairwise_mem {α : Type} {R : α → α → Prop} {l : List α} (h : List.Pairwise R l) {a b : α}
    (ha : a ∈ l) (hb : b ∈ l) : a = b ∨ R a b ∨ R b a := by
  induction l with
  | nil => simp at ha
  | cons x r ih =>
    rw [List.pairwise_cons] at h
    rw [List.mem_cons] at ha hb
    rcases ha with ha | ha <;> rcases hb with hb | hb
    · exact Or.inl (ha.trans hb.symm)
    · subst ha; exact Or.inr (Or.inl (h.1 b hb))
    · subst hb; exact Or.inr (Or.inr (h.1 a ha))
    · exact ih h.2 ha hb

theorem token_end_inj (bs : List B) {st st' en : Nat} (h1 : (st, en) ∈ iterTokens bs)
    (h2 : (st', en) ∈ iterTokens bs) : st = st' := by
  have r1 := iterTokens_range bs _ h1
  have r2 := iterTokens_range bs _ h2
  rw [iterTokens_eq_spec] at h1 h2
  have := pairwise_mem (specSeg_bounds bs 0 0 false (Nat.le_refl _)).2 h1 h2
  simp only at r1 r2
  rcases this with h | h | h
  · injection h
  · simp only at h; omega
  · simp only at h; omega

theorem slot_inj {m i j i' j' : Nat} (hj : j < m) (hj' : j' < m) (h : i * m + j = i' * m + j') :
    i = i' ∧ j = j' := by
  have key : ∀ a b x y : Nat, x < m → y < m → a * m + x = b * m + y → ¬ a < b := by
    intro a b x y hx hy e hab
    have h1 : (a + 1) * m ≤ b * m := Nat.mul_le_mul_right m hab
    rw [Nat.succ_mul] at h1
    omega
  have h1 := key i i' j j' hj hj' h
  have h2 := key i' i j' j hj' hj h.symm
  have : i = i' := by omega
  subst this
  exact ⟨rfl, by omega⟩

theorem slot_lt {n m en j len : Nat} (h0 : 0 < en) (h1 : en ≤ n) (hj : j < m) (hl : len = n * m) :
    (en - 1) * m + j < len := by
  have h2 : en * m ≤ n * m := Nat.mul_le_mul_right m h1
  have h3 : (en - 1 + 1) * m = (en - 1) * m + m := Nat.succ_mul _ _
  have h4 : en - 1 + 1 = en := by omega
  rw [h4] at h3
  omega

/-- what `collect` queues: one entry per absent tag slot of a token whose surface has a rule -/
def Queued (rules : TagRules) (s : Sentence) (toks : List (Nat × Nat)) (e : Nat × Nat × Tag) : Prop :=
  ∃ (st en j : Nat) (r : List Tag), (st, en) ∈ toks ∧ e = (en - 1, j, (r[j]?).bind id) ∧ j < s.nTags ∧
    s.tags[(en - 1) * s.nTags + j]? = some none ∧ rulesGet rules ((s.text.drop st).take (en - st)) = some r

theorem collect_spec (rules : TagRules) (s : Sentence) (toks : List (Nat × Nat))
    (hr : ∀ se ∈ toks, se.1 < se.2 ∧ se.2 ≤ s.text.length) (ht : s.tags.length = s.text.length * s.nTags) :
    ∃ q, filterTagger.collect rules s toks = .ok q ∧ ∀ e, e ∈ q ↔ Queued rules s toks e := by
  induction toks with
  | nil => exact ⟨[], rfl, fun e => by simp [Queued]⟩
  | cons x r ih =>
    obtain ⟨st, en⟩ := x
    obtain ⟨rest, hc, hq⟩ := ih (fun se hse => hr se (by simp [hse]))
    have hx := hr (st, en) (by simp)
    simp only at hx
    have hsub : s.substring st en = .ok ((s.text.drop st).take (en - st)) := s.substring_eq (Nat.le_of_lt hx.1) hx.2
    have htt := s.tokenTags_eq (Nat.zero_lt_of_lt hx.1) (by rw [ht]; exact Nat.mul_le_mul_right _ hx.2)
    unfold filterTagger.collect
    simp only [hsub, htt, hc]
    refine ⟨_, rfl, fun e => ?_⟩
    rw [List.mem_append, hq e, List.mem_filterMap]
    constructor
    · rintro (⟨⟨tg, j⟩, hm, hf⟩ | ⟨st', en', j, r', hm, rest'⟩)
      · rw [List.mem_zipIdx_iff_getElem?] at hm
        simp only [List.getElem?_take, List.getElem?_drop] at hm
        have hj : j < s.nTags := by
          apply Classical.byContradiction
          intro hn; rw [if_neg hn] at hm; cases hm
        rw [if_pos hj] at hm
        cases tg with
        | some t => simp at hf
        | none =>
          cases hg : rulesGet rules ((s.text.drop st).take (en - st)) with
          | none => simp [hg] at hf
          | some r' =>
            simp only [hg, Option.isNone_none, if_true, Option.some.injEq] at hf
            exact ⟨st, en, j, r', by simp, hf.symm, hj, hm, hg⟩
      · exact ⟨st', en', j, r', by simp [hm], rest'⟩
    · rintro ⟨st', en', j, r', hm, he, hj, hn, hg⟩
      rw [List.mem_cons] at hm
      rcases hm with hm | hm
      · injection hm with e1 e2
        subst e1; subst e2
        refine Or.inl ⟨(none, j), ?_, ?_⟩
        · rw [List.mem_zipIdx_iff_getElem?]
          simp only [List.getElem?_take, List.getElem?_drop, if_pos hj]
          exact hn
        · simp only [hg, Option.isNone_none, if_true, he]
      · exact Or.inr ⟨st', en', j, r', hm, he, hj, hn, hg⟩

theorem apply_spec (s : Sentence) (q : List (Nat × Nat × Tag)) :
    ∀ (tags : List Tag), (∀ e ∈ q, e.1 * s.nTags + e.2.1 < tags.length) →
      ∃ out, filterTagger.apply s q tags = .ok out ∧ out.length = tags.length ∧
        ∀ k, ((∀ e ∈ q, e.1 * s.nTags + e.2.1 ≠ k) → out[k]? = tags[k]?) ∧
             ((∃ e ∈ q, e.1 * s.nTags + e.2.1 = k) → ∃ e ∈ q, e.1 * s.nTags + e.2.1 = k ∧ out[k]? = some e.2.2) := by
  induction q with
  | nil =>
    intro tags _
    exact ⟨tags, rfl, rfl, fun k => ⟨fun _ => rfl, fun ⟨e, he, _⟩ => by simp at he⟩⟩
  | cons x r ih =>
    intro tags hq
    obtain ⟨i, j, t⟩ := x
    have hlt : i * s.nTags + j < tags.length := hq (i, j, t) (by simp)
    obtain ⟨out, h1, h2, h3⟩ := ih (tags.set (i * s.nTags + j) t)
      (fun e he => by rw [List.length_set]; exact hq e (by simp [he]))
    refine ⟨out, ?_, by rw [h2, List.length_set], fun k => ⟨fun hno => ?_, fun hex => ?_⟩⟩
    · simp only [filterTagger.apply, if_pos hlt]
      exact h1
    · rw [(h3 k).1 (fun e he => hno e (by simp [he])), List.getElem?_set]
      have : i * s.nTags + j ≠ k := hno (i, j, t) (by simp)
      rw [if_neg this]
    · by_cases hin : ∃ e ∈ r, e.1 * s.nTags + e.2.1 = k
      · obtain ⟨e, he, hk, ho⟩ := (h3 k).2 hin
        exact ⟨e, by simp [he], hk, ho⟩
      · have hno : ∀ e ∈ r, e.1 * s.nTags + e.2.1 ≠ k := fun e he hk => hin ⟨e, he, hk⟩
        obtain ⟨e, he, hk⟩ := hex
        rw [List.mem_cons] at he
        rcases he with he | he
        · subst he
          simp only at hk
          refine ⟨(i, j, t), by simp, hk, ?_⟩
          rw [(h3 k).1 hno, List.getElem?_set, if_pos hk, if_pos hlt]
        · exact absurd hk (hno e he)

end V.C15L
