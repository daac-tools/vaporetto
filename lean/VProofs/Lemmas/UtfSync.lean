import VProofs.Lemmas.BinUtf8
/-!
# UTF-8 on the byte level: lead / continuation structure of the encoder, escaping bytes is escaping characters, and
self-synchronisation (byte-level occurrences of a non-empty pattern are character-level occurrences)
-/
namespace V.UtfL
open V V.Bin V.BinL

theorem isCont_ge {b : UInt8} (h : isCont b = true) : 0x80 ≤ b.toNat := by
  simp only [isCont, Bool.and_eq_true, decide_eq_true_eq] at h
  exact h.1

theorem encChar_shape (c : Char) : ∃ b rest, utf8EncodeChar c = b :: rest ∧ isCont b = false ∧
    (∀ x ∈ rest, isCont x = true) ∧ (c.toNat < 0x80 → rest = [] ∧ b.toNat = c.toNat) ∧
    (¬ c.toNat < 0x80 → 0x80 ≤ b.toNat) := by
  have multi : ∀ {b0 : UInt8} {k x0 : Nat} {rest : Bytes}, utf8EncodeChar c = b0 :: rest → b0.toNat = k + x0 → 0xC0 ≤ k →
      0x80 ≤ c.toNat → (∀ x ∈ rest, isCont x = true) → ∃ b rest, utf8EncodeChar c = b :: rest ∧ isCont b = false ∧
        (∀ x ∈ rest, isCont x = true) ∧ (c.toNat < 0x80 → rest = [] ∧ b.toNat = c.toNat) ∧
        (¬ c.toNat < 0x80 → 0x80 ≤ b.toNat) := by
    intro b0 k x0 rest he h0 hk hc hr
    have : 0xC0 ≤ b0.toNat := by omega
    exact ⟨b0, rest, he, isCont_false_of (.inr this), hr, fun hh => absurd hh (Nat.not_lt.2 hc), fun _ => by omega⟩
  rcases utf8EncodeChar_cases c with ⟨h, b0, he, h0⟩ | ⟨b0, b1, x0, x1, he, h0, c1, _, _, _, hl⟩ |
    ⟨b0, b1, b2, x0, x1, x2, he, h0, c1, c2, _, _, hl⟩ |
    ⟨b0, b1, b2, b3, x0, x1, x2, x3, he, h0, c1, c2, c3, _, _, hl⟩
  · exact ⟨b0, [], he, isCont_false_of (.inl (h0 ▸ h)), nofun, fun _ => ⟨rfl, h0⟩, fun hh => absurd h hh⟩
  · refine multi he h0 (by decide) hl ?_
    simp only [List.mem_singleton, forall_eq]
    exact isCont_of c1
  · refine multi he h0 (by decide) (Nat.le_trans (by decide) hl) ?_
    simp only [List.mem_cons, List.not_mem_nil, or_false, forall_eq_or_imp, forall_eq]
    exact ⟨isCont_of c1, isCont_of c2⟩
  · refine multi he h0 (by decide) (Nat.le_trans (by decide) hl) ?_
    simp only [List.mem_cons, List.not_mem_nil, or_false, forall_eq_or_imp, forall_eq]
    exact ⟨isCont_of c1, isCont_of c2, isCont_of c3⟩

theorem tokSpecial_iff (c : Char) :
    tokSpecial c = true ↔ (c.toNat = 0x20 ∨ c.toNat = 0x5C ∨ c.toNat = 0x2F) := by
  simp only [tokSpecial, Bool.or_eq_true, decide_eq_true_eq, ← Char.toNat_inj, or_assoc]
  rfl

theorem byteSpecial_iff (b : UInt8) :
    (b = 0x20 ∨ b = 0x5C ∨ b = 0x2F) ↔ (b.toNat = 0x20 ∨ b.toNat = 0x5C ∨ b.toNat = 0x2F) := by
  simp only [← UInt8.toNat_inj]
  rfl

section
variable (f : Bytes → Bytes)
  (h1 : ∀ b r, f (b :: r) = if b = 0x20 ∨ b = 0x5C ∨ b = 0x2F then 0x5C :: b :: f r else b :: f r)
include h1

theorem esc_high (l r : Bytes) (hl : ∀ x ∈ l, 0x80 ≤ x.toNat) : f (l ++ r) = l ++ f r := by
  induction l with
  | nil => rfl
  | cons b l ih =>
    have hb := hl b (by simp)
    rw [List.cons_append, h1, if_neg, ih (fun x hx => hl x (by simp [hx]))]
    · rfl
    · rw [byteSpecial_iff]; omega

/-- escaping bytes is escaping characters, for any function satisfying the defining equations of the byte loop -/
theorem escape_bytes_of (h0 : f [] = []) (cs : List Char) : utf8Encode (escTok cs) = f (utf8Encode cs) := by
  induction cs with
  | nil => simp [escTok, utf8Encode, h0]
  | cons c cs ih =>
    obtain ⟨b, rest, he, _, hrest, hlow, hhigh⟩ := encChar_shape c
    rw [utf8Encode_cons]
    by_cases hc : c.toNat < 0x80
    · obtain ⟨hr, hb⟩ := hlow hc
      subst hr
      rw [he, List.singleton_append, h1]
      by_cases hs : tokSpecial c = true
      · have hs' := hs
        rw [tokSpecial_iff, ← hb, ← byteSpecial_iff] at hs'
        rw [if_pos hs']
        simp only [escTok, hs, if_true]
        rw [utf8Encode_cons, utf8Encode_cons, he, ih]
        rfl
      · have hs' := hs
        rw [tokSpecial_iff, ← hb, ← byteSpecial_iff] at hs'
        rw [if_neg hs']
        simp only [escTok, hs]
        rw [if_neg (by simp), utf8Encode_cons, he, ih]
        rfl
    · have hs : ¬ tokSpecial c = true := by rw [tokSpecial_iff]; omega
      simp only [escTok, hs]
      rw [if_neg (by simp), utf8Encode_cons, ih, esc_high f h1]
      intro x hx
      rw [he] at hx
      rcases List.mem_cons.1 hx with hx | hx
      · subst hx; exact hhigh hc
      · exact isCont_ge (hrest x hx)
end

theorem encode_prefix_cancel (p : List Char) : ∀ (t : List Char) (z : Bytes),
    utf8Encode p ++ z = utf8Encode t → ∃ q, t = p ++ q ∧ z = utf8Encode q := by
  induction p with
  | nil => intro t z h; exact ⟨t, rfl, by simpa [utf8Encode_nil] using h⟩
  | cons c p ih =>
    intro t z h
    cases t with
    | nil =>
      have hne := utf8EncodeChar_nonempty c
      have := congrArg List.length h
      simp only [utf8Encode_cons, utf8Encode_nil, List.length_append, List.length_nil] at this
      omega
    | cons d t =>
      rw [utf8Encode_cons, utf8Encode_cons, List.append_assoc] at h
      have hd := congrArg utf8DecodeChar? h
      rw [utf8DecodeChar_encode, utf8DecodeChar_encode] at hd
      simp only [Option.some.injEq, Prod.mk.injEq] at hd
      obtain ⟨hcd, ht⟩ := hd
      obtain ⟨q, hq, hz⟩ := ih t z ht
      exact ⟨q, by rw [hcd, hq]; rfl, hz⟩

/-- a split of the encoding whose right part is empty or starts with a lead byte is a split at a character boundary -/
theorem encode_split (t : List Char) : ∀ (a b : Bytes), utf8Encode t = a ++ b →
    (b = [] ∨ ∃ x r, b = x :: r ∧ isCont x = false) →
    ∃ pre post, t = pre ++ post ∧ a = utf8Encode pre ∧ b = utf8Encode post := by
  induction t with
  | nil =>
    intro a b h _
    have h' := h.symm
    rw [utf8Encode_nil, List.append_eq_nil_iff] at h'
    exact ⟨[], [], rfl, h'.1, h'.2⟩
  | cons c t ih =>
    intro a b h hb
    rw [utf8Encode_cons, List.append_eq_append_iff] at h
    rcases h with ⟨as, ha, hs⟩ | ⟨bs, ha, hs⟩
    · obtain ⟨pre, post, ht, hpre, hpost⟩ := ih as b hs hb
      exact ⟨c :: pre, post, by rw [ht]; rfl, by rw [ha, hpre, utf8Encode_cons], hpost⟩
    · cases a with
      | nil =>
        refine ⟨[], c :: t, rfl, rfl, ?_⟩
        rw [hs, utf8Encode_cons, ha]; rfl
      | cons y a' =>
        cases bs with
        | nil =>
          refine ⟨[c], t, rfl, ?_, ?_⟩
          · rw [utf8Encode_cons, utf8Encode_nil, ha]; simp
          · rw [hs]; rfl
        | cons x bs' =>
          exfalso
          obtain ⟨b0, rest, he, _, hrest, _, _⟩ := encChar_shape c
          rw [he, List.cons_append, List.cons.injEq] at ha
          have hx : isCont x = true := hrest x (by rw [ha.2]; simp)
          rcases hb with hb | ⟨x', r, hb, hx'⟩
          · rw [hb] at hs; simp at hs
          · rw [hb, List.cons_append, List.cons.injEq] at hs
            rw [hs.1, hx] at hx'
            exact Bool.noConfusion hx'

theorem encode_head_lead (p : List Char) (hp : p ≠ []) (r : Bytes) :
    ∃ x r', utf8Encode p ++ r = x :: r' ∧ isCont x = false := by
  cases p with
  | nil => exact absurd rfl hp
  | cons c p =>
    obtain ⟨b0, rest, he, hb0, _⟩ := encChar_shape c
    exact ⟨b0, rest ++ utf8Encode p ++ r, by rw [utf8Encode_cons, he]; simp, hb0⟩

theorem encode_occurrence (pat text : List Char) (hp : pat ≠ []) (w r : Bytes)
    (h : utf8Encode text = w ++ utf8Encode pat ++ r) :
    ∃ pre post, text = pre ++ pat ++ post ∧ w = utf8Encode pre ∧ r = utf8Encode post := by
  rw [List.append_assoc] at h
  obtain ⟨pre, post, ht, hw, hpost⟩ := encode_split text w (utf8Encode pat ++ r) h
    (Or.inr (encode_head_lead pat hp r))
  obtain ⟨q, hq, hr⟩ := encode_prefix_cancel pat post r hpost
  exact ⟨pre, q, by rw [ht, hq, List.append_assoc], hw, hr⟩

theorem char_match_is_byte_match (pat text : List Char) (j : Nat) (h : pat <:+ text.take j) :
    utf8Encode pat <:+ (utf8Encode text).take (utf8Encode (text.take j)).length := by
  obtain ⟨pre, hpre⟩ := h
  have ht : utf8Encode text = utf8Encode (text.take j) ++ utf8Encode (text.drop j) := by
    rw [← utf8Encode_append, List.take_append_drop]
  rw [ht, List.take_left, ← hpre, utf8Encode_append]
  exact List.suffix_append _ _

end V.UtfL
