import VProofs.C01
import VProofs.C09
import VProofs.Lemmas.FeatGen
import VProofs.Lemmas.Base
/-!
# The assembled boundary model is well-formed (for C11), for windows 0..255

Distinct keys come from the sortedness in `C09L.Inv`, the vector shapes from `C09L.Inv`/`C09_vector_shape`, the type codes from the
trace (`asmFold_typeKeys`).  None of this needs a lower bound on the windows: the n-gram maps are key-sorted and every vector
has the shape of its own window whatever the window is.
-/
namespace V.C11L
open V.C01L V.C09L

theorem gen_type_codes (cfg : TrainCfg) (text : List Char) (i : Nat) (g : List Nat) (rel : Int)
    (h : Feature.typeNgram g rel ∈ genFeatures cfg text i) : ∀ c ∈ g, 1 ≤ c ∧ c ≤ 6 := by
  obtain ⟨j, l, _, _, _, _, rfl, _⟩ := (C10L.mem_ngramFeats ..).mp
    ((C10L.mem_iff_of_count_eq (C10L.count_type_genFeatures cfg text i g rel)).mp h)
  intro c hc
  exact typesOf_bounds text c (List.mem_of_mem_drop (List.mem_of_mem_take hc))

theorem assembled_shapes (cfg : TrainCfg) (hne : ∀ w ∈ cfg.dictWords, w ≠ []) (hnd : cfg.dictWords.Nodup)
    (hD : 1 ≤ cfg.dictMaxLen)
    (hlen : ∀ w ∈ cfg.dictWords, w.length ≤ 32767) (trace : List (Feature × Int)) (bias : Int) (tms : List TagModel)
    (hg : ∀ e ∈ trace, ∃ text i, i + 1 < text.length ∧ e.1 ∈ genFeatures cfg text i) (m : WModel)
    (h : assembleBoundary cfg trace bias tms = .ok m) :
    m.charW = cfg.charW ∧ m.typeW = cfg.typeW ∧
    (m.charNgrams.map (·.ngram)).Nodup ∧
    (∀ d ∈ m.charNgrams, 1 ≤ d.ngram.length ∧ d.ngram.length ≤ 2 * m.charW ∧
      d.weights.length = 2 * m.charW - d.ngram.length + 1) ∧
    (m.typeNgrams.map (·.ngram)).Nodup ∧
    (∀ d ∈ m.typeNgrams, 1 ≤ d.ngram.length ∧ d.ngram.length ≤ 2 * m.typeW ∧
      d.weights.length = 2 * m.typeW - d.ngram.length + 1 ∧ ∀ t ∈ d.ngram, 1 ≤ t ∧ t ≤ 6) ∧
    (m.dict.map (·.word)).Nodup ∧
    (∀ d ∈ m.dict, 1 ≤ d.word.length ∧ d.word.length ≤ 32767 ∧ d.weights.length = d.word.length + 1) := by
  obtain ⟨_, _, hds, _, _, _, hdw⟩ := C09_vector_shape cfg trace bias tms m h
  obtain ⟨a, dict, ha, _, rfl⟩ := assemble_ok cfg trace bias tms m h
  obtain ⟨a1, ha1, hinv⟩ := asmFold_inv cfg trace (fun _ => 0) _ (inv_init cfg) (by
    intro e he
    obtain ⟨text, i, _, hm⟩ := hg e he
    exact good_of_gen cfg hne hD e.1 text i hm)
  rw [ha] at ha1
  cases ha1
  have hcodes : ∀ e ∈ a.typeM, ∀ c ∈ e.1, 1 ≤ c ∧ c ≤ 6 := by
    refine asmFold_typeKeys cfg (fun g => ∀ c ∈ g, 1 ≤ c ∧ c ≤ 6) trace a (fun fw hfw g rel heq => ?_) ha
    obtain ⟨text, i, _, hm⟩ := hg fw hfw
    exact gen_type_codes cfg text i g rel (heq ▸ hm)
  have hcn := PermL.keys_nodup_of_sorted _ (lexLt_st ltChar_st).irrefl hinv.chars.1
  have htn := PermL.keys_nodup_of_sorted _ (lexLt_st ltNat_st).irrefl hinv.types.1
  refine ⟨rfl, rfl, ?_, ?_, ?_, ?_, ?_, ?_⟩
  · rw [List.map_map]; exact hcn
  · intro d hd
    obtain ⟨e, he, rfl⟩ := List.mem_map.mp hd
    obtain ⟨h1, h2, h3, _⟩ := hinv.chars.2.1 e he
    exact ⟨h3.1, h2, h1⟩
  · rw [List.map_map]; exact htn
  · intro d hd
    obtain ⟨e, he, rfl⟩ := List.mem_map.mp hd
    obtain ⟨h1, h2, h3, _⟩ := hinv.types.2.1 e he
    exact ⟨h3.1, h2, h1, hcodes e he⟩
  · rw [hdw]; exact hnd
  · intro d hd
    have hw : d.word ∈ cfg.dictWords := by rw [← hdw]; exact List.mem_map_of_mem hd
    exact ⟨List.length_pos_iff.mpr (hne _ hw), hlen _ hw, hds d hd⟩

theorem nil_of_shape0 {β : Type} (l : List β) (len : β → Nat) (W : Nat) (h0 : W = 0)
    (h : ∀ d ∈ l, 1 ≤ len d ∧ len d ≤ 2 * W) : l = [] := by
  cases l with
  | nil => rfl
  | cons d r =>
    have := h d List.mem_cons_self
    omega

/-- with window 0 `ngramFeats` produces no feature, and a vector would need `1 ≤ ℓ ≤ 2·0`: the model has NO n-gram of that
kind, so `dropW0` is the identity on it -/
theorem assembled_wf0 (cfg : TrainCfg) (hne : ∀ w ∈ cfg.dictWords, w ≠ []) (hnd : cfg.dictWords.Nodup)
    (hD : 1 ≤ cfg.dictMaxLen) (hcw : cfg.charW ≤ 255) (htw : cfg.typeW ≤ 255)
    (hlen : ∀ w ∈ cfg.dictWords, w.length ≤ 32767) (trace : List (Feature × Int)) (bias : Int) (tms : List TagModel)
    (hg : ∀ e ∈ trace, ∃ text i, i + 1 < text.length ∧ e.1 ∈ genFeatures cfg text i) (m : WModel)
    (h : assembleBoundary cfg trace bias tms = .ok m) :
    WFModel0 m ∧ (m.charW = 0 → m.charNgrams = []) ∧ (m.typeW = 0 → m.typeNgrams = []) := by
  obtain ⟨e1, e2, h1, h2, h3, h4, h5, h6⟩ := assembled_shapes cfg hne hnd hD hlen trace bias tms hg m h
  refine ⟨{ charW_le := by rw [e1]; exact hcw, typeW_le := by rw [e2]; exact htw, char_nodup := fun _ => h1,
            char_shape := fun _ => h2, type_nodup := fun _ => h3, type_shape := fun _ => h4, dict_nodup := h5,
            dict_shape := h6 }, ?_, ?_⟩
  · intro h0
    exact nil_of_shape0 _ (fun d => d.ngram.length) _ h0 (fun d hd => ⟨(h2 d hd).1, (h2 d hd).2.1⟩)
  · intro h0
    exact nil_of_shape0 _ (fun d => d.ngram.length) _ h0 (fun d hd => ⟨(h4 d hd).1, (h4 d hd).2.1⟩)

end V.C11L
