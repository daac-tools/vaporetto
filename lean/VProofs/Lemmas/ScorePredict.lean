import VProofs.Lemmas.ScoreCache
import VProofs.Lemmas.ScoreNew
import VProofs.Lemmas.CharTypes
/-!
# `Predictor.new` / `Predictor.predict` against the specification (C01): assembling the scorer lemmas
-/
namespace V.C01L

def charPhase (cs : Option (PmaScorer Char)) (text : List Char) (cstates : List (Option Nat)) (buf0 : List Int) :
    Res (List Int × List (Option Nat)) :=
  match cs with
  | some sc => pmaAddScores sc text buf0 cstates
  | none => .ok (buf0, cstates)

def typePhase (ts : Option TypeScorer) (types : List Nat) (nB : Nat) (tstates : List (Option Nat)) (buf1 : List Int) :
    Res (List Int × List (Option Nat)) :=
  match ts with
  | some (.pma sc) => pmaAddScores sc types buf1 tstates
  | some (.cache ng w) => (cacheAddScores ng w types nB buf1).map fun b => (b, [])
  | none => .ok (buf1, tstates)

def finish (s : Sentence) (pid : Nat) (buf2 : List Int) (cst tst : List (Option Nat)) : Sentence :=
  { s with scores := buf2, padding := padding, cstates := cst, tstates := tst,
           bounds := (s.bounds.zip (buf2.drop padding)).map (fun (_, x) => if x > 0 then B.W else B.N)
              ++ s.bounds.drop (buf2.drop padding).length,
           pred := some pid }

def finishR (s : Sentence) (pid : Nat) (cst : List (Option Nat)) (r2 : Res (List Int × List (Option Nat))) :
    Res Sentence :=
  match r2 with
  | .ok (buf2, tst) => .ok (finish s pid buf2 cst tst)
  | .err e => .err e
  | .panic q => .panic q
  | .ub q => .ub q

def predictK (p : Predictor) (s : Sentence) (pid : Nat) (r1 : Res (List Int × List (Option Nat))) : Res Sentence :=
  match r1 with
  | .ok (buf1, cst) => finishR s pid cst (typePhase p.typeScorer s.types s.bounds.length s.tstates buf1)
  | .err e => .err e
  | .panic q => .panic q
  | .ub q => .ub q

theorem predict_eq (p : Predictor) (pid : Nat) (s : Sentence) :
    p.predict pid s = predictK p s pid
      (charPhase p.charScorer s.text s.cstates (List.replicate (padding * 2 + s.types.length - 1) p.bias)) := rfl

theorem predict_finish (p : Predictor) (pid : Nat) (s s1 : Sentence) (h : p.predict pid s = .ok s1) :
    ∃ buf1 cst buf2 tst,
      charPhase p.charScorer s.text s.cstates (List.replicate (padding * 2 + s.types.length - 1) p.bias) = .ok (buf1, cst) ∧
      typePhase p.typeScorer s.types s.bounds.length s.tstates buf1 = .ok (buf2, tst) ∧
      s1 = finish s pid buf2 cst tst := by
  rw [predict_eq] at h
  generalize charPhase p.charScorer s.text s.cstates _ = r1 at h ⊢
  cases r1 with
  | ok x =>
    obtain ⟨buf1, cst⟩ := x
    refine ⟨buf1, cst, ?_⟩
    change finishR s pid cst (typePhase p.typeScorer s.types s.bounds.length s.tstates buf1) = _ at h
    generalize typePhase p.typeScorer s.types s.bounds.length s.tstates buf1 = r2 at h ⊢
    cases r2 with
    | ok y => exact ⟨y.1, y.2, rfl, rfl, (Res.ok.inj h).symm⟩
    | err _ => cases h
    | panic _ => cases h
    | ub _ => cases h
  | err _ => cases h
  | panic _ => cases h
  | ub _ => cases h

theorem finish_bounds_length (s : Sentence) (pid : Nat) (buf : List Int) (cst tst : List (Option Nat)) :
    (finish s pid buf cst tst).bounds.length = s.bounds.length := by
  show ((s.bounds.zip (buf.drop padding)).map _ ++ s.bounds.drop (buf.drop padding).length).length = _
  rw [List.length_append, List.length_map, List.length_zip, List.length_drop, List.length_drop, Nat.add_comm,
    Nat.sub_add_min_cancel]

theorem predict_bounds_length (p : Predictor) (pid : Nat) (s s1 : Sentence) (h : p.predict pid s = .ok s1) :
    s1.bounds.length = s.bounds.length := by
  obtain ⟨_, cst, buf2, tst, _, _, rfl⟩ := predict_finish p pid s s1 h
  exact finish_bounds_length s pid buf2 cst tst

section
variable {α : Type} [DecidableEq α] {W : Type}

/-- a boundary weight as an entry of the tag-aware merger -/
abbrev ofPW (pw : PW) : PWT := { weight := some pw, tagInfo := [] }

omit [DecidableEq α] in
theorem Pg_map {β : Type} (g : W → Option PW) (wrap : PW → W) (hw : ∀ pw, g (wrap pw) = some pw) (l : List β)
    (key : β → List α) (pw : β → PW) (h : ∀ d ∈ l, Pinv (key d) (pw d)) :
    ∀ e ∈ l.map (fun d => (key d, wrap (pw d))), Pg g e.1 e.2 := by
  intro e he pw' hpw
  obtain ⟨d, hd, rfl⟩ := List.mem_map.mp he
  rw [hw] at hpw
  cases hpw
  exact h d hd

omit [DecidableEq α] in
theorem Pg_ngram (g : W → Option PW) (wrap : PW → W) (hw : ∀ pw, g (wrap pw) = some pw) (Wn : Nat)
    (ng : List (NgramData α))
    (hs : ∀ d ∈ ng, 1 ≤ Wn ∧ d.ngram.length ≤ 2 * Wn ∧ d.weights.length = 2 * Wn - d.ngram.length + 1) :
    ∀ e ∈ ng.map (fun d => (d.ngram, wrap ⟨-(Wn : Int), d.weights⟩)), Pg g e.1 e.2 :=
  Pg_map g wrap hw ng _ _ fun d hd => Pinv_ngram Wn _ _ (hs d hd).1 (hs d hd).2.1 (hs d hd).2.2

theorem Pg_dict (g : W → Option PW) (wrap : PW → W) (hw : ∀ pw, g (wrap pw) = some pw) (dict : List DictWord)
    (hs : ∀ d ∈ dict, 1 ≤ d.word.length) :
    ∀ e ∈ dict.map (fun d => (d.word, wrap ⟨-(d.word.length : Int), d.weights⟩)), Pg g e.1 e.2 :=
  Pg_map g wrap hw dict _ _ fun d hd => Pinv_word _ _ (hs d hd)

theorem plain_by_entry (cfg : Cfg) (es : List (List α × PW)) (hes : ∀ e ∈ es, Pg some e.1 e.2) (sc : PmaScorer α)
    (hsc : buildBoundary cfg (addAll PW.add es []) = .ok sc)
    (seq : List α) (buf : List Int) (hbuf : buf.length = seq.length + 13) (states : List (Option Nat)) :
    ∃ r st, pmaAddScores sc seq buf states = .ok (r, st) ∧ r.length = buf.length ∧
      ∀ b, 7 + b < buf.length → r.getD (7 + b) 0 = buf.getD (7 + b) 0 + (es.map (entryScore some seq b)).sum :=
  scorer_by_entry cfg PW.add ⟨0, []⟩ some addOK_PW es hes sc (buildBoundary_ok cfg _ sc hsc) seq buf hbuf states

omit [DecidableEq α] in
theorem Pg_tagEntries (T : List (List (TagNgramData α))) : ∀ e ∈ tagEntries T, Pg PWT.weight e.1 e.2 := by
  intro e he pw hpw
  rw [tagEntries_weight _ e he] at hpw
  cases hpw

/-- the tag n-grams carry no boundary weight -/
theorem tag_by_entry (cfg : Cfg) (Wn n : Nat) (es : List (List α × PWT)) (hes : ∀ e ∈ es, Pg PWT.weight e.1 e.2)
    (T : List (List (TagNgramData α))) (sc : PmaScorer α)
    (hsc : buildBoundaryTag cfg Wn n (addAll PWT.add (es ++ tagEntries T) []) = .ok sc)
    (seq : List α) (buf : List Int) (hbuf : buf.length = seq.length + 13) (states : List (Option Nat)) :
    ∃ r st, pmaAddScores sc seq buf states = .ok (r, st) ∧ r.length = buf.length ∧
      ∀ b, 7 + b < buf.length →
        r.getD (7 + b) 0 = buf.getD (7 + b) 0 + (es.map (entryScore PWT.weight seq b)).sum := by
  obtain ⟨r, st, h1, h2, h3⟩ := scorer_by_entry cfg PWT.add PWT.empty PWT.weight addOK_PWT _
    (List.forall_mem_append.mpr ⟨hes, Pg_tagEntries T⟩)
    sc (buildBoundaryTag_ok cfg _ _ _ sc hsc) seq buf hbuf states
  refine ⟨r, st, h1, h2, fun b hb => ?_⟩
  rw [h3 b hb, List.map_append, isum_append, tag_entries_score, Int.add_zero]

end

theorem charPhase_correct0 (cfg : Cfg) (m : WModel) (tagNgrams : List (List (TagNgramData Char)))
    (cs : Option (PmaScorer Char)) (h : charScorerNew cfg m tagNgrams = .ok cs)
    (hcs : 1 ≤ m.charW → ∀ d ∈ m.charNgrams, 1 ≤ d.ngram.length ∧ d.ngram.length ≤ 2 * m.charW ∧
      d.weights.length = 2 * m.charW - d.ngram.length + 1)
    (hds : ∀ d ∈ m.dict, 1 ≤ d.word.length)
    (text : List Char) (buf : List Int) (hbuf : buf.length = text.length + 13) (states : List (Option Nat)) :
    ∃ r st, charPhase cs text states buf = .ok (r, st) ∧ r.length = buf.length ∧
      ∀ b, 7 + b < buf.length → r.getD (7 + b) 0 = buf.getD (7 + b) 0 +
        (ngramScore m.charW (if m.charW = 0 then [] else m.charNgrams) text b + dictScore m.dict text b) := by
  have hng : ∀ d ∈ (if m.charW = 0 then [] else m.charNgrams), 1 ≤ m.charW ∧ d.ngram.length ≤ 2 * m.charW ∧
      d.weights.length = 2 * m.charW - d.ngram.length + 1 := fun d hd =>
    have hd' := mem_ite_nil hd
    ⟨hd'.1, (hcs hd'.1 d hd'.2).2⟩
  have hc := charScorerNew_cases cfg m tagNgrams cs h
  generalize (if m.charW = 0 then [] else m.charNgrams) = ng at hng hc ⊢
  rcases hc with ⟨rfl, rfl, hd, _⟩ | ⟨sc, rfl, _, _, hsc⟩ | ⟨sc, rfl, _, hsc⟩
  · rw [hd]
    exact ⟨buf, states, rfl, rfl, fun b _ => (Int.add_zero _).symm⟩
  · obtain ⟨r, st, h1, h2, h3⟩ := tag_by_entry cfg _ _ _
      (List.forall_mem_append.mpr
        ⟨Pg_ngram PWT.weight ofPW (fun _ => rfl) m.charW ng hng,
         Pg_dict PWT.weight ofPW (fun _ => rfl) m.dict hds⟩)
      tagNgrams sc hsc text buf hbuf states
    refine ⟨r, st, h1, h2, fun b hb => ?_⟩
    rw [h3 b hb, List.map_append, isum_append, ngram_entries_score PWT.weight ofPW fun _ => rfl,
      dict_entries_score PWT.weight ofPW fun _ => rfl]
  · obtain ⟨r, st, h1, h2, h3⟩ := plain_by_entry cfg _
      (List.forall_mem_append.mpr
        ⟨Pg_ngram some (fun pw => pw) (fun _ => rfl) m.charW ng hng,
         Pg_dict some (fun pw => pw) (fun _ => rfl) m.dict hds⟩)
      sc hsc text buf hbuf states
    refine ⟨r, st, h1, h2, fun b hb => ?_⟩
    rw [h3 b hb, List.map_append, isum_append, ngram_entries_score some (fun pw => pw) fun _ => rfl,
      dict_entries_score some (fun pw => pw) fun _ => rfl]

theorem typePhase_correct0 (cfg : Cfg) (m : WModel) (tagNgrams : List (List (TagNgramData Nat)))
    (ts : Option TypeScorer) (h : typeScorerNew cfg m tagNgrams = .ok ts)
    (hts : 1 ≤ m.typeW → ∀ d ∈ m.typeNgrams, 1 ≤ d.ngram.length ∧ d.ngram.length ≤ 2 * m.typeW ∧
      d.weights.length = 2 * m.typeW - d.ngram.length + 1 ∧ ∀ t ∈ d.ngram, 1 ≤ t ∧ t ≤ 6)
    (types : List Nat) (htypes : ∀ t ∈ types, 1 ≤ t ∧ t ≤ 6) (nB : Nat) (hnB : nB ≤ types.length)
    (buf : List Int) (hbuf : buf.length = types.length + 13) (states : List (Option Nat)) :
    ∃ r st, typePhase ts types nB states buf = .ok (r, st) ∧ r.length = buf.length ∧
      ∀ b, b < nB → r.getD (7 + b) 0 = buf.getD (7 + b) 0 +
        ngramScore m.typeW (if m.typeW = 0 then [] else m.typeNgrams) types b := by
  have hng : ∀ d ∈ (if m.typeW = 0 then [] else m.typeNgrams), 1 ≤ m.typeW ∧ 1 ≤ d.ngram.length ∧
      d.ngram.length ≤ 2 * m.typeW ∧ d.weights.length = 2 * m.typeW - d.ngram.length + 1 ∧
      ∀ t ∈ d.ngram, 1 ≤ t ∧ t ≤ 6 := fun d hd =>
    have hd' := mem_ite_nil hd
    ⟨hd'.1, hts hd'.1 d hd'.2⟩
  have hc := typeScorerNew_cases cfg m tagNgrams ts h
  generalize (if m.typeW = 0 then [] else m.typeNgrams) = ng at hng hc ⊢
  have hng' : ∀ d ∈ ng, 1 ≤ m.typeW ∧ d.ngram.length ≤ 2 * m.typeW ∧
      d.weights.length = 2 * m.typeW - d.ngram.length + 1 := fun d hd =>
    ⟨(hng d hd).1, (hng d hd).2.2.1, (hng d hd).2.2.2.1⟩
  rcases hc with ⟨rfl, rfl, _⟩ | ⟨sc, rfl, _, _, hsc⟩ | ⟨rfl, _, _, _, _⟩ | ⟨sc, rfl, _, _, hsc⟩
  · exact ⟨buf, states, rfl, rfl, fun b _ => (Int.add_zero _).symm⟩
  · obtain ⟨r, st, h1, h2, h3⟩ := tag_by_entry cfg _ _ _
      (Pg_ngram PWT.weight ofPW (fun _ => rfl) m.typeW ng hng')
      tagNgrams sc hsc types buf hbuf states
    refine ⟨r, st, h1, h2, fun b hb => ?_⟩
    rw [h3 b (by omega), ngram_entries_score PWT.weight ofPW fun _ => rfl]
  · obtain ⟨r, h1, h2, h3⟩ := cache_correct ng m.typeW types (fun d hd => (hng d hd).2) htypes nB buf
      (by rw [padding_eq]; omega)
    refine ⟨r, [], ?_, h2, h3⟩
    show (cacheAddScores ng m.typeW types nB buf).map (fun b => (b, [])) = _
    rw [h1]
    rfl
  · obtain ⟨r, st, h1, h2, h3⟩ := plain_by_entry cfg _ (Pg_ngram some (fun pw => pw) (fun _ => rfl) m.typeW ng hng')
      sc hsc types buf hbuf states
    refine ⟨r, st, h1, h2, fun b hb => ?_⟩
    rw [h3 b (by omega), ngram_entries_score some (fun pw => pw) fun _ => rfl]

theorem zip_map_snd {β γ : Type} (l1 : List β) (l2 : List γ) :
    (l1.zip l2).map Prod.snd = l2.take l1.length := by
  induction l1 generalizing l2 with
  | nil => simp
  | cons a l1 ih =>
    cases l2 with
    | nil => simp
    | cons b l2 => simp [ih]

theorem visible_eq (buf : List Int) (n : Nat) (f : Nat → Int) (hlen : n + 7 ≤ buf.length)
    (h : ∀ b, b < n → buf.getD (7 + b) 0 = f b) : (buf.drop 7).take n = (List.range n).map f := by
  apply List.ext_getElem
  · rw [List.length_take, List.length_drop, List.length_map, List.length_range]
    omega
  · intro i h1 h2
    rw [List.length_map, List.length_range] at h2
    have hi := h i h2
    rw [List.getD_eq_getElem?_getD, ← List.getElem?_drop, ← List.getElem?_take_of_lt h2,
      List.getElem?_eq_getElem h1] at hi
    rw [List.getElem_map, List.getElem_range]
    exact hi

theorem finish_correct (m : WModel) (s : Sentence)
    (hbl : s.bounds.length + 1 = s.text.length) (pid : Nat) (buf2 : List Int) (cst tst : List (Option Nat))
    (hlen : buf2.length = s.text.length + 13)
    (hval : ∀ b, b < s.bounds.length → buf2.getD (7 + b) 0 = specScore m s.text b) :
    (finish s pid buf2 cst tst).boundaryScores = .ok (specScores m s.text) ∧
    (finish s pid buf2 cst tst).bounds = specBounds m s.text := by
  have hlen' : s.bounds.length + 7 ≤ buf2.length := by rw [hlen, ← hbl]; omega
  have hvis : (buf2.drop padding).take s.bounds.length = specScores m s.text := by
    rw [specScores, ← hbl, Nat.add_sub_cancel]
    exact visible_eq buf2 _ _ hlen' hval
  have hsl : (specBounds m s.text).length = s.bounds.length := by
    rw [specBounds, List.length_map, ← hvis, List.length_take, List.length_drop, padding_eq]
    omega
  have hb : (finish s pid buf2 cst tst).bounds = specBounds m s.text := by
    show (s.bounds.zip (buf2.drop padding)).map (fun (_, x) => if x > 0 then B.W else B.N)
      ++ s.bounds.drop (buf2.drop padding).length = _
    have hd : s.bounds.drop (buf2.drop padding).length = [] :=
      List.drop_eq_nil_of_le (by rw [List.length_drop, padding_eq]; omega)
    rw [hd, List.append_nil, specBounds, ← hvis, ← zip_map_snd, List.map_map]
    rfl
  refine ⟨?_, hb⟩
  unfold Sentence.boundaryScores
  rw [hb]
  show (if buf2.isEmpty then _ else if padding + (specBounds m s.text).length ≤ buf2.length then
    Res.ok ((buf2.drop padding).take (specBounds m s.text).length) else _) = _
  have hne2 : buf2.isEmpty = false := by
    cases buf2 with
    | nil => cases hlen'
    | cons _ _ => rfl
  rw [hne2, hsl, if_neg Bool.false_ne_true, if_pos (by rw [padding_eq]; omega), hvis]

/-- the specification is the linear model of `m` without the n-grams of a kind whose window is 0 (`V.dropW0 m` in `C01.lean`) -/
theorem predict_correct0 (cfg : Cfg) (m : WModel)
    (hcs : 1 ≤ m.charW → ∀ d ∈ m.charNgrams, 1 ≤ d.ngram.length ∧ d.ngram.length ≤ 2 * m.charW ∧
      d.weights.length = 2 * m.charW - d.ngram.length + 1)
    (hts : 1 ≤ m.typeW → ∀ d ∈ m.typeNgrams, 1 ≤ d.ngram.length ∧ d.ngram.length ≤ 2 * m.typeW ∧
      d.weights.length = 2 * m.typeW - d.ngram.length + 1 ∧ ∀ t ∈ d.ngram, 1 ≤ t ∧ t ≤ 6)
    (hds : ∀ d ∈ m.dict, 1 ≤ d.word.length)
    (pt : Bool) (p : Predictor) (hp : Predictor.new cfg m pt = .ok p)
    (s : Sentence) (_hne : s.text ≠ []) (htypes : s.types = typesOf s.text)
    (hbl : s.bounds.length + 1 = s.text.length) (pid : Nat) :
    ∃ s', p.predict pid s = .ok s' ∧
      s'.boundaryScores = .ok (specScores
        { m with charNgrams := if m.charW = 0 then [] else m.charNgrams,
                 typeNgrams := if m.typeW = 0 then [] else m.typeNgrams } s.text) ∧
      s'.bounds = specBounds
        { m with charNgrams := if m.charW = 0 then [] else m.charNgrams,
                 typeNgrams := if m.typeW = 0 then [] else m.typeNgrams } s.text ∧
      s'.text = s.text ∧ s'.types = s.types ∧ s'.tags = s.tags ∧ s'.nTags = s.nTags ∧ s'.pred = some pid := by
  obtain ⟨tc, tt, hc, ht, hbias⟩ := new_ok cfg m pt p hp
  have htl : s.types.length = s.text.length := by rw [htypes, typesOf, List.length_map]
  have hb0 : (List.replicate (padding * 2 + s.types.length - 1) p.bias).length = s.text.length + 13 := by
    rw [List.length_replicate, padding_eq, htl]; omega
  obtain ⟨buf1, cst, h1, hl1, hv1⟩ := charPhase_correct0 cfg m tc p.charScorer hc hcs hds s.text _ hb0 s.cstates
  obtain ⟨buf2, tst, h2, hl2, hv2⟩ := typePhase_correct0 cfg m tt p.typeScorer ht hts s.types
    (by rw [htypes]; exact typesOf_bounds s.text) s.bounds.length (by rw [htl, ← hbl]; exact Nat.le_succ _) buf1
    (by rw [hl1, hb0, htl]) s.tstates
  refine ⟨finish s pid buf2 cst tst, ?_, ?_⟩
  · rw [predict_eq, h1]
    show finishR s pid cst (typePhase p.typeScorer s.types s.bounds.length s.tstates buf1) = _
    rw [h2]; rfl
  · obtain ⟨hA, hB⟩ := finish_correct
        { m with charNgrams := if m.charW = 0 then [] else m.charNgrams,
                 typeNgrams := if m.typeW = 0 then [] else m.typeNgrams }
        s hbl pid buf2 cst tst (by rw [hl2, hl1, hb0])
      (by
        intro b hb
        have hb7 : 7 + b < s.text.length + 13 := by rw [← hbl]; omega
        -- the bias the buffer was filled with, then the two passes; the sum is `specScore` up to the order of the terms
        rw [hv2 b hb, hv1 b (by rw [hb0]; exact hb7), List.getD_eq_getElem?_getD, List.getElem?_replicate,
          if_pos (by rw [← hb0, List.length_replicate] at hb7; exact hb7), hbias, htypes, ← Int.add_assoc,
          Int.add_right_comm]
        rfl)
    exact ⟨hA, hB, rfl, rfl, rfl, rfl, rfl⟩

theorem predict_correct (cfg : Cfg) (m : WModel)
    (hcW : 1 ≤ m.charW)
    (hcs : ∀ d ∈ m.charNgrams, 1 ≤ d.ngram.length ∧ d.ngram.length ≤ 2 * m.charW ∧
      d.weights.length = 2 * m.charW - d.ngram.length + 1)
    (htW : 1 ≤ m.typeW)
    (hts : ∀ d ∈ m.typeNgrams, 1 ≤ d.ngram.length ∧ d.ngram.length ≤ 2 * m.typeW ∧
      d.weights.length = 2 * m.typeW - d.ngram.length + 1 ∧ ∀ t ∈ d.ngram, 1 ≤ t ∧ t ≤ 6)
    (hds : ∀ d ∈ m.dict, 1 ≤ d.word.length)
    (pt : Bool) (p : Predictor) (hp : Predictor.new cfg m pt = .ok p)
    (s : Sentence) (hne : s.text ≠ []) (htypes : s.types = typesOf s.text)
    (hbl : s.bounds.length + 1 = s.text.length) (pid : Nat) :
    ∃ s', p.predict pid s = .ok s' ∧
      s'.boundaryScores = .ok (specScores m s.text) ∧
      s'.bounds = specBounds m s.text ∧
      s'.text = s.text ∧ s'.types = s.types ∧ s'.tags = s.tags ∧ s'.nTags = s.nTags ∧ s'.pred = some pid := by
  have h := predict_correct0 cfg m (fun _ => hcs) (fun _ => hts) hds pt p hp s hne htypes hbl pid
  rw [if_neg (Nat.ne_of_gt hcW), if_neg (Nat.ne_of_gt htW)] at h
  exact h

end V.C01L
