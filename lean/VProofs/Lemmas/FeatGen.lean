import VProofs.Lemmas.FeatDict
/-!
# Lemmas for C10 — `genFeatures` by constructor, `examplesOf`
-/
namespace V.C10L

theorem count_map_of_ne {β : Type} (c : β → Feature) (y : Feature) (h : ∀ p, c p ≠ y) (l : List β) :
    (l.map c).count y = 0 :=
  List.count_eq_zero.mpr fun hm => by
    obtain ⟨p, _, hp⟩ := List.mem_map.mp hm
    exact h p hp

theorem count_dictFeats_of_ne (cfg : TrainCfg) (text : List Char) (i : Nat) (f : Feature)
    (h : ∀ len pos, f ≠ Feature.dictWord len pos) : (dictFeats cfg text i).count f = 0 :=
  List.count_eq_zero.mpr fun hm => by
    obtain ⟨len, pos, hf⟩ := mem_dictFeats hm
    exact h len pos hf

theorem count_char_genFeatures (cfg : TrainCfg) (text : List Char) (i : Nat) (g : List Char) (rel : Int) :
    (genFeatures cfg text i).count (Feature.charNgram g rel) =
      (ngramFeats cfg.charW cfg.charN text i).count (g, rel) := by
  rw [genFeatures, List.count_append, List.count_append, count_map_of_ne (fun p : List Nat × Int => Feature.typeNgram p.1 p.2) _ (fun _ => Feature.noConfusion),
    count_dictFeats_of_ne _ _ _ _ (fun _ _ => Feature.noConfusion), Nat.add_zero]
  exact count_map_inj (fun p : List Char × Int => Feature.charNgram p.1 p.2)
    (fun a b h => Prod.ext (Feature.charNgram.inj h).1 (Feature.charNgram.inj h).2) (g, rel) _

theorem count_type_genFeatures (cfg : TrainCfg) (text : List Char) (i : Nat) (g : List Nat) (rel : Int) :
    (genFeatures cfg text i).count (Feature.typeNgram g rel) =
      (ngramFeats cfg.typeW cfg.typeN (typesOf text) i).count (g, rel) := by
  rw [genFeatures, List.count_append, List.count_append, count_map_of_ne (fun p : List Char × Int => Feature.charNgram p.1 p.2) _ (fun _ => Feature.noConfusion),
    count_dictFeats_of_ne _ _ _ _ (fun _ _ => Feature.noConfusion), Nat.zero_add, Nat.add_zero]
  exact count_map_inj (fun p : List Nat × Int => Feature.typeNgram p.1 p.2)
    (fun a b h => Prod.ext (Feature.typeNgram.inj h).1 (Feature.typeNgram.inj h).2) (g, rel) _

theorem count_dict_genFeatures (cfg : TrainCfg) (text : List Char) (i len : Nat) (pos : DPos) :
    (genFeatures cfg text i).count (Feature.dictWord len pos) =
      (dictFeats cfg text i).count (Feature.dictWord len pos) := by
  rw [genFeatures, List.count_append, List.count_append, count_map_of_ne _ _ (fun _ => Feature.noConfusion),
    count_map_of_ne _ _ (fun _ => Feature.noConfusion), Nat.zero_add]

theorem mem_iff_of_count_eq {β γ : Type} [BEq β] [LawfulBEq β] [BEq γ] [LawfulBEq γ] {a : β} {l : List β} {b : γ} {m : List γ}
    (h : l.count a = m.count b) : a ∈ l ↔ b ∈ m := by
  rw [← List.count_pos_iff, ← List.count_pos_iff, h]

theorem examples_snd (cfg : TrainCfg) (text : List Char) (bs : List B) (k : Nat) :
    ((bs.zipIdx k).filterMap fun (b, i) =>
        if b = B.U then none else some (genFeatures cfg text i, b)).map Prod.snd =
      bs.filter (fun b => b ≠ B.U) := by
  induction bs generalizing k with
  | nil => rfl
  | cons b bs ih =>
    rw [List.zipIdx_cons, List.filterMap_cons, List.filter_cons]
    by_cases h : b = B.U
    · simp only [h, if_true, ne_eq, not_true_eq_false, decide_false]
      exact ih (k + 1)
    · simp only [h, if_false, ne_eq, not_false_eq_true, decide_true, List.map_cons]
      rw [ih (k + 1)]
      rfl

theorem examples_mem (cfg : TrainCfg) (s : Sentence) (e : List Feature × B) (he : e ∈ examplesOf cfg s) :
    ∃ i, i < s.bounds.length ∧ s.bounds[i]? = some e.2 ∧ e.2 ≠ B.U ∧ e.1 = genFeatures cfg s.text i := by
  unfold examplesOf at he
  rw [List.mem_filterMap] at he
  obtain ⟨⟨b, i⟩, hm, hf⟩ := he
  rw [List.mem_zipIdx_iff_getElem?] at hm
  simp only at hm hf
  by_cases hb : b = B.U
  · simp [hb] at hf
  · simp only [hb, if_false, Option.some.injEq] at hf
    subst hf
    have hi : i < s.bounds.length := by
      rcases List.getElem?_eq_some_iff.1 hm with ⟨h, _⟩
      exact h
    exact ⟨i, hi, hm, hb, rfl⟩

theorem examples_nil (cfg : TrainCfg) (s : Sentence) (h : ∀ b ∈ s.bounds, b = B.U) : examplesOf cfg s = [] := by
  unfold examplesOf
  rw [List.filterMap_eq_nil_iff]
  rintro ⟨b, i⟩ hm
  rw [List.mem_zipIdx_iff_getElem?] at hm
  have hb : b = B.U := h b (List.mem_of_getElem? hm)
  simp [hb]

end V.C10L
