import VProofs.Lemmas.EvalFmtDigits
/-!
# The printed digit string is a shortest one that reads back, and it has at most seventeen digits

The search of `f64ShortestDec` stops at the first length that has a candidate in the rounding interval; `decExponent a` is the
decimal exponent of `a`; at the seventeenth digit the decimals are closer together than the interval is wide.
-/
namespace V.FmtL
open V V.F64 V.QuantL

theorem roundDec_mono (m₁ m₂ : Nat) (p : Int) (h : m₁ ≤ m₂) : roundDec m₁ p ≤ roundDec m₂ p :=
  roundUnits_mono _ _ _ (decDen_pos p) (Nat.mul_le_mul_right _ (Nat.mul_le_mul_right _ h))

theorem cand_bounds (a : Nat) (p : Int) :
    decNum (cand a p) p ≤ decDen p * a ∧ decDen p * a < decNum (cand a p + 1) p := by
  unfold decNum decDen cand
  generalize unit_def : unit = U
  have hU : 0 < U := by rw [← unit_def]; exact Nat.two_pow_pos 1074
  have hden : 0 < U * 10 ^ p.toNat := Nat.mul_pos hU (Nat.pow_pos (by decide))
  have e1 : ∀ f, f * 10 ^ p.toNat * U = (U * 10 ^ p.toNat) * f := fun f => by ac_rfl
  rw [e1, e1, Nat.mul_comm (10 ^ (-p).toNat) a]
  generalize a * 10 ^ (-p).toNat = num
  generalize U * 10 ^ p.toNat = den at hden
  have h1 := Nat.div_add_mod num den
  have h2 := Nat.mod_lt num hden
  rw [Nat.mul_add, Nat.mul_one]
  generalize den * (num / den) = X at h1 ⊢
  omega

theorem round_x (a : Nat) (p : Int) (hrep : repUnits a = true) : roundUnits (decDen p * a) (decDen p) = a :=
  roundUnits_exact a _ (decDen_pos p) (repU_of_repUnits hrep)

/-- if ANY multiple of `10^p` reads back as `a`, then one of the two neighbours of `a` among these multiples does, since
rounding is monotone; so that neighbour lies in the rounding interval -/
theorem step_found (a : Nat) (p : Int) (M : Nat) (ha : 0 < a) (hrep : repUnits a = true) (h : roundDec M p = a) :
    decInInterval a (cand a p) p = true ∨ decInInterval a (cand a p + 1) p = true := by
  obtain ⟨b1, b2⟩ := cand_bounds a p
  have l1 : roundDec (cand a p) p ≤ roundUnits (decDen p * a) (decDen p) := roundUnits_mono _ _ _ (decDen_pos p) b1
  have l2 : roundUnits (decDen p * a) (decDen p) ≤ roundDec (cand a p + 1) p :=
    roundUnits_mono _ _ _ (decDen_pos p) (Nat.le_of_lt b2)
  rw [round_x a p hrep] at l1 l2
  by_cases hM : M ≤ cand a p
  · have := roundDec_mono M _ p hM
    exact Or.inl (interval_of_round a _ _ (decDen_pos p) ha (show roundDec (cand a p) p = a by omega))
  · have := roundDec_mono (cand a p + 1) M p (by omega)
    exact Or.inr (interval_of_round a _ _ (decDen_pos p) ha (show roundDec (cand a p + 1) p = a by omega))

theorem not_noCand {a : Nat} {p : Int}
    (h : decInInterval a (cand a p) p = true ∨ decInInterval a (cand a p + 1) p = true) : ¬ NoCand a p := by
  intro hn
  rw [hn.1, hn.2] at h
  exact h.elim Bool.noConfusion Bool.noConfusion

theorem search_first (a : Nat) (e : Int) (fuel k0 j : Nat) (hj : k0 ≤ j) (hjf : j < k0 + fuel)
    (hin : decInInterval a (cand a (e - (j : Int))) (e - (j : Int)) = true ∨
      decInInterval a (cand a (e - (j : Int)) + 1) (e - (j : Int)) = true) :
    ∃ (m k : Nat), shortestSearch a e fuel k0 = some (m, e - (k : Int)) ∧ k0 ≤ k ∧ k ≤ j ∧ m ≤ cand a (e - (k : Int)) + 1 := by
  have hno := not_noCand hin
  cases hs : shortestSearch a e fuel k0 with
  | none => exact absurd ((search_spec a e fuel k0).2 hs j hj hjf) hno
  | some r =>
    obtain ⟨m, p⟩ := r
    obtain ⟨k, rfl, q2, _, _, q5, q6⟩ := (search_spec a e fuel k0).1 m p hs
    exact ⟨m, k, rfl, q2, Nat.le_of_not_lt fun h => hno (q6 j hj h), q5⟩

theorem strip_le (fuel m : Nat) (p : Int) : (stripZeros fuel m p).1 ≤ m := by
  induction fuel generalizing m p with
  | zero => exact Nat.le_refl _
  | succ f ih =>
    unfold stripZeros
    split
    · exact Nat.le_trans (ih _ _) (Nat.div_le_self _ _)
    · exact Nat.le_refl _

theorem digits_len_le (m k : Nat) (h0 : 0 < m) (h10 : m % 10 ≠ 0) (hk : 1 ≤ k) (hle : m ≤ 10 ^ k) :
    (decDigits m).length ≤ k := by
  have h3 := (decDigits_facts m).2.2 h0
  have hlt : m < 10 ^ k := by
    apply Nat.lt_of_le_of_ne hle
    intro he
    obtain ⟨k', rfl⟩ : ∃ k', k = k' + 1 := ⟨k - 1, by omega⟩
    rw [he, Nat.pow_succ] at h10
    omega
  apply Nat.le_of_not_lt
  intro hgt
  have : 10 ^ k ≤ 10 ^ ((decDigits m).length - 1) := Nat.pow_le_pow_right (by decide) (by omega)
  omega

/-- the upper bound on the decimal exponent gives `⌊x/10^(e−k)⌋ < 10^k` -/
theorem cand_lt (a : Nat) (e : Int) (k : Nat) (hup : a * 10 ^ (-e).toNat < 10 ^ e.toNat * unit) :
    cand a (e - (k : Int)) < 10 ^ k := by
  unfold cand
  have sh := pow10_shift (e - k) k
  rw [Int.sub_add_cancel] at sh
  have hU : 0 < unit := Nat.two_pow_pos 1074
  generalize unit = U at hup hU ⊢
  have hN : 0 < 10 ^ (-e).toNat := Nat.pow_pos (by decide)
  have hN' : 0 < 10 ^ (-(e - (k : Int))).toNat := Nat.pow_pos (by decide)
  have hP' : 0 < 10 ^ (e - (k : Int)).toNat := Nat.pow_pos (by decide)
  generalize 10 ^ (-e).toNat = N at hup sh hN
  generalize 10 ^ e.toNat = P at hup sh
  generalize 10 ^ (-(e - (k : Int))).toNat = N' at sh hN' ⊢
  generalize 10 ^ (e - (k : Int)).toNat = P' at sh hP' ⊢
  generalize 10 ^ k = K at sh ⊢
  apply (Nat.div_lt_iff_lt_mul (Nat.mul_pos hU hP')).mpr
  -- compare after multiplying by `N`
  apply Nat.lt_of_mul_lt_mul_left (a := N)
  calc N * (a * N') = a * N * N' := by ac_rfl
    _ < P * U * N' := Nat.mul_lt_mul_of_pos_right hup hN'
    _ = U * (P * N') := by ac_rfl
    _ = N * (K * (U * P')) := by rw [sh]; ac_rfl

theorem leadingZeros_spec (fuel x : Nat) (hx : x < unit) :
    x * 10 ^ leadingZeros fuel x < unit ∧ leadingZeros fuel x ≤ fuel ∧
      (leadingZeros fuel x < fuel → unit ≤ x * 10 ^ (leadingZeros fuel x + 1)) := by
  induction fuel generalizing x with
  | zero =>
    unfold leadingZeros
    exact ⟨by rw [Nat.pow_zero, Nat.mul_one]; exact hx, Nat.le_refl _, fun h => absurd h (Nat.lt_irrefl _)⟩
  | succ f ih =>
    unfold leadingZeros
    split
    · rename_i h
      obtain ⟨i1, i2, i3⟩ := ih (x * 10) h
      refine ⟨?_, Nat.succ_le_succ i2, ?_⟩
      · rw [Nat.pow_succ, Nat.mul_comm _ 10, ← Nat.mul_assoc]; exact i1
      · intro hlt
        have := i3 (Nat.lt_of_succ_lt_succ hlt)
        rw [Nat.pow_succ _ (leadingZeros f (x * 10) + 1), Nat.mul_comm _ 10, ← Nat.mul_assoc]
        exact this
    · rename_i h
      refine ⟨by rw [Nat.pow_zero, Nat.mul_one]; exact hx, Nat.zero_le _, fun _ => ?_⟩
      rw [Nat.zero_add, Nat.pow_one]
      exact Nat.le_of_not_lt h

theorem unit_lt_pow : unit < 10 ^ 400 := by decide +kernel

/-- `10^(e−1) ≤ x < 10^e` for `e = decExponent a`, in the two forms used by the search -/
theorem decExponent_ok (a : Nat) (ha : 0 < a) :
    decNum 1 (decExponent a - 1) ≤ decDen (decExponent a - 1) * a ∧
      a * 10 ^ (-decExponent a).toNat < 10 ^ (decExponent a).toNat * unit := by
  unfold decExponent decNum decDen
  have hU : 0 < unit := Nat.two_pow_pos 1074
  by_cases hge : unit ≤ a
  · rw [if_pos hge]
    have hq : 0 < a / unit := Nat.div_pos hge hU
    have h1 := (decDigits_facts (a / unit)).2.2 hq
    have h2 := decDigits_upper (a / unit)
    generalize (decDigits (a / unit)).length = L at h1 h2
    have hL : 1 ≤ L := by
      apply Nat.pos_of_ne_zero
      intro h0
      rw [h0, Nat.pow_zero] at h2
      omega
    have e1 : ((L : Int) - 1).toNat = L - 1 := Int.toNat_sub L 1
    have e2 : (-((L : Int) - 1)).toNat = 0 := Int.toNat_of_nonpos (by omega)
    rw [e1, e2, Int.toNat_neg_natCast, Int.toNat_natCast, Nat.pow_zero, Nat.one_mul, Nat.one_mul, Nat.mul_one]
    have hdm := Nat.div_add_mod a unit
    have hml := Nat.mod_lt a hU
    constructor
    · calc 10 ^ (L - 1) * unit ≤ a / unit * unit := Nat.mul_le_mul_right _ h1
        _ ≤ a := Nat.div_mul_le_self a unit
    · have h3 : (a / unit + 1) * unit ≤ 10 ^ L * unit := Nat.mul_le_mul_right _ h2
      rw [Nat.add_mul, Nat.one_mul, Nat.mul_comm] at h3
      generalize unit * (a / unit) = X at h3 hdm
      generalize 10 ^ L * unit = Y at h3 ⊢
      generalize unit = U at *
      omega
  · rw [if_neg hge]
    have hlt : a < unit := Nat.lt_of_not_le hge
    obtain ⟨s1, s2, s3⟩ := leadingZeros_spec 400 a hlt
    generalize leadingZeros 400 a = z at s1 s2 s3
    have hz : z < 400 := by
      apply Nat.lt_of_not_le
      intro h400
      have p1 : 10 ^ 400 ≤ 10 ^ z := Nat.pow_le_pow_right (by decide) h400
      have p2 : 10 ^ z ≤ a * 10 ^ z := Nat.le_mul_of_pos_left _ ha
      exact absurd (Nat.lt_of_le_of_lt (Nat.le_trans p1 p2) s1) (Nat.not_lt.mpr (Nat.le_of_lt unit_lt_pow))
    have e1 : (-(z : Int) - 1).toNat = 0 := Int.toNat_of_nonpos (by omega)
    have e2 : -(-(z : Int) - 1) = ((z + 1 : Nat) : Int) := by omega
    rw [e1, e2, Int.neg_neg, Int.toNat_natCast, Int.toNat_natCast, Int.toNat_neg_natCast, Nat.pow_zero, Nat.one_mul]
    rw [Nat.mul_comm (10 ^ (z + 1)) a]
    exact ⟨s3 hz, s1⟩

/-- the search of `f64ShortestDec` ends within its 20 rounds (it does not fall back to the exact decimal expansion) -/
def f64ShortestFoundWithinFuel (a : Nat) : Bool := (shortestSearch a (decExponent a) 20 1).isSome

theorem digits_le_of_search (a : Nat) (ha : 0 < a) (hrep : repUnits a = true) (m k : Nat)
    (hs : shortestSearch a (decExponent a) 20 1 = some (m, decExponent a - (k : Int))) (hk : 1 ≤ k)
    (hm : m ≤ cand a (decExponent a - (k : Int)) + 1) : (f64ShortestDigits a).1.length ≤ k := by
  have hc := cand_lt a (decExponent a) k (decExponent_ok a ha).2
  obtain ⟨hm0, hm10⟩ := shortestDec_mant a ha hrep
  have hle : (f64ShortestDec a).1 ≤ m := by
    unfold f64ShortestDec
    simp only []
    rw [hs]
    simp only [Option.getD_some]
    exact strip_le _ _ _
  show (decDigits (f64ShortestDec a).1).length ≤ k
  exact digits_len_le _ k (Nat.pos_of_ne_zero hm0) hm10 hk (by omega)

/-- every decimal `m' × 10^p'` with `m' < 10^k'` (at most `k'` digits) that reads back as `a` has at least as many digits as
the printed one -/
theorem shortest_min (a : Nat) (ha : 0 < a) (hrep : repUnits a = true) (hfound : f64ShortestFoundWithinFuel a = true)
    (m' : Nat) (p' : Int) (k' : Nat) (hk' : 1 ≤ k') (hm' : m' < 10 ^ k') (hr : roundDec m' p' = a) :
    (f64ShortestDigits a).1.length ≤ k' := by
  obtain ⟨hlo, _⟩ := decExponent_ok a ha
  unfold f64ShortestFoundWithinFuel at hfound
  generalize he : decExponent a = e at hfound hlo
  -- a multiple of `10^(e−j)` that reads back, for some `1 ≤ j ≤ k'`
  have hj : ∃ j : Nat, 1 ≤ j ∧ j ≤ k' ∧ ∃ M, roundDec M (e - (j : Int)) = a := by
    by_cases hp : e - (k' : Int) ≤ p'
    · refine ⟨k', hk', Nat.le_refl _, m' * 10 ^ (p' - (e - (k' : Int))).toNat, ?_⟩
      have e0 : e - (k' : Int) + ((p' - (e - (k' : Int))).toNat : Int) = p' := by omega
      rw [roundDec_mul_pow, e0]
      exact hr
    · -- at a finer scale `m' × 10^p'` is below `10^(e−1) ≤ x`, so `1 × 10^(e−1)` reads back as well
      refine ⟨1, Nat.le_refl _, hk', 1, ?_⟩
      show roundDec 1 (e - 1) = a
      have hle : m' ≤ 1 * 10 ^ (e - 1 - p').toNat := by
        rw [Nat.one_mul]
        have : 10 ^ k' ≤ 10 ^ (e - 1 - p').toNat := Nat.pow_le_pow_right (by decide) (by omega)
        omega
      have e0 : p' + ((e - 1 - p').toNat : Int) = e - 1 := by omega
      have h1 := roundDec_mono _ _ p' hle
      rw [hr, roundDec_mul_pow, e0] at h1
      have h2 := roundUnits_mono _ _ _ (decDen_pos (e - 1)) hlo
      rw [round_x a _ hrep] at h2
      exact Nat.le_antisymm h2 h1
  obtain ⟨j, hj1, hjk, M, hM⟩ := hj
  -- the search stops at the first length with a candidate, and `j` has one
  cases hsr : shortestSearch a e 20 1 with
  | none => rw [hsr] at hfound; cases hfound
  | some r =>
    obtain ⟨m, p⟩ := r
    obtain ⟨k, rfl, q2, _, _, q5, q6⟩ := (search_spec a e 20 1).1 m p hsr
    have hkj : k ≤ j := Nat.le_of_not_lt fun h => not_noCand (step_found a _ M ha hrep hM) (q6 j hj1 h)
    subst he
    exact Nat.le_trans (digits_le_of_search a ha hrep m k hsr q2 q5) (Nat.le_trans hkj hjk)

/-- no digit string with fewer digits reads back as `a` (the search ends within its fuel for every double:
`found_within_fuel`) -/
theorem display_shortest_found (a : Nat) (ha : 0 < a) (hat : a < top) (hrep : repUnits a = true)
    (hok : f64ShortestFoundWithinFuel a = true) (ds' : List Nat) (e' : Int)
    (hlen : ds'.length < (f64ShortestDigits a).1.length) (hdig : ∀ d ∈ ds', d < 10) (hne : ds' ≠ []) :
    decimalToF64 ds' e' ≠ .fin false a := by
  intro h
  unfold decimalToF64 at h
  rw [EvalF.pack_eq_fin _ _ hat] at h
  have hl : 1 ≤ ds'.length := List.length_pos_iff.mpr hne
  have := shortest_min a ha hrep hok _ _ ds'.length hl (ofDigits_lt ds' hdig) h
  omega

/-- the linear core: `F ≤ X < F + S` (the double between two neighbouring multiples of the spacing) and the spacing is
smaller than the interval (`dn` below, `2·Y` above, in quarter units): one of the neighbours is strictly inside -/
theorem close_core (X Y F S dn : Nat) (b1 : F ≤ X) (b2 : X < F + S) (h4 : 4 * S < dn + 2 * Y) (hdn : 0 < dn)
    (hY : 0 < Y) :
    (4 * X < 4 * F + dn ∧ 4 * F < 4 * X + 2 * Y) ∨ (4 * X < 4 * (F + S) + dn ∧ 4 * (F + S) < 4 * X + 2 * Y) := by
  omega

/-- spacing at most `a·10^-16` ⇒ one of the two neighbours of `a` lies in the rounding interval: the interval of `a = c·2^t`
is `2^t` wide and `a < 2^53·2^t`, `2^53 < 10^16`; just above a power of two it is `¾·2^t` wide, but there `a = 2^52·2^t` -/
theorem near_interval (a f S D : Nat) (hD : 0 < D) (ha : 0 < a) (hrep : repUnits a = true)
    (b1 : f * S ≤ D * a) (b2 : D * a < f * S + S) (hS : 10 ^ 16 * S ≤ D * a) :
    F64.inRoundInterval a (f * S) D = true ∨ F64.inRoundInterval a (f * S + S) D = true := by
  obtain ⟨c, t, rfl, _, hc, hn⟩ := rep_normal a ha hrep
  rw [inRoundInterval_normal c t _ D hc hn, inRoundInterval_normal c t _ D hc hn]
  have eX : D * (c * 2 ^ t) = D * 2 ^ t * c := by ac_rfl
  rw [eX] at b1 b2 hS
  have hY : 0 < D * 2 ^ t := Nat.mul_pos hD (Nat.two_pow_pos t)
  generalize hlo : (if c = 2 ^ 52 ∧ t ≠ 0 then D * 2 ^ t else 2 * (D * 2 ^ t)) = lo
  have h4 : 4 * S < lo + 2 * (D * 2 ^ t) ∧ 0 < lo := by
    rw [← hlo]
    split
    · rename_i h
      rw [h.1] at hS
      generalize D * 2 ^ t = Y at hS hY ⊢
      omega
    · have := Nat.mul_lt_mul_of_pos_left hc hY
      generalize D * 2 ^ t * c = X at hS this
      generalize D * 2 ^ t = Y at this hY ⊢
      omega
  unfold InIv
  generalize D * 2 ^ t * c = X at b1 b2 ⊢
  generalize D * 2 ^ t = Y at hY h4 ⊢
  generalize f * S = F at b1 b2 ⊢
  have key := close_core X Y F S lo b1 b2 h4.1 h4.2 hY
  by_cases hp : c % 2 = 0
  · rw [if_pos hp, if_pos hp]
    exact key.imp (fun k => ⟨Nat.le_of_lt k.1, Nat.le_of_lt k.2⟩) fun k => ⟨Nat.le_of_lt k.1, Nat.le_of_lt k.2⟩
  · rw [if_neg hp, if_neg hp]
    exact key

/-- the lower bound on the decimal exponent, at the scale of the 17th digit: `10^16 · 10^p ≤ x` for `p = e − 17` -/
theorem scale17 (a : Nat) (p q : Int) (hq : q = p + 16) (hlo : decNum 1 q ≤ decDen q * a) :
    10 ^ 16 * (10 ^ p.toNat * unit) ≤ 10 ^ (-p).toNat * a := by
  unfold decNum decDen at hlo
  have sh := pow10_shift p 16
  rw [show p + ((16 : Nat) : Int) = q by omega] at sh
  rw [Nat.one_mul] at hlo
  have hN : 0 < 10 ^ (-q).toNat := Nat.pow_pos (by decide)
  generalize unit = U at hlo ⊢
  generalize 10 ^ (-q).toNat = Nq at hlo sh hN
  generalize 10 ^ q.toNat = Pq at hlo sh
  generalize 10 ^ (-p).toNat = Np at sh ⊢
  generalize 10 ^ p.toNat = Pp at sh ⊢
  generalize (10 : Nat) ^ 16 = K at sh ⊢
  -- compare after multiplying by `Nq`
  refine Nat.le_of_mul_le_mul_left (c := Nq) ?_ hN
  calc Nq * (K * (Pp * U)) = Nq * Pp * K * U := by ac_rfl
    _ = Np * (Pq * U) := by rw [← sh]; ac_rfl
    _ ≤ Np * (Nq * a) := Nat.mul_le_mul_left _ hlo
    _ = Nq * (Np * a) := by ac_rfl

theorem search_17 (a : Nat) (ha : 0 < a) (hrep : repUnits a = true) :
    ∃ (m k : Nat), shortestSearch a (decExponent a) 20 1 = some (m, decExponent a - (k : Int)) ∧ 1 ≤ k ∧ k ≤ 17 ∧
      m ≤ cand a (decExponent a - (k : Int)) + 1 := by
  obtain ⟨hlo, _⟩ := decExponent_ok a ha
  generalize decExponent a = e at hlo ⊢
  have hS := scale17 a (e - ((17 : Nat) : Int)) (e - 1) (by omega) hlo
  obtain ⟨b1, b2⟩ := cand_bounds a (e - ((17 : Nat) : Int))
  have hin : decInInterval a (cand a (e - ((17 : Nat) : Int))) (e - ((17 : Nat) : Int)) = true ∨
      decInInterval a (cand a (e - ((17 : Nat) : Int)) + 1) (e - ((17 : Nat) : Int)) = true := by
    unfold decInInterval
    unfold decNum at b1 b2 ⊢
    generalize cand a (e - ((17 : Nat) : Int)) = f at b1 b2 ⊢
    have e1 : f * 10 ^ (e - ((17 : Nat) : Int)).toNat * unit = f * (10 ^ (e - ((17 : Nat) : Int)).toNat * unit) :=
      Nat.mul_assoc _ _ _
    have e2 : (f + 1) * 10 ^ (e - ((17 : Nat) : Int)).toNat * unit =
        f * (10 ^ (e - ((17 : Nat) : Int)).toNat * unit) + 10 ^ (e - ((17 : Nat) : Int)).toNat * unit := by
      rw [Nat.mul_assoc, Nat.add_mul, Nat.one_mul]
    rw [e1] at b1 ⊢
    rw [e2] at b2 ⊢
    exact near_interval a f _ _ (decDen_pos _) ha hrep b1 b2 hS
  exact search_first a e 20 1 17 (by decide) (by decide) hin

theorem found_within_fuel (a : Nat) (ha : 0 < a) (hrep : repUnits a = true) : f64ShortestFoundWithinFuel a = true := by
  obtain ⟨m, k, q1, _, _, _⟩ := search_17 a ha hrep
  unfold f64ShortestFoundWithinFuel
  rw [q1]; rfl

theorem digits_le_17 (a : Nat) (ha : 0 < a) (hrep : repUnits a = true) : (f64ShortestDigits a).1.length ≤ 17 := by
  obtain ⟨m, k, q1, q2, q3, q4⟩ := search_17 a ha hrep
  exact Nat.le_trans (digits_le_of_search a ha hrep m k q1 q2 q4) q3

end V.FmtL
