import VProofs.Lemmas.TagAsmSizes
import VProofs.Lemmas.MapRes
/-!
# Helper lemmas for C12: which tokens get a tag model (`assembleTags`)

The `BTreeMap<&str, Vec<TagExample>>` of `TagTrainer::train` is a key-sorted association list; both loops that fill it are
folds of `insK`, and the invariants speak about it through `lookupK`.
-/
namespace V.C12L
open V V.PermL V.C09L

abbrev EMap := List (List Char × List (List Tag))

theorem ltStr_st : StrictTotal (lexLt ltChar) := lexLt_st ltChar_st

theorem exInsert_eq_insK (k : List Char) (v : List Tag) :
    ∀ (m : EMap), exInsert k v m = insK (lexLt ltChar) k (fun o => o.getD [] ++ [v]) m
  | [] => rfl
  | (k', vs) :: r => by
    rw [exInsert, insK, exInsert_eq_insK k v r]
    rfl

theorem foldl_seen {σ τ : Type} (f : σ → τ → σ) (I : σ → List τ → Prop)
    (hstep : ∀ s seen x, I s seen → I (f s x) (seen ++ [x])) :
    ∀ (l : List τ) (s : σ) (seen : List τ), I s seen → I (l.foldl f s) (seen ++ l)
  | [], _, _, h => (List.append_nil _).symm ▸ h
  | x :: l, s, seen, h => by
    rw [List.foldl_cons, List.append_cons]
    exact foldl_seen f I hstep l _ _ (hstep s seen x h)

/-- the tag rows of the examples with surface `k`, in corpus order -/
def rowsOf (seen : List TagExample) (k : List Char) : List (List Tag) :=
  (seen.filter fun e => e.surface = k).map (·.tags)

theorem rowsOf_snoc (seen : List TagExample) (e : TagExample) (k : List Char) :
    rowsOf (seen ++ [e]) k = rowsOf seen k ++ if e.surface = k then [e.tags] else [] := by
  unfold rowsOf
  rw [List.filter_append, List.map_append]
  congr 1
  by_cases h : e.surface = k <;> simp [h]

theorem rowsOf_eq_nil (seen : List TagExample) (k : List Char) : rowsOf seen k = [] ↔ ¬ ∃ e ∈ seen, e.surface = k := by
  unfold rowsOf
  rw [List.map_eq_nil_iff, List.filter_eq_nil_iff]
  simp only [decide_eq_true_eq, not_exists, not_and]

/-- `none` for no rows -/
def rowsOpt (r : List (List Tag)) : Option (List (List Tag)) := if r = [] then none else some r

theorem rowsOpt_getD (r : List (List Tag)) : (rowsOpt r).getD [] = r := by
  unfold rowsOpt
  split
  · next h => exact h.symm
  · rfl

/-- after the examples `seen`: a key is present exactly when it has rows, and then it holds them -/
def CInv (m : EMap) (seen : List TagExample) : Prop :=
  KSorted (lexLt ltChar) m ∧ ∀ k, lookupK m k = rowsOpt (rowsOf seen k)

theorem cinv_step (m : EMap) (seen : List TagExample) (e : TagExample) (h : CInv m seen) :
    CInv (exInsert e.surface e.tags m) (seen ++ [e]) := by
  obtain ⟨hs, hl⟩ := h
  rw [exInsert_eq_insK]
  refine ⟨insK_sorted ltStr_st _ _ hs, fun k => ?_⟩
  rw [lookupK_insK ltStr_st _ _ hs, rowsOf_snoc]
  split
  · next hk =>
    subst hk
    rw [hl, rowsOpt_getD, if_pos rfl, rowsOpt, if_neg (List.append_ne_nil_of_right_ne_nil _ (List.cons_ne_nil _ _))]
  · next hk => rw [if_neg (fun h => hk h.symm), List.append_nil, hl]

theorem cinv_fold (corpus : List TagExample) :
    CInv (corpus.foldl (fun acc e => exInsert e.surface e.tags acc) []) corpus :=
  foldl_seen _ CInv (fun m seen e => cinv_step m seen e) corpus [] [] ⟨List.Pairwise.nil, fun _ => rfl⟩

/-- the loop body over `default_tags` in `TagTrainer::train` -/
def dstep (acc : EMap) (d : List Char × List Tag) : EMap :=
  if d.2.any Option.isSome && !(acc.any fun x => x.1 = d.1) then exInsert d.1 d.2 acc else acc

theorem any_key (m : EMap) (k : List Char) : (m.any fun x => x.1 = k) = (lookupK m k).isSome := by
  unfold lookupK
  rw [Option.isSome_map, Bool.eq_iff_iff, List.any_eq_true, List.find?_isSome]

theorem dstep_eq {m : EMap} (hs : KSorted (lexLt ltChar) m) (d : List Char × List Tag) :
    dstep m d = if d.2.any Option.isSome = true then insK (lexLt ltChar) d.1 (fun o => o.getD [d.2]) m else m := by
  unfold dstep
  rw [any_key]
  cases d.2.any Option.isSome with
  | false => rfl
  | true =>
    rw [Bool.true_and, if_pos rfl]
    cases hv : lookupK m d.1 with
    | none =>
      rw [exInsert_eq_insK]
      exact insK_congr ltStr_st d.1 hs (by rw [hv]; rfl)
    | some v => exact (insK_eq_self ltStr_st d.1 hs hv rfl).symm

/-- has an entry with a tag in the dictionary -/
def InDict (l : List (List Char × List Tag)) (x : List Char) : Prop := ∃ d ∈ l, d.1 = x ∧ d.2.any Option.isSome = true

theorem inDict_snoc (l : List (List Char × List Tag)) (d : List Char × List Tag) (x : List Char) :
    InDict (l ++ [d]) x ↔ InDict l x ∨ (d.1 = x ∧ d.2.any Option.isSome = true) := by
  simp only [InDict, List.mem_append, List.mem_singleton, or_and_right, exists_or, exists_eq_left]

/-- after the dictionary entries `seen`: the keys are the corpus tokens and the tagged entries seen; corpus rows are untouched -/
def DInv (corpus : List TagExample) (m : EMap) (seen : List (List Char × List Tag)) : Prop :=
  KSorted (lexLt ltChar) m ∧
  (∀ x, lookupK m x ≠ none ↔ (∃ e ∈ corpus, e.surface = x) ∨ InDict seen x) ∧
  ∀ x, (∃ e ∈ corpus, e.surface = x) → lookupK m x = some (rowsOf corpus x)

theorem dinv_step (corpus : List TagExample) (m : EMap) (seen : List (List Char × List Tag))
    (d : List Char × List Tag) (h : DInv corpus m seen) : DInv corpus (dstep m d) (seen ++ [d]) := by
  obtain ⟨hs, hk, hv⟩ := h
  rw [dstep_eq hs]
  split
  · next hd =>
    refine ⟨insK_sorted ltStr_st _ _ hs, fun x => ?_, fun x hx => ?_⟩
    · rw [lookupK_insK ltStr_st _ _ hs, inDict_snoc]
      split
      · next hx => exact ⟨fun _ => Or.inr (Or.inr ⟨hx.symm, hd⟩), fun _ => Option.some_ne_none _⟩
      · next hx =>
        rw [hk]
        exact ⟨fun h => h.elim Or.inl (fun h => Or.inr (Or.inl h)),
          fun h => h.elim Or.inl (fun h => h.elim Or.inr (fun h => absurd h.1.symm hx))⟩
    · rw [lookupK_insK ltStr_st _ _ hs]
      split
      · next hxd => rw [← hxd, hv x hx]; rfl
      · exact hv x hx
  · next hd =>
    refine ⟨hs, fun x => ?_, hv⟩
    rw [hk, inDict_snoc]
    exact ⟨fun h => h.elim Or.inl (fun h => Or.inr (Or.inl h)),
      fun h => h.elim Or.inl (fun h => h.elim Or.inr (fun h => absurd h.2 hd))⟩

theorem dinv_fold (corpus : List TagExample) (dict : List (List Char × List Tag)) :
    DInv corpus (dict.foldl dstep (corpus.foldl (fun acc e => exInsert e.surface e.tags acc) [])) dict := by
  obtain ⟨hs, hl⟩ := cinv_fold corpus
  refine foldl_seen dstep (DInv corpus) (dinv_step corpus) dict _ [] ⟨hs, fun x => ?_, fun x hx => ?_⟩
  · rw [hl, rowsOpt]
    have := rowsOf_eq_nil corpus x
    split
    · next h => exact ⟨fun h' => absurd rfl h', fun h' => h'.elim (fun h' => absurd h' (this.mp h)) (fun ⟨_, h', _⟩ => nomatch h')⟩
    · next h => exact ⟨fun _ => Or.inl (Classical.not_not.mp (mt this.mpr h)), fun _ => Option.some_ne_none _⟩
  · rw [hl, rowsOpt, if_neg (mt (rowsOf_eq_nil corpus x).mp (fun h => h hx))]

theorem mapRes_map {β γ δ : Type} (f : β → Res γ) (g : γ → δ) (k : β → δ)
    (hf : ∀ x y, f x = .ok y → g y = k x) :
    ∀ (l : List β) (ys : List γ), mapRes f l = .ok ys → ys.map g = l.map k
  | [], ys, h => by cases Res.ok.inj h; rfl
  | x :: xs, ys, h => by
    obtain ⟨y, ys', h1, h2, rfl⟩ := mapRes_cons_ok h
    rw [List.map_cons, List.map_cons, hf x y h1, mapRes_map f g k hf xs ys' h2]

theorem assembleTags_eq (corpus : List TagExample) (dict : List (List Char × List Tag)) (trace : List TagTraceItem) :
    assembleTags corpus dict trace =
      mapRes (fun (e : List Char × List (List Tag)) => assembleTag e.1 e.2 trace)
        (dict.foldl dstep (corpus.foldl (fun acc e => exInsert e.surface e.tags acc) [])) := rfl

end V.C12L
