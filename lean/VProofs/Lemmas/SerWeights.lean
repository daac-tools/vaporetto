import VModel.PredictorSer
/-!
# C14 helper lemmas: `trim_end_zeros`, and `WeightVector` survives the wire
-/
namespace V.C14L
open V

theorem dropWhile_replicate_zero_append (k : Nat) (x : List Int) :
    (List.replicate k (0 : Int) ++ x).dropWhile (· == 0) = x.dropWhile (· == 0) := by
  induction k with
  | zero => simp
  | succ k ih => simp [List.replicate_succ, ih]

theorem exists_replicate_dropWhile (x : List Int) :
    ∃ j, x = List.replicate j (0 : Int) ++ x.dropWhile (· == 0) := by
  induction x with
  | nil => exact ⟨0, rfl⟩
  | cons a r ih =>
    by_cases h : a = 0
    · obtain ⟨j, hj⟩ := ih
      refine ⟨j + 1, ?_⟩
      subst h
      simp only [List.dropWhile_cons, beq_self_eq_true, if_true, List.replicate_succ, List.cons_append]
      rw [← hj]
    · refine ⟨0, ?_⟩
      simp [h]

theorem trimEndZeros_append_replicate (l : List Int) (k : Nat) :
    trimEndZeros (l ++ List.replicate k 0) = trimEndZeros l := by
  simp only [trimEndZeros, List.reverse_append, List.reverse_replicate, dropWhile_replicate_zero_append]

theorem exists_trimEndZeros_append (l : List Int) :
    ∃ j, l = trimEndZeros l ++ List.replicate j (0 : Int) := by
  obtain ⟨j, hj⟩ := exists_replicate_dropWhile l.reverse
  refine ⟨j, ?_⟩
  have := congrArg List.reverse hj
  simp only [List.reverse_reverse, List.reverse_append, List.reverse_replicate] at this
  exact this

theorem trimEndZeros_length_le (l : List Int) : (trimEndZeros l).length ≤ l.length := by
  obtain ⟨j, hj⟩ := exists_trimEndZeros_append l
  have := congrArg List.length hj
  simp only [List.length_append, List.length_replicate] at this
  omega

theorem trim_repad (l : List Int) (n : Nat) (h : l.length ≤ n) :
    trimEndZeros l ++ List.replicate (n - (trimEndZeros l).length) 0 = l ++ List.replicate (n - l.length) 0 := by
  obtain ⟨j, hj⟩ := exists_trimEndZeros_append l
  generalize trimEndZeros l = t at hj
  subst hj
  simp only [List.length_append, List.length_replicate] at h ⊢
  rw [List.append_assoc, List.replicate_append_replicate]
  congr 2
  omega

theorem ofList_reser (cfg : Cfg) (l : List Int) : (WV.ofList cfg l).reser cfg = WV.ofList cfg l := by
  unfold WV.reser
  by_cases h : (cfg.fixed && decide (l.length ≤ fixedLen)) = true
  · have hw : WV.ofList cfg l = .fixed (l ++ List.replicate (fixedLen - l.length) 0) := by
      simp only [WV.ofList, h, if_true]
    rw [hw]
    simp only [WV.wire, trimEndZeros_append_replicate]
    have hl : l.length ≤ fixedLen := by
      simp only [Bool.and_eq_true, decide_eq_true_eq] at h; exact h.2
    have hf : cfg.fixed = true := by
      simp only [Bool.and_eq_true] at h; exact h.1
    have ht := trimEndZeros_length_le l
    have h2 : (cfg.fixed && decide ((trimEndZeros l).length ≤ fixedLen)) = true := by
      simp only [hf, Bool.true_and, decide_eq_true_eq]; omega
    simp only [WV.ofList, h2, if_true]
    rw [trim_repad l fixedLen hl]
  · have hw : WV.ofList cfg l = .variable l := by
      simp only [WV.ofList, h]; rfl
    rw [hw]
    simp only [WV.wire]
    exact hw

end V.C14L
