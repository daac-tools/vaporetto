import VProofs.Lemmas.ScoreBuild
/-!
# The scorers built by `charScorerNew` / `typeScorerNew` (pattern-matching variants) realise the specification (C01)
-/
namespace V.C01L
variable {α : Type} [DecidableEq α] {W : Type}

/-- what one entry contributes to boundary `b` -/
def entryScore (g : W → Option PW) (seq : List α) (b : Nat) (e : List α × W) : Int :=
  ((occEnds e.1 seq).map fun (c : Nat) => evg g ((b : Int) + 1 - (c : Int)) e.2).sum

theorem sum_by_entry (es : List (List α × W)) (g : W → Option PW) (seq : List α) (b : Nat) :
    ((List.range seq.length).map fun (k : Nat) =>
      ((es.filter fun e => e.1.isSuffixOf (seq.take (k + 1))).map fun e =>
        evg g (((7 + b : Nat) : Int) - ((k : Int) + 7)) e.2).sum).sum
      = (es.map (entryScore g seq b)).sum := by
  have h1 : ∀ k ∈ List.range seq.length,
      ((es.filter fun e => e.1.isSuffixOf (seq.take (k + 1))).map fun e =>
        evg g (((7 + b : Nat) : Int) - ((k : Int) + 7)) e.2).sum
      = (es.map fun e => if e.1.isSuffixOf (seq.take (k + 1)) then
          evg g ((b : Int) + 1 - ((k + 1 : Nat) : Int)) e.2 else 0).sum := by
    intro k _
    rw [isum_filter]
    apply isum_map_congr
    intro e _
    have : ((7 + b : Nat) : Int) - ((k : Int) + 7) = (b : Int) + 1 - ((k + 1 : Nat) : Int) := by omega
    rw [this]
  rw [isum_map_congr _ _ _ h1, isum_comm]
  apply isum_map_congr
  intro e _
  unfold entryScore
  rw [occ_sum]

theorem entryScore_some (g : W → Option PW) (seq : List α) (b : Nat) (e : List α × W) (off : Int) (w : List Int)
    (h : g e.2 = some ⟨off, w⟩) :
    entryScore g seq b e = ((occEnds e.1 seq).map fun (c : Nat) => getZ w ((b : Int) + 1 - (c : Int) - off)).sum := by
  unfold entryScore
  apply isum_map_congr
  intro c _
  simp [evg, h, PW.denote]

theorem ngram_entries_score (g : W → Option PW) (wrap : PW → W) (hw : ∀ pw, g (wrap pw) = some pw)
    (Wn : Nat) (tbl : List (NgramData α)) (seq : List α) (b : Nat) :
    ((tbl.map fun d => (d.ngram, wrap ⟨-(Wn : Int), d.weights⟩)).map (entryScore g seq b)).sum
      = ngramScore Wn tbl seq b := by
  unfold ngramScore
  rw [List.map_map]
  apply isum_map_congr
  intro d _
  show entryScore g seq b (d.ngram, wrap ⟨-(Wn : Int), d.weights⟩) = _
  rw [entryScore_some g seq b _ _ _ (hw _)]
  apply isum_map_congr
  intro c _
  congr 1; omega

theorem dict_entries_score (g : W → Option PW) (wrap : PW → W) (hw : ∀ pw, g (wrap pw) = some pw)
    (tbl : List DictWord) (seq : List Char) (b : Nat) :
    ((tbl.map fun d => (d.word, wrap ⟨-(d.word.length : Int), d.weights⟩)).map (entryScore g seq b)).sum
      = dictScore tbl seq b := by
  unfold dictScore
  rw [List.map_map]
  apply isum_map_congr
  intro d _
  show entryScore g seq b (d.word, wrap ⟨-(d.word.length : Int), d.weights⟩) = _
  rw [entryScore_some g seq b _ _ _ (hw _)]
  apply isum_map_congr
  intro c _
  congr 1; omega

omit [DecidableEq α] in
theorem tagEntries_weight (t : List (List (TagNgramData α))) : ∀ e ∈ tagEntries t, e.2.weight = none := by
  intro e he
  unfold tagEntries at he
  obtain ⟨⟨tm, i⟩, _, he⟩ := List.mem_flatMap.mp he
  obtain ⟨d, _, he⟩ := List.mem_flatMap.mp he
  obtain ⟨w, _, he⟩ := List.mem_map.mp he
  rw [← he]

theorem tag_entries_score (t : List (List (TagNgramData α))) (seq : List α) (b : Nat) :
    ((tagEntries t).map (entryScore PWT.weight seq b)).sum = 0 :=
  isum_map_eq_zero _ _ fun e he => isum_map_eq_zero _ _ fun c _ => by simp [evg, tagEntries_weight t e he]

theorem addOK_PW : AddOK PW.add (some : PW → Option PW) := fun _ _ => rfl

theorem addOK_PWT : AddOK PWT.add PWT.weight := by
  intro a b
  show (match a.weight, b.weight with
      | some y, some x => some (y.add x)
      | some y, none => some y
      | none, w => w) = _
  cases a.weight <;> cases b.weight <;> rfl

omit [DecidableEq α] in
theorem Pinv_ngram (Wn : Nat) (k : List α) (w : List Int) (hW : 1 ≤ Wn) (h2 : k.length ≤ 2 * Wn)
    (h3 : w.length = 2 * Wn - k.length + 1) : Pinv k ⟨-(Wn : Int), w⟩ := by
  refine ⟨by simp only; omega, fun h8 => ?_⟩
  simp only at h8 ⊢
  omega

omit [DecidableEq α] in
theorem Pinv_word (k : List α) (w : List Int) (h1 : 1 ≤ k.length) : Pinv k ⟨-(k.length : Int), w⟩ := by
  refine ⟨by simp only; omega, fun _ => ?_⟩
  simp only
  omega

theorem buildBoundary_ok (cfg : Cfg) (es : List (List α × PW)) (sc : PmaScorer α)
    (h : buildBoundary cfg (addAll PW.add es []) = .ok sc) : BuiltFrom cfg PW.add ⟨0, []⟩ some es sc := by
  unfold buildBoundary at h
  simp only at h
  split at h
  · rename_i hok
    simp only [Res.ok.injEq] at h
    subst h
    exact And.intro rfl (And.intro rfl hok)
  · cases h

theorem buildBoundaryTag_ok (cfg : Cfg) (window n : Nat) (es : List (List α × PWT)) (sc : PmaScorer α)
    (h : buildBoundaryTag cfg window n (addAll PWT.add es []) = .ok sc) :
    BuiltFrom cfg PWT.add PWT.empty PWT.weight es sc := by
  unfold buildBoundaryTag at h
  simp only at h
  split at h
  · split at h
    · rename_i hok
      simp only [Res.ok.injEq] at h
      subst h
      exact And.intro rfl (And.intro rfl hok)
    · cases h
  · cases h
  · cases h
  · cases h

theorem scorer_by_entry (cfg : Cfg) (add : W → W → W) (d : W) (g : W → Option PW) (hg : AddOK add g)
    (es : List (List α × W)) (hes : ∀ e ∈ es, Pg g e.1 e.2) (sc : PmaScorer α)
    (hsc : BuiltFrom cfg add d g es sc)
    (seq : List α) (buf : List Int) (hbuf : buf.length = seq.length + 13) (states : List (Option Nat)) :
    ∃ r st, pmaAddScores sc seq buf states = .ok (r, st) ∧ r.length = buf.length ∧
      ∀ b, 7 + b < buf.length → r.getD (7 + b) 0 = buf.getD (7 + b) 0 + (es.map (entryScore g seq b)).sum := by
  obtain ⟨r, st, h1, h2, h3⟩ := scorer_correct cfg add d g hg es hes sc hsc seq buf hbuf states
  refine ⟨r, st, h1, h2, fun b hb => ?_⟩
  rw [h3 (7 + b) hb, sum_by_entry]

end V.C01L
