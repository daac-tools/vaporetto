import VProofs.Lemmas.CsvFileField
/-!
# Records and files: the spellings an editor produces (any field in quotes, LF / CR LF / CR terminators, blank lines, no
terminator after the last record), and the writer's own spelling as one of them
-/
namespace V.C19F
open V

/-- a field as an editor may write it: `(true, f)` = in quotes although they may be unnecessary, `(false, f)` = as the writer does -/
def csvFieldV (qf : Bool × List Char) : List Char := if qf.1 then csvQuoted qf.2 else csvField qf.2

def csvJoinV : List (Bool × List Char) → List Char
  | [] => []
  | [f] => csvFieldV f
  | f :: fs => csvFieldV f ++ ',' :: csvJoinV fs

theorem joinV_cons2 (f g : Bool × List Char) (fs : List (Bool × List Char)) :
    csvJoinV (f :: g :: fs) = csvFieldV f ++ ',' :: csvJoinV (g :: fs) := rfl

theorem readsField_fieldV (qf : Bool × List Char) : ReadsField (csvFieldV qf) qf.2 := by
  unfold csvFieldV
  by_cases hq : qf.1 = true
  · rw [if_pos hq]; exact readsField_quoted qf.2
  · rw [if_neg hq]; exact readsField_field qf.2

theorem joinV_run : ∀ (fields : List (Bool × List Char)), fields ≠ [] → ∀ (ra : List (List Char)) (rest : List Char),
    RecEnd rest →
    csvGo .startField [] ra (csvJoinV fields ++ rest) =
        (ra.reverse ++ fields.map (·.2)) :: csvGo .startRecord [] [] rest.tail ∧
      csvStrictGo .startField (csvJoinV fields ++ rest) = csvStrictGo .startRecord rest.tail := by
  intro fields
  induction fields with
  | nil => intro h; exact absurd rfl h
  | cons f fs ih =>
    intro _ ra rest hrest
    cases fs with
    | nil =>
      obtain ⟨hg, hs⟩ := readsField_fieldV f ra rest hrest.fieldEnd
      exact ⟨hg.trans (go_inField_recEnd f.2 ra hrest), hs.trans (strict_inField_recEnd hrest)⟩
    | cons g gs =>
      obtain ⟨hg, hs⟩ := readsField_fieldV f ra (',' :: (csvJoinV (g :: gs) ++ rest)) (Or.inl rfl)
      obtain ⟨ihg, ihs⟩ := ih (List.cons_ne_nil g gs) (f.2 :: ra) rest hrest
      rw [joinV_cons2, List.append_assoc, List.cons_append, hg, hs, go_inField_comma, ihg, List.reverse_cons,
        List.append_assoc]
      exact ⟨rfl, ihs⟩

theorem fieldV_head (qf : Bool × List Char) :
    qf = (false, []) ∨ ∃ c cs, csvFieldV qf = c :: cs ∧ c ≠ '\n' ∧ c ≠ '\r' := by
  have hquoted : ∀ f, ∃ c cs, csvQuoted f = c :: cs ∧ c ≠ '\n' ∧ c ≠ '\r' :=
    fun f => ⟨'"', _, rfl, by decide, by decide⟩
  obtain ⟨q, f⟩ := qf
  cases q with
  | true => exact Or.inr (hquoted f)
  | false =>
    show _ ∨ ∃ c cs, csvField f = c :: cs ∧ _
    unfold csvField
    by_cases hq : csvNeedsQuotes f = true
    · rw [if_pos hq]; exact Or.inr (hquoted f)
    · rw [if_neg hq]
      cases f with
      | nil => exact Or.inl rfl
      | cons c cs =>
        obtain ⟨_, _, h3, h4⟩ := special_false (needsQuotes_cons (Bool.not_eq_true _ ▸ hq)).1
        exact Or.inr ⟨c, cs, rfl, h4, h3⟩

/-- `hamb` excludes the one spelling that reads as a blank line: a single unquoted empty field -/
theorem joinV_head {fields : List (Bool × List Char)} (hne : fields ≠ []) (hamb : fields ≠ [(false, [])]) :
    ∃ c cs, csvJoinV fields = c :: cs ∧ c ≠ '\n' ∧ c ≠ '\r' := by
  match fields, hne, hamb with
  | [f], _, hamb =>
    rcases fieldV_head f with h | h
    · subst h; exact absurd rfl hamb
    · exact h
  | f :: g :: gs, _, _ =>
    rw [joinV_cons2]
    rcases fieldV_head f with h | ⟨c, cs, e, h⟩
    · subst h; exact ⟨',', _, rfl, by decide, by decide⟩
    · exact ⟨c, _, by rw [e]; rfl, h⟩

theorem recordV_run {fields : List (Bool × List Char)} (hne : fields ≠ []) (hamb : fields ≠ [(false, [])])
    {rest : List Char} (hrest : RecEnd rest) :
    csvGo .startRecord [] [] (csvJoinV fields ++ rest) = fields.map (·.2) :: csvGo .startRecord [] [] rest.tail ∧
      csvStrictGo .startRecord (csvJoinV fields ++ rest) = csvStrictGo .startRecord rest.tail := by
  obtain ⟨c, cs, e, h1, h2⟩ := joinV_head hne hamb
  have h := joinV_run fields hne [] rest hrest
  rw [e, List.cons_append] at h ⊢
  rw [go_startRecord h1 h2, strict_startRecord h1 h2]
  exact h

theorem last_run {last : List (Bool × List Char)} (hamb : last ≠ [(false, [])]) :
    csvGo .startRecord [] [] (csvJoinV last) = (if last = [] then [] else [last.map (·.2)]) ∧
      csvStrictGo .startRecord (csvJoinV last) = true := by
  by_cases h : last = []
  · subst h; exact ⟨rfl, rfl⟩
  · rw [if_neg h, ← List.append_nil (csvJoinV last)]
    exact recordV_run h hamb (rest := []) trivial

/-- `p`, at the start of a record, is read as the record `r` without a lenient transition, up to the start of the next one -/
def ReadsRec (p : List Char) (r : List (List Char)) : Prop :=
  ∀ rest : List Char, csvGo .startRecord [] [] (p ++ rest) = r :: csvGo .startRecord [] [] rest ∧
    csvStrictGo .startRecord (p ++ rest) = csvStrictGo .startRecord rest

theorem readsRec_recordV {fields : List (Bool × List Char)} {term : List Char} (hne : fields ≠ [])
    (hamb : fields ≠ [(false, [])]) (hterm : term ≠ []) (hblank : ∀ c ∈ term, c = '\n' ∨ c = '\r') :
    ReadsRec (csvJoinV fields ++ term) (fields.map (·.2)) := by
  intro rest
  cases term with
  | nil => exact absurd rfl hterm
  | cons t ts =>
    obtain ⟨hg, hs⟩ := recordV_run hne hamb (rest := t :: (ts ++ rest)) (hblank t List.mem_cons_self)
    obtain ⟨bg, bs⟩ := blank_run ts (fun c hc => hblank c (List.mem_cons_of_mem _ hc)) [] [] rest
    rw [List.append_assoc, List.cons_append, hg, hs]
    exact ⟨congrArg _ bg, bs⟩

theorem readsRec_flatMap {α : Type} (g : α → List Char) (o : α → List (List Char)) : ∀ l : List α,
    (∀ a ∈ l, ReadsRec (g a) (o a)) → ∀ rest : List Char,
    csvGo .startRecord [] [] (l.flatMap g ++ rest) = l.map o ++ csvGo .startRecord [] [] rest ∧
      csvStrictGo .startRecord (l.flatMap g ++ rest) = csvStrictGo .startRecord rest := by
  intro l
  induction l with
  | nil => intro _ rest; exact ⟨rfl, rfl⟩
  | cons a t ih =>
    intro h rest
    obtain ⟨hg, hs⟩ := h a List.mem_cons_self (t.flatMap g ++ rest)
    obtain ⟨ihg, ihs⟩ := ih (fun b hb => h b (List.mem_cons_of_mem _ hb)) rest
    rw [List.flatMap_cons, List.append_assoc, hg, hs, ihg]
    exact ⟨rfl, ihs⟩

theorem join_cons2 (f g : List Char) (fs : List (List Char)) :
    csvJoin (f :: g :: fs) = csvField f ++ ',' :: csvJoin (g :: fs) := rfl

theorem join_eq_joinV : ∀ fields : List (List Char), csvJoin fields = csvJoinV (fields.map fun f => (false, f))
  | [] => rfl
  | [_] => rfl
  | f :: g :: gs => by
    rw [join_cons2, join_eq_joinV (g :: gs)]
    rfl

theorem join_eq_nil {fields : List (List Char)} (hne : fields ≠ []) (h : csvJoin fields = []) : fields = [[]] := by
  match fields, hne, h with
  | [f], _, h =>
    have hf : csvField f = [] := h
    unfold csvField at hf
    by_cases hq : csvNeedsQuotes f = true
    · rw [if_pos hq] at hf; cases hf
    · rw [if_neg hq] at hf; rw [hf]
  | f :: g :: gs, _, h =>
    rw [join_cons2] at h
    exact absurd h (List.append_ne_nil_of_right_ne_nil _ (List.cons_ne_nil _ _))

/-- every record of the writer is one of the accepted spellings, terminated by LF -/
theorem record_eq_V {fields : List (List Char)} (hne : fields ≠ []) :
    ∃ fv : List (Bool × List Char), fv.map (·.2) = fields ∧ fv ≠ [] ∧ fv ≠ [(false, [])] ∧
      csvRecord fields = csvJoinV fv ++ ['\n'] := by
  cases hj : csvJoin fields with
  | nil =>
    rw [join_eq_nil hne hj]
    exact ⟨[(true, [])], rfl, List.cons_ne_nil _ _, by decide, by decide⟩
  | cons c cs =>
    refine ⟨fields.map fun f => (false, f), ?_, mt List.map_eq_nil_iff.1 hne, ?_, ?_⟩
    · rw [List.map_map]; exact List.map_id fields
    · -- then `csvJoin fields` would be the empty text
      intro h
      rw [join_eq_joinV, h] at hj
      cases hj
    · rw [csvRecord, ← join_eq_joinV, hj]

theorem readsRec_record {fields : List (List Char)} (hne : fields ≠ []) : ReadsRec (csvRecord fields) fields := by
  obtain ⟨fv, e1, h1, h2, e2⟩ := record_eq_V hne
  rw [e2, ← e1]
  exact readsRec_recordV h1 h2 (List.cons_ne_nil _ _) (fun c hc => Or.inl (List.mem_singleton.1 hc))

theorem written_run (records : List (List (List Char))) (hne : ∀ r ∈ records, r ≠ []) (rest : List Char) :
    csvGo .startRecord [] [] (records.flatMap csvRecord ++ rest) = records ++ csvGo .startRecord [] [] rest ∧
      csvStrictGo .startRecord (records.flatMap csvRecord ++ rest) = csvStrictGo .startRecord rest := by
  have h := readsRec_flatMap csvRecord id records (fun r hr => readsRec_record (hne r hr)) rest
  rwa [List.map_id] at h

end V.C19F
