import VProofs.Lemmas.ParserTotal
/-!
The invariant of every run of the `parse_tokenized` state machine, and what it gives for an accepted input: the parser
does not panic, the result is well shaped, everything stored is NUL-free and no boundary is unknown.
-/
namespace V

/-- one tag list per character, one known label between any two characters, nothing stored contains NUL -/
structure TokInv (s : TokSt) : Prop where
  tmp_len : s.tagsTmp.length = s.text.length
  bounds_len : s.bounds.length = s.text.length - 1
  text_nul : NulFree s.text
  bounds_nu : ∀ b ∈ s.bounds, b ≠ B.U
  tmp_nul : ∀ ts ∈ s.tagsTmp, ∀ t ∈ ts, NulFree t
  str_nul : ∀ t, s.tagStr = some t → NulFree t

theorem NulFree.nil : NulFree [] := fun _ h => absurd h List.not_mem_nil

theorem tokInv_init : TokInv {} :=
  ⟨rfl, rfl, .nil, fun _ h => absurd h List.not_mem_nil, fun _ h => absurd h List.not_mem_nil, fun _ h => nomatch h⟩

theorem TokInv.tmp_ne {s : TokSt} (h : TokInv s) (hne : s.text ≠ []) : s.tagsTmp ≠ [] := fun e =>
  hne (List.eq_nil_of_length_eq_zero (by rw [← h.tmp_len, e]; rfl))

theorem NulFree.concat {t : List Char} {c : Char} (h : NulFree t) (hc : c ≠ '\x00') : NulFree (t ++ [c]) := by
  intro d hd
  rcases List.mem_append.mp hd with hd | hd
  · exact h d hd
  · rw [List.mem_singleton] at hd
    exact hd ▸ hc

theorem TokStep.inv {s s' : TokSt} {c : Char} (hs : TokStep s c s') (h : TokInv s) : TokInv s' := by
  obtain ⟨h1, h2, h3, h4, h5, h6⟩ := h
  cases hs with
  | esc => exact ⟨h1, h2, h3, h4, h5, h6⟩
  | space tt _ e =>
    exact ⟨(flushTags_length e).trans h1, h2, h3, h4, flushTags_forall e h5 h6, fun _ h => nomatch h⟩
  | slash tt _ e =>
    refine ⟨(flushTags_length e).trans h1, h2, h3, h4, flushTags_forall e h5 h6, fun t ht => ?_⟩
    cases ht
    exact .nil
  | tagChar t hc ht =>
    refine ⟨h1, h2, h3, h4, h5, fun u hu => ?_⟩
    cases hu
    exact (h6 t ht).concat hc
  | char hc ht =>
    refine ⟨?_, ?_, h3.concat hc, ?_, ?_, fun t e => ?_⟩
    · simp only [pushChar, List.length_append, List.length_singleton, h1]
    · by_cases hne : s.text = []
      · simp only [pushChar, hne, if_true, List.nil_append, List.length_singleton, Nat.sub_self, h2, List.length_nil]
      · have := List.length_pos_iff.mpr hne
        simp only [pushChar, hne, if_false, List.length_append, List.length_singleton, h2]
        omega
    · intro b hb
      simp only [pushChar] at hb
      split at hb
      · exact h4 b hb
      · rcases List.mem_append.mp hb with hb | hb
        · exact h4 b hb
        · rw [List.mem_singleton] at hb
          subst hb
          split <;> exact fun h => nomatch h
    · intro ts hts
      rcases List.mem_append.mp hts with hts | hts
      · exact h5 ts hts
      · rw [List.mem_singleton] at hts
        subst hts
        exact fun _ h => absurd h List.not_mem_nil
    · rw [show (pushChar s c).tagStr = s.tagStr from rfl, ht] at e
      cases e

theorem tokRun_inv (cs : List Char) (s : TokSt) (h : TokInv s) : (tokRun s cs).All TokInv := by
  induction cs generalizing s with
  | nil => exact h
  | cons c cs ih =>
    rw [tokRun_cons]
    exact (tokStep_cases s c h.tmp_ne).bind fun s' hs => ih s' (hs.inv h)

theorem parseTokenized_parsedOK (x : List Char) :
    (parseTokenized x).All fun p =>
      ∃ tt, ParsedOK p tt ∧ (∀ b ∈ p.bounds, b ≠ B.U) ∧ ∀ ts ∈ tt, ∀ t ∈ ts, NulFree t := by
  rw [parseTokenized_eq]
  split
  · trivial
  · refine (tokRun_inv x {} tokInv_init).bind fun s hs => ?_
    rw [tokFinish]
    split
    · trivial
    · split
      · trivial
      · next hpos hne =>
        refine (finishTags_all _ _ _ (hs.tmp_ne hne) _).mono fun p ⟨tt, e, hp⟩ => ?_
        subst hp
        have := List.length_pos_iff.mpr hne
        exact ⟨tt, ⟨rfl, (flushTags_length e).trans hs.tmp_len, by have := hs.bounds_len; show s.bounds.length + 1 = s.text.length; omega,
          hs.text_nul⟩, hs.bounds_nu, flushTags_forall e hs.tmp_nul hs.str_nul⟩

theorem parseTokenized_all (x : List Char) : (parseTokenized x).All GoodParsed :=
  (parseTokenized_parsedOK x).mono fun _ ⟨_, h, _⟩ => h.good

namespace C03L

theorem parseTokenized_nul (x : List Char) (p : Parsed) (e : parseTokenized x = .ok p) :
    NulFree p.text ∧ (∀ b ∈ p.bounds, b ≠ B.U) ∧ ∀ t, some t ∈ p.tags → t ≠ [] ∧ NulFree t := by
  obtain ⟨tt, h, hb, ht⟩ := (parseTokenized_parsedOK x).of_ok e
  refine ⟨h.text_nul, hb, fun t hm => ?_⟩
  rw [h.tags_eq] at hm
  obtain ⟨hne, ts, hts, hmem⟩ := mem_padTags hm
  exact ⟨hne, ht ts hts t hmem⟩

end C03L
end V
