import VProofs.Lemmas.AsmFold
import VProofs.Lemmas.PermIns
/-!
# C09 helpers: the order of `feature_ids` (a `HashMap`) in `Trainer::train` is not observable

On every state that the loop can reach, a trace entry is a checked write: it panics, with a site that depends on the entry
alone, or it applies a pure update to one cell of the state (`asmStep_eq`).  Updates for different features commute, so two
entries with different features commute up to the site string of a panic; hence `asmFold`, and `assembleBoundary`, give the
same outcome on every permutation of a trace with distinct features.  No hypothesis on the features (`Generable` is not
needed): whether an entry panics does not depend on the state.
-/
namespace V.C09L
open V V.PermL

section
variable {α : Type} [DecidableEq α]

/-- a reachable n-gram table: strictly sorted keys, every vector has the length its key dictates -/
def TabWF (lt : List α → List α → Bool) (W : Nat) (m : List (List α × List Int)) : Prop :=
  KSorted lt m ∧ ∀ e ∈ m, e.2.length = 2 * W + 1 - e.1.length ∧ e.1.length ≤ 2 * W

/-- position `W − len − rel` of the feature `(g, rel)` -/
def ngPos (W : Nat) (g : List α) (rel : Int) : Int := (W : Int) - (g.length : Int) - rel

/-- the entry `(g, rel)` can be stored (else `placeNgram` panics, whatever the table holds) -/
@[reducible] def NgOK (W : Nat) (g : List α) (rel : Int) : Prop :=
  g.length ≤ 2 * W ∧ 0 ≤ ngPos W g rel ∧ (ngPos W g rel).toNat < 2 * W + 1 - g.length

/-- `or_insert_with(|| vec![0; 2W + 1 − len])[pos] = w` on the optional old vector -/
def ngF (W : Nat) (g : List α) (rel w : Int) (o : Option (List Int)) : List Int :=
  (o.getD (List.replicate (2 * W + 1 - g.length) 0)).set (ngPos W g rel).toNat w

/-- the site at which an entry that cannot be stored panics -/
def ngSite (W : Nat) (g : List α) (rel : Int) : String :=
  if g.length ≤ 2 * W then
    if 0 ≤ ngPos W g rel then "weights[pos]: index out of bounds" else "usize::try_from(window - len - rel).unwrap()"
  else "window * 2 - len + 1 underflow"

theorem sortedUpsert_eq (lt : List α → List α → Bool) (k : List α) (mk : Unit → Res (List Int))
    (upd : List Int → Res (List Int)) (c : Res Unit) (f : Option (List Int) → List Int)
    (hmk : mk () = c.map fun _ => f none) :
    ∀ (m : List (List α × List Int)), (∀ v, (k, v) ∈ m → upd v = c.map fun _ => f (some v)) →
      sortedUpsert lt k mk upd m = c.map fun _ => insK lt k f m := by
  have map_map : ∀ {β γ : Type} (g : Unit → β) (h : β → γ), (c.map g).map h = c.map fun u => h (g u) := by
    intro β γ g h
    cases c <;> rfl
  intro m
  induction m with
  | nil =>
    intro _
    rw [sortedUpsert, hmk, map_map]
    rfl
  | cons e r ih =>
    obtain ⟨k', v'⟩ := e
    intro hupd
    by_cases hk : k' = k
    · rw [sortedUpsert, if_pos hk, hupd v' (hk ▸ List.mem_cons_self), map_map, insK_cons_eq lt k f v' r hk]
    · by_cases hlt : lt k k' = true
      · rw [sortedUpsert, if_neg hk, if_pos hlt, hmk, map_map, insK_cons_lt lt k f v' r hk hlt]
      · rw [sortedUpsert, if_neg hk, if_neg hlt, ih fun v hv => hupd v (List.mem_cons_of_mem _ hv), map_map,
          insK_cons_gt lt k f v' r hk hlt]

theorem placeNgram_eq_insK {lt : List α → List α → Bool} {W : Nat} {m : List (List α × List Int)} (hwf : TabWF lt W m)
    (g : List α) (rel w : Int) :
    placeNgram lt W g rel w m =
      if NgOK W g rel then .ok (insK lt g (ngF W g rel w) m) else .panic (ngSite W g rel) := by
  -- the stored vector of `g`, and the fresh one, have the length the key dictates
  have hset : ∀ v : List Int, v.length = 2 * W + 1 - g.length → g.length ≤ 2 * W →
      setAt v (ngPos W g rel) w =
        (if NgOK W g rel then Res.ok () else .panic (ngSite W g rel)).map fun _ => v.set (ngPos W g rel).toNat w := by
    intro v hv hl
    unfold setAt ngSite
    rw [if_pos hl, hv]
    by_cases h0 : 0 ≤ ngPos W g rel
    · rw [if_pos h0, if_pos h0]
      by_cases h1 : (ngPos W g rel).toNat < 2 * W + 1 - g.length
      · rw [if_pos h1, if_pos ⟨hl, h0, h1⟩]
        rfl
      · rw [if_neg h1, if_neg (fun h : NgOK W g rel => h1 h.2.2)]
        rfl
    · rw [if_neg h0, if_neg h0, if_neg (fun h : NgOK W g rel => h0 h.2.1)]
      rfl
  unfold placeNgram
  refine (sortedUpsert_eq lt g _ _ (if NgOK W g rel then Res.ok () else .panic (ngSite W g rel)) (ngF W g rel w) ?_ m
    fun v hv => hset v (hwf.2 _ hv).1 (hwf.2 _ hv).2).trans ?_
  · show (if g.length ≤ 2 * W then setAt (List.replicate (2 * W + 1 - g.length) 0) (ngPos W g rel) w else _) = _
    by_cases hl : g.length ≤ 2 * W
    · rw [if_pos hl]
      exact hset _ (List.length_replicate ..) hl
    · rw [if_neg hl, if_neg (fun h : NgOK W g rel => hl h.1), ngSite, if_neg hl]
      rfl
  · split <;> rfl

theorem insK_tabWF {lt : List α → List α → Bool} (st : StrictTotal lt) {W : Nat} {m : List (List α × List Int)}
    (hwf : TabWF lt W m) (g : List α) (rel w : Int) (hok : NgOK W g rel) : TabWF lt W (insK lt g (ngF W g rel w) m) := by
  refine ⟨insK_sorted st g _ hwf.1, fun e he => ?_⟩
  rcases mem_insK lt g _ m e he with h | h | ⟨v, hv, h⟩
  · exact hwf.2 e h
  · rw [h]
    exact ⟨(List.length_set ..).trans (List.length_replicate ..), hok.1⟩
  · rw [h]
    exact ⟨(List.length_set ..).trans (hwf.2 _ hv).1, hok.1⟩

theorem ngF_comm {lt : List α → List α → Bool} (st : StrictTotal lt) {W : Nat} {m : List (List α × List Int)}
    (hs : KSorted lt m) (g₁ g₂ : List α) (rel₁ rel₂ w₁ w₂ : Int) (hne : ¬ (g₁ = g₂ ∧ rel₁ = rel₂))
    (ok₁ : NgOK W g₁ rel₁) (ok₂ : NgOK W g₂ rel₂) :
    insK lt g₂ (ngF W g₂ rel₂ w₂) (insK lt g₁ (ngF W g₁ rel₁ w₁) m)
      = insK lt g₁ (ngF W g₁ rel₁ w₁) (insK lt g₂ (ngF W g₂ rel₂ w₂) m) := by
  refine insK_comm st g₁ g₂ _ _ ?_ hs
  intro hg o
  subst hg
  refine List.set_comm _ _ fun hpos => hne ⟨rfl, ?_⟩
  have h : ngPos W g₁ rel₁ = ngPos W g₁ rel₂ := by
    rw [← Int.toNat_of_nonneg ok₁.2.1, ← Int.toNat_of_nonneg ok₂.2.1, hpos]
  unfold ngPos at h
  omega

end

/-- the `DictionaryWord` arm of `asmStep` on the bucket vector -/
def dictUpd (len : Nat) (pos : DPos) (w : Int) (d : List (Int × Int × Int)) : List (Int × Int × Int) :=
  d.modify (len - 1) fun e => dictTriple pos e.1 e.2.1 e.2.2 w

theorem dictUpd_comm (len₁ len₂ : Nat) (p₁ p₂ : DPos) (w₁ w₂ : Int) (hne : ¬ (len₁ = len₂ ∧ p₁ = p₂))
    (d : List (Int × Int × Int)) (h₁ : len₁ ≠ 0) (h₂ : len₂ ≠ 0) :
    dictUpd len₂ p₂ w₂ (dictUpd len₁ p₁ w₁ d) = dictUpd len₁ p₁ w₁ (dictUpd len₂ p₂ w₂ d) := by
  unfold dictUpd
  by_cases hl : len₁ = len₂
  · subst hl
    have hp : p₁ ≠ p₂ := fun h => hne ⟨rfl, h⟩
    rw [List.modify_modify_eq, List.modify_modify_eq]
    refine congrArg (d.modify (len₁ - 1)) (funext fun e => ?_)
    cases p₁ <;> cases p₂ <;> first | exact absurd rfl hp | rfl
  · exact List.modify_modify_ne _ _ d fun h =>
      hl (Nat.sub_one_cancel (Nat.pos_of_ne_zero h₁) (Nat.pos_of_ne_zero h₂) h)

/-- a state the loop of `Trainer::train` can reach -/
structure AsmWF (cfg : TrainCfg) (a : Asm) : Prop where
  chars : TabWF (lexLt ltChar) cfg.charW a.charM
  types : TabWF (lexLt ltNat) cfg.typeW a.typeM
  dlen : a.dictW.length = cfg.dictMaxLen

theorem asmWF_init (cfg : TrainCfg) : AsmWF cfg { dictW := List.replicate cfg.dictMaxLen (0, 0, 0) } :=
  ⟨⟨List.Pairwise.nil, fun _ he => nomatch he⟩, ⟨List.Pairwise.nil, fun _ he => nomatch he⟩, List.length_replicate ..⟩

/-- whether the entry of a feature can be stored -/
def okF (cfg : TrainCfg) : Feature → Prop
  | .charNgram g rel => NgOK cfg.charW g rel
  | .typeNgram g rel => NgOK cfg.typeW g rel
  | .dictWord len _ => ¬ (len = 0 ∨ cfg.dictMaxLen < len)

instance (cfg : TrainCfg) : (f : Feature) → Decidable (okF cfg f)
  | .charNgram g rel => inferInstanceAs (Decidable (NgOK cfg.charW g rel))
  | .typeNgram g rel => inferInstanceAs (Decidable (NgOK cfg.typeW g rel))
  | .dictWord len _ => inferInstanceAs (Decidable (¬ (len = 0 ∨ cfg.dictMaxLen < len)))

/-- the site at which it panics otherwise -/
def siteF (cfg : TrainCfg) : Feature → String
  | .charNgram g rel => ngSite cfg.charW g rel
  | .typeNgram g rel => ngSite cfg.typeW g rel
  | .dictWord _ _ => "dict_weights[length - 1]"

/-- the cell it writes -/
def updF (cfg : TrainCfg) (f : Feature) (w : Int) (a : Asm) : Asm :=
  match f with
  | .charNgram g rel => { a with charM := insK (lexLt ltChar) g (ngF cfg.charW g rel w) a.charM }
  | .typeNgram g rel => { a with typeM := insK (lexLt ltNat) g (ngF cfg.typeW g rel w) a.typeM }
  | .dictWord len pos => { a with dictW := dictUpd len pos w a.dictW }

theorem asmStep_eq (cfg : TrainCfg) (f : Feature) (w : Int) (hw : ¬ w = 0) (a : Asm) (hwf : AsmWF cfg a) :
    asmStep cfg a (f, w) = if okF cfg f then .ok (updF cfg f w a) else .panic (siteF cfg f) := by
  cases f with
  | charNgram g rel =>
    rw [asmStep_char cfg a g rel w hw, placeNgram_eq_insK hwf.chars]
    show _ = if NgOK cfg.charW g rel then _ else _
    split <;> rfl
  | typeNgram g rel =>
    rw [asmStep_type cfg a g rel w hw, placeNgram_eq_insK hwf.types]
    show _ = if NgOK cfg.typeW g rel then _ else _
    split <;> rfl
  | dictWord len pos =>
    show _ = if ¬ (len = 0 ∨ cfg.dictMaxLen < len) then _ else _
    rw [← hwf.dlen]
    by_cases hcond : len = 0 ∨ a.dictW.length < len
    · rw [if_neg (fun h => h hcond)]
      simp [asmStep, hw, hcond]
      rfl
    · rw [if_pos hcond, asmStep_dict cfg a len pos w hw hcond _ _ _ rfl, updF, dictUpd, List.modify_eq_set,
        ← List.getD_eq_getElem?_getD]
      rfl

theorem updF_wf (cfg : TrainCfg) (f : Feature) (w : Int) (hok : okF cfg f) (a : Asm) (hwf : AsmWF cfg a) :
    AsmWF cfg (updF cfg f w a) := by
  cases f with
  | charNgram g rel => exact ⟨insK_tabWF (lexLt_st ltChar_st) hwf.chars g rel w hok, hwf.types, hwf.dlen⟩
  | typeNgram g rel => exact ⟨hwf.chars, insK_tabWF (lexLt_st ltNat_st) hwf.types g rel w hok, hwf.dlen⟩
  | dictWord len pos => exact ⟨hwf.chars, hwf.types, (List.length_modify ..).trans hwf.dlen⟩

theorem asmStep_wf (cfg : TrainCfg) (a a' : Asm) (hwf : AsmWF cfg a) (fw : Feature × Int)
    (h : asmStep cfg a fw = .ok a') : AsmWF cfg a' := by
  obtain ⟨f, w⟩ := fw
  by_cases hw : w = 0
  · rw [hw, asmStep_zero] at h
    cases h
    exact hwf
  · rw [asmStep_eq cfg f w hw a hwf] at h
    split at h
    · next hok => cases h; exact updF_wf cfg f w hok a hwf
    · cases h

theorem updF_comm (cfg : TrainCfg) (f₁ f₂ : Feature) (w₁ w₂ : Int) (hne : f₁ ≠ f₂) (ok₁ : okF cfg f₁) (ok₂ : okF cfg f₂)
    (a : Asm) (hwf : AsmWF cfg a) : updF cfg f₂ w₂ (updF cfg f₁ w₁ a) = updF cfg f₁ w₁ (updF cfg f₂ w₂ a) := by
  cases f₁ with
  | charNgram g₁ rel₁ =>
    cases f₂ with
    | charNgram g₂ rel₂ =>
      exact congrArg (fun m => { a with charM := m }) (ngF_comm (lexLt_st ltChar_st) hwf.chars.1 g₁ g₂ rel₁ rel₂ w₁ w₂
        (fun h => hne (by rw [h.1, h.2])) ok₁ ok₂)
    | typeNgram g₂ rel₂ => rfl
    | dictWord len₂ pos₂ => rfl
  | typeNgram g₁ rel₁ =>
    cases f₂ with
    | charNgram g₂ rel₂ => rfl
    | typeNgram g₂ rel₂ =>
      exact congrArg (fun m => { a with typeM := m }) (ngF_comm (lexLt_st ltNat_st) hwf.types.1 g₁ g₂ rel₁ rel₂ w₁ w₂
        (fun h => hne (by rw [h.1, h.2])) ok₁ ok₂)
    | dictWord len₂ pos₂ => rfl
  | dictWord len₁ pos₁ =>
    cases f₂ with
    | charNgram g₂ rel₂ => rfl
    | typeNgram g₂ rel₂ => rfl
    | dictWord len₂ pos₂ =>
      exact congrArg (fun d => { a with dictW := d }) (dictUpd_comm len₁ len₂ pos₁ pos₂ w₁ w₂
        (fun h => hne (by rw [h.1, h.2])) a.dictW (fun h => ok₁ (Or.inl h)) (fun h => ok₂ (Or.inl h)))

/-- the step function of the fold, on outcomes -/
def fstep (cfg : TrainCfg) (r : Res Asm) (fw : Feature × Int) : Res Asm := r.bind fun a => asmStep cfg a fw

theorem res_bind_ok_right {σ : Type} (r : Res σ) : r.bind Res.ok = r := by
  cases r <;> rfl

theorem foldl_fstep (cfg : TrainCfg) : ∀ (l : List (Feature × Int)) (r : Res Asm),
    l.foldl (fstep cfg) r = r.bind (asmFold cfg l)
  | [], r => (res_bind_ok_right r).symm
  | x :: l, r => by
    rw [List.foldl_cons, foldl_fstep cfg l]
    cases r with
    | ok a =>
      show (asmStep cfg a x).bind (asmFold cfg l) = asmFold cfg (x :: l) a
      rw [asmFold]
      cases asmStep cfg a x <;> rfl
    | err _ => rfl
    | panic _ => rfl
    | ub _ => rfl

theorem asmStep_comm (cfg : TrainCfg) (a : Asm) (hwf : AsmWF cfg a) (x y : Feature × Int) (hxy : x.1 ≠ y.1) :
    ResSim ((asmStep cfg a x).bind fun a' => asmStep cfg a' y) ((asmStep cfg a y).bind fun a' => asmStep cfg a' x) := by
  obtain ⟨f₁, w₁⟩ := x
  obtain ⟨f₂, w₂⟩ := y
  by_cases hw₁ : w₁ = 0
  · subst hw₁
    have : (fun a' => asmStep cfg a' (f₁, 0)) = Res.ok := funext fun a' => asmStep_zero cfg a' f₁
    rw [asmStep_zero, Res.bind_ok, this, res_bind_ok_right]
    exact ResSim.refl _
  by_cases hw₂ : w₂ = 0
  · subst hw₂
    have : (fun a' => asmStep cfg a' (f₂, 0)) = Res.ok := funext fun a' => asmStep_zero cfg a' f₂
    rw [asmStep_zero, Res.bind_ok, this, res_bind_ok_right]
    exact ResSim.refl _
  exact (guard_comm (AsmWF cfg) (fun a' => asmStep cfg a' (f₁, w₁)) (fun a' => asmStep cfg a' (f₂, w₂)) (okF cfg f₁)
    (okF cfg f₂) (siteF cfg f₁) (siteF cfg f₂) (updF cfg f₁ w₁) (updF cfg f₂ w₂) (asmStep_eq cfg f₁ w₁ hw₁)
    (asmStep_eq cfg f₂ w₂ hw₂) (updF_wf cfg f₁ w₁) (updF_wf cfg f₂ w₂) hwf
    (fun ok₁ ok₂ => updF_comm cfg f₁ f₂ w₁ w₂ hxy ok₁ ok₂ a hwf)).elim Or.inl fun h => Or.inr ⟨_, _, h.1, h.2⟩

theorem asmFold_perm (cfg : TrainCfg) {l₁ l₂ : List (Feature × Int)} (p : l₁.Perm l₂) (hnd : (l₁.map Prod.fst).Nodup)
    (a : Asm) (hwf : AsmWF cfg a) : ResSim (asmFold cfg l₁ a) (asmFold cfg l₂ a) := by
  show ResSim ((Res.ok a).bind (asmFold cfg l₁)) ((Res.ok a).bind (asmFold cfg l₂))
  rw [← foldl_fstep, ← foldl_fstep]
  refine foldl_perm_gen (fstep cfg) ResSim (fun r => ∀ a, r = .ok a → AsmWF cfg a) (fun x y => x.1 ≠ y.1)
    ResSim.refl (fun _ _ _ => ResSim.trans) ?_ ?_ (fun _ _ h => fun h' => h h'.symm) ?_ p ?_ (.ok a) ?_
  · intro s s' x _ _ h
    exact h.bind _
  · intro s x hs a' ha'
    cases s with
    | ok a₀ => exact asmStep_wf cfg a₀ a' (hs a₀ rfl) x ha'
    | err _ => cases ha'
    | panic _ => cases ha'
    | ub _ => cases ha'
  · intro s x y hs hxy
    cases s with
    | ok a₀ => exact asmStep_comm cfg a₀ (hs a₀ rfl) x y hxy
    | err _ => exact ResSim.refl _
    | panic _ => exact ResSim.refl _
    | ub _ => exact ResSim.refl _
  · rw [List.nodup_iff_pairwise_ne, List.pairwise_map] at hnd
    exact hnd
  · intro a' ha'
    cases ha'
    exact hwf

theorem assembleBoundary_eq_bind (cfg : TrainCfg) (trace : List (Feature × Int)) (bias : Int) (tms : List TagModel) :
    assembleBoundary cfg trace bias tms =
      (asmFold cfg trace { dictW := List.replicate cfg.dictMaxLen (0, 0, 0) }).bind fun a =>
        (mapRes (dictRecord a.dictW) cfg.dictWords).map fun dict =>
          { charNgrams := a.charM.map fun e => ⟨e.1, e.2⟩, typeNgrams := a.typeM.map fun e => ⟨e.1, e.2⟩, dict := dict,
            bias := bias, charW := cfg.charW, typeW := cfg.typeW, tagModels := tms } := by
  unfold assembleBoundary
  cases asmFold cfg trace { dictW := List.replicate cfg.dictMaxLen (0, 0, 0) } with
  | ok a =>
    simp only [Res.bind_ok]
    cases mapRes (dictRecord a.dictW) cfg.dictWords <;> rfl
  | err _ => rfl
  | panic _ => rfl
  | ub _ => rfl

theorem assemble_perm (cfg : TrainCfg) {l₁ l₂ : List (Feature × Int)} (p : l₁.Perm l₂) (hnd : (l₁.map Prod.fst).Nodup)
    (bias : Int) (tms : List TagModel) :
    ResSim (assembleBoundary cfg l₁ bias tms) (assembleBoundary cfg l₂ bias tms) := by
  rw [assembleBoundary_eq_bind, assembleBoundary_eq_bind]
  exact (asmFold_perm cfg p hnd _ (asmWF_init cfg)).bind _

end V.C09L
