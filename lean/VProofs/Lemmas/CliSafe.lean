import VProofs.Lemmas.CliStages
import VProofs.C03
import VProofs.C06
/-!
# CliSafe — every stage of one `predict` iteration returns a value on the sentences the tool builds
-/
namespace V.C20L
open V

theorem writeTokenized_ok (s : Sentence) (h : Inv s) : ∃ w, s.writeTokenized = .ok w :=
  ⟨_, C03L.writeTokBody_eq s h.tags_len _ true fun se hse => by
    have := iterTokens_range s.bounds se hse
    have := h.bounds_len
    omega⟩

theorem printScores_ok (s : Sentence) (hne : s.text ≠ []) (sc : List Int) (h : s.boundaryScores = .ok sc) :
    ∃ o, printScores s = .ok o := by
  unfold printScores
  cases ht : s.text with
  | nil => exact absurd ht hne
  | cons c r => exact ⟨_, by simp only [h]; rfl⟩

theorem printTagScores_go_ok (s : Sentence) (l : List (Nat × Nat))
    (h : ∀ se ∈ l, (∃ x, s.substring se.1 se.2 = .ok x) ∧ ∃ c, s.tagCandidates se.2 = .ok c) :
    ∃ o, printTagScores.go s l = .ok o := by
  induction l with
  | nil => exact ⟨[], rfl⟩
  | cons x r ih =>
    obtain ⟨st, en⟩ := x
    obtain ⟨⟨surf, hs⟩, ⟨cs, hc⟩⟩ := h (st, en) (by simp)
    obtain ⟨rest, hr⟩ := ih (fun se hse => h se (by simp [hse]))
    simp only at hs hc
    exact ⟨_, by simp only [printTagScores.go, hs, hc, hr]; rfl⟩

theorem printTagScores_ok (s : Sentence) (hbl : s.bounds.length + 1 = s.text.length)
    (h : ∀ se ∈ iterTokens s.bounds, ∃ c, s.tagCandidates se.2 = .ok c) : ∃ o, printTagScores s = .ok o := by
  obtain ⟨t, ht⟩ := printTagScores_go_ok s (iterTokens s.bounds) fun se hse => by
    have := iterTokens_range s.bounds se hse
    exact ⟨⟨_, s.substring_eq (Nat.le_of_lt this.1) (by omega)⟩, h se hse⟩
  exact ⟨_, by simp only [printTagScores, ht]; rfl⟩

theorem buildPostFilters_ws (cl : List Nat) : ∀ (ws : List Char), (∀ c ∈ ws, c ∈ ['D', 'R', 'H', 'T', 'K', 'O']) →
    ∃ fs, buildPostFilters ws cl = .ok fs ∧ ∀ f ∈ fs, ∃ t, f = PostFilter.ws t
  | [], _ => ⟨[], rfl, fun f hf => by cases hf⟩
  | c :: ws, h => by
    obtain ⟨fs, h1, h2⟩ := buildPostFilters_ws cl ws (fun c hc => h c (List.mem_cons_of_mem _ hc))
    have hc := h c List.mem_cons_self
    unfold buildPostFilters at h1 ⊢
    rw [List.foldr_cons, h1]
    have hfs : ∀ t, ∀ f ∈ PostFilter.ws t :: fs, ∃ t, f = PostFilter.ws t := fun t f hf => by
      rcases List.mem_cons.mp hf with hf | hf
      · exact ⟨t, hf⟩
      · exact h2 f hf
    simp only [List.mem_cons, List.not_mem_nil, or_false] at hc
    rcases hc with rfl | rfl | rfl | rfl | rfl | rfl
    · exact ⟨_, rfl, hfs 1⟩
    · exact ⟨_, rfl, hfs 2⟩
    · exact ⟨_, rfl, hfs 3⟩
    · exact ⟨_, rfl, hfs 4⟩
    · exact ⟨_, rfl, hfs 5⟩
    · exact ⟨_, rfl, hfs 6⟩

theorem boundaryScores_congr (s s' : Sentence) (h1 : s'.scores = s.scores) (h2 : s'.padding = s.padding)
    (h3 : s'.bounds.length = s.bounds.length) : s'.boundaryScores = s.boundaryScores := by
  unfold Sentence.boundaryScores
  rw [h1, h2, h3]

theorem predict_store (p : Predictor) (store : Bool) (pid : Nat) (s : Sentence) :
    ({ p with storeTagScores := store } : Predictor).predict pid s = p.predict pid s := rfl

/-- the sentence the writers and printers see (after the filters and, with `--predict-tags`, `fill_tags`) -/
structure Printed (x : List Char) (s3 : Sentence) : Prop where
  inv : Inv s3
  text : s3.text = x
  noU : ∀ b ∈ s3.bounds, b ≠ B.U
  sc : ∃ sc, s3.boundaryScores = .ok sc

theorem lookup_nul : Gen.lookupFw 0 Gen.fullwidthTable = none := by decide +kernel

theorem fullwidth_nul_of (s : List Char) (h : '\x00' ∈ s) : '\x00' ∈ Gen.fullwidth s := by
  rw [C16L.fullwidth_eq_map]
  refine List.mem_map.mpr ⟨_, h, ?_⟩
  unfold C16L.g
  rw [show ('\x00' : Char).toNat = 0 from rfl, lookup_nul]

/-- copying labels and tags of a consistent sentence onto the fresh sentence over as many characters: both slice
copies fit, and the result is consistent -/
theorem mkRaw_copy {line : List Char} (hne : line ≠ []) {s3 : Sentence} (hi : Inv s3)
    (hlen : s3.text.length = line.length) :
    (Sentence.mkRaw line).bounds.length = s3.bounds.length ∧
    s3.nTags * (Sentence.mkRaw line).types.length = s3.tags.length ∧
    Inv { Sentence.mkRaw line with bounds := s3.bounds, tags := s3.tags, nTags := s3.nTags } := by
  have hpos : 0 < line.length := List.length_pos_iff.mpr hne
  have hb := hi.bounds_len
  refine ⟨?_, ?_, hne, rfl, ?_, ?_, Or.inl rfl⟩
  · simp only [Sentence.mkRaw, List.length_replicate]
    omega
  · simp only [Sentence.mkRaw, typesOf_length]
    rw [hi.tags_len, hlen, Nat.mul_comm]
  · show s3.bounds.length + 1 = line.length
    omega
  · show s3.tags.length = line.length * s3.nTags
    rw [hi.tags_len, hlen]

theorem tail_ok (fl : PredictFlags) (line : List Char) (hne : line ≠ []) (hnul : '\x00' ∉ line) (s3 : Sentence)
    (h : Printed (if fl.noNorm then line else Gen.fullwidth line) s3)
    (hc : fl.tagScores = true → fl.predictTags = true → ∀ se ∈ iterTokens s3.bounds, ∃ c, s3.tagCandidates se.2 = .ok c) :
    ∃ shown w sc ts,
      origCopy fl line s3 = .ok shown ∧
      shown.writeTokenized = .ok w ∧
      (if fl.scores then printScores s3 else .ok []) = .ok sc ∧
      (if fl.tagScores && fl.predictTags then printTagScores s3 else .ok []) = .ok ts ∧
      Inv shown ∧ shown.text = line ∧ shown.bounds = s3.bounds ∧ shown.tags = s3.tags ∧ shown.nTags = s3.nTags ∧
      (fl.scores = false → sc = []) ∧ (fl.tagScores = false → ts = []) := by
  have hsc : ∃ sc, (if fl.scores then printScores s3 else .ok []) = .ok sc ∧ (fl.scores = false → sc = []) := by
    cases hf : fl.scores
    · exact ⟨[], rfl, fun _ => rfl⟩
    · obtain ⟨sc, e⟩ := h.sc
      obtain ⟨o, ho⟩ := printScores_ok s3 h.inv.text_ne sc e
      exact ⟨o, by simpa using ho, fun c => by cases c⟩
  have hts : ∃ ts, (if fl.tagScores && fl.predictTags then printTagScores s3 else .ok []) = .ok ts ∧
      (fl.tagScores = false → ts = []) := by
    cases hf : fl.tagScores
    · exact ⟨[], rfl, fun _ => rfl⟩
    · cases hg : fl.predictTags
      · exact ⟨[], rfl, fun c => by cases c⟩
      · obtain ⟨o, ho⟩ := printTagScores_ok s3 h.inv.bounds_len (hc hf hg)
        exact ⟨o, by simpa using ho, fun c => by cases c⟩
  obtain ⟨sc, hsc1, hsc2⟩ := hsc
  obtain ⟨ts, hts1, hts2⟩ := hts
  cases hn : fl.noNorm
  · -- normalised: the un-normalised copy
    have hx := h.text
    rw [hn] at hx
    simp only [Bool.false_eq_true, if_false] at hx
    have hlen : s3.text.length = line.length := by rw [hx, C16L.fullwidth_length]
    have ho : Sentence.fromRaw line = .ok (Sentence.mkRaw line) := fromRaw_ok line hne hnul
    obtain ⟨c1, c2, hinv⟩ := mkRaw_copy hne h.inv hlen
    obtain ⟨w, hw⟩ := writeTokenized_ok _ hinv
    refine ⟨_, w, sc, ts, ?_, hw, hsc1, hts1, hinv, rfl, rfl, rfl, rfl, hsc2, hts2⟩
    simp only [origCopy, hn, Bool.false_eq_true, if_false, ho, c1, c2, ne_eq, not_true_eq_false]
  · have hx := h.text
    rw [hn] at hx
    simp only [if_true] at hx
    obtain ⟨w, hw⟩ := writeTokenized_ok s3 h.inv
    exact ⟨s3, w, sc, ts, by simp [origCopy, hn], hw, hsc1, hts1, h.inv, hx, rfl, rfl, rfl, hsc2, hts2⟩


theorem tagCandidates_none (s : Sentence) (n en : Nat) (hts : s.tagScores = List.replicate n none) (h0 : 0 < en)
    (h1 : en ≤ n) : s.tagCandidates en = .ok [] := by
  unfold Sentence.tagCandidates
  have hne : s.tagScores.isEmpty = false := by
    rw [hts]
    cases n with
    | zero => omega
    | succ n => rfl
  have hlt : en - 1 < n := by omega
  simp only [hne, Bool.false_eq_true, if_false]
  simp only [hts, List.getElem?_replicate, if_pos hlt]

theorem Pred.fin {x : List Char} {s1 : Sentence} (hP : Pred x s1) {bs : List B} (hbs : bs.length = s1.bounds.length)
    (hU : ∀ b ∈ bs, b ≠ B.U) (n : Nat) (tg : List Tag) (htg : tg.length = s1.text.length * n)
    (ts : List (Option (List (List (List Char)) × List Int))) :
    Printed x { s1 with bounds := bs, nTags := n, tags := tg, tagScores := ts } := by
  obtain ⟨sc, hsc⟩ := hP.sc
  refine ⟨⟨hP.inv.text_ne, hP.inv.types_eq, ?_, htg, ?_⟩, hP.text, hU, sc, ?_⟩
  · show bs.length + 1 = s1.text.length
    rw [hbs]; exact hP.inv.bounds_len
  · show s1.scores = [] ∨ s1.padding + bs.length ≤ s1.scores.length
    rw [hbs]; exact hP.inv.scores_ok
  · rw [← hsc]; exact boundaryScores_congr _ _ rfl rfl hbs

/-- `fill_tags` after prediction on the fresh sentence over `x`, on any relabelling of the result: it returns, keeps the
labels, writes the specified tags and, when asked to store them, a candidate list for every token -/
theorem tags_stage (cfg : Cfg) (m : WModel) (hm : WFModel m) (ht : WFTags m) (p0 : Predictor)
    (hp : Predictor.new cfg m true = .ok p0) (store : Bool) (x : List Char)
    (hne : x ≠ []) (s1 : Sentence) (h1 : p0.predict 0 (Sentence.mkRaw x) = .ok s1) (hP : Pred x s1) (bs : List B)
    (hbs : bs.length = s1.bounds.length) (hU : ∀ b ∈ bs, b ≠ B.U) :
    ∃ s3, ({ p0 with storeTagScores := store } : Predictor).predictTags { s1 with bounds := bs } = .ok s3 ∧
      s3.bounds = bs ∧ s3.tags = specAllTags m x bs ∧ Printed x s3 ∧
      (store = true → ∀ se ∈ iterTokens s3.bounds, ∃ c, s3.tagCandidates se.2 = .ok c) := by
  have hs := sentOK_mkRaw x hne
  obtain ⟨hcfg, htp, hnt, _⟩ := C06L.new_tag_ok cfg m p0 hp
  have hlen : (specAllTags m x bs).length = s1.text.length * specNTags m := by rw [C06L.specAllTags_length, hP.text]
  rcases Nat.eq_zero_or_pos (specNTags m) with hn | hn
  · have e0 : s1.tags = specAllTags m x bs := by
      rw [hP.tags]
      exact (List.eq_nil_of_length_eq_zero (by rw [hlen, hn, Nat.mul_zero])).symm
    refine ⟨{ s1 with bounds := bs, tagScores := if store then List.replicate s1.types.length none else [] }, ?_, rfl, e0,
      hP.fin hbs hU s1.nTags s1.tags hP.inv.tags_len _, fun hst se hse => ?_⟩
    · unfold Predictor.predictTags
      simp only [htp, hnt, hn, if_true]
    · have hr := iterTokens_range bs se hse
      refine ⟨[], tagCandidates_none _ s1.types.length se.2 (by simp [hst]) (by omega) ?_⟩
      have := hP.inv.bounds_len
      rw [hP.inv.types_eq, typesOf_length]
      omega
  · obtain ⟨_, h3⟩ := C06_predictTags cfg m hm ht p0 hp store _ s1 hs 0 h1 bs hbs hn
    refine ⟨_, h3, rfl, rfl, hP.fin hbs hU _ _ hlen _, fun hst se hse => ?_⟩
    rw [iterTokens_eq_spec] at hse
    exact ⟨_, (C06_candidates cfg hcfg m hm ht p0 hp store _ s1 _ hs 0 h1 bs hbs hn h3).2 hst se hse⟩

/-- for a predictor built from a well-formed model and character-type filters only, the specification block of ANY line
exists: an empty line for a rejected input, otherwise the tokenised line (written from a consistent sentence over the
original characters, without unknown boundaries) and its score blocks -/
theorem libLine_ok (cfg : Cfg) (m : WModel) (hm : WFModel m) (fl : PredictFlags) (ht : fl.predictTags = true → WFTags m)
    (p0 : Predictor) (hp : Predictor.new cfg m fl.predictTags = .ok p0) (store : Bool)
    (hst : fl.predictTags = true → store = fl.tagScores) (filters : List PostFilter)
    (hfil : ∀ f ∈ filters, ∃ t, f = PostFilter.ws t) (line : List Char) :
    (Sentence.fromRaw (if fl.noNorm then line else Gen.fullwidth line) = .err .invalidArgument ∧
      libLine' fl { p0 with storeTagScores := store } filters line = .ok ['\n']) ∨
    ((line ≠ [] ∧ '\x00' ∉ line) ∧ ∃ shown w sc ts,
      libLine' fl { p0 with storeTagScores := store } filters line = .ok (w ++ ['\n'] ++ sc ++ ts) ∧
      shown.writeTokenized = .ok w ∧ Inv shown ∧ shown.text = line ∧ (∀ b ∈ shown.bounds, b ≠ B.U) ∧
      (fl.predictTags = false → shown.tags = []) ∧ (fl.scores = false → sc = []) ∧ (fl.tagScores = false → ts = [])) := by
  rcases raw_cases (if fl.noNorm then line else Gen.fullwidth line) with ⟨h1, _⟩ | ⟨⟨hne, hnul⟩, h1, _⟩
  · exact Or.inl ⟨h1, by simp only [libLine', h1]⟩
  · right
    have hline : line ≠ [] ∧ '\x00' ∉ line := by
      cases hn : fl.noNorm
      · rw [hn] at hne hnul
        simp only [Bool.false_eq_true, if_false] at hne hnul
        refine ⟨fun c => hne (by rw [c]; rfl), fun c => hnul (fullwidth_nul_of line c)⟩
      · rw [hn] at hne hnul
        exact ⟨hne, hnul⟩
    refine ⟨hline, ?_⟩
    obtain ⟨s1, e1, hP⟩ := predict_stage cfg m hm fl.predictTags p0 hp _ hne
    obtain ⟨_, e2, bs, rfl, hbs, hU⟩ := applyPostFilters_ok filters hP.inv fun f hf => Or.inl (hfil f hf)
    have hU' := hU hP.noU
    have h3 : ∃ s3, (if fl.predictTags then ({ p0 with storeTagScores := store } : Predictor).predictTags { s1 with bounds := bs }
        else .ok { s1 with bounds := bs }) = .ok s3 ∧ Printed (if fl.noNorm then line else Gen.fullwidth line) s3 ∧
        (fl.tagScores = true → fl.predictTags = true → ∀ se ∈ iterTokens s3.bounds, ∃ c, s3.tagCandidates se.2 = .ok c) ∧
        (fl.predictTags = false → s3.tags = []) := by
      cases hft : fl.predictTags
      · exact ⟨_, rfl, hP.fin hbs hU' _ _ hP.inv.tags_len _, (fun _ c => by cases c), fun _ => hP.tags⟩
      · rw [hft] at hp
        obtain ⟨s3, e3, _, _, hF, hc⟩ := tags_stage cfg m hm (ht hft) p0 hp store _ hne s1 e1 hP bs hbs hU'
        exact ⟨s3, by simpa using e3, hF, (fun c _ => hc ((hst hft).trans c)), fun c => by cases c⟩
    obtain ⟨s3, e3, hF, hc, hnt⟩ := h3
    obtain ⟨shown, w, sc, ts, e4, e5, e6, e7, hinv, htx, hbd, htg, _, hsc, hts⟩ := tail_ok fl line hline.1 hline.2 s3 hF hc
    refine ⟨shown, w, sc, ts, ?_, e5, hinv, htx, by rw [hbd]; exact hF.noU,
      fun c => by rw [htg]; exact hnt c, hsc, hts⟩
    simp only [libLine', h1, predict_store, e1, bindR_ok, applyWsconst, e2, e3, e4, e5, e6, e7]

end V.C20L
