import VModel.Trainer
import VModel.Spec
/-!
# Helper lemmas for C12: `collectTags`, `firstMax`, `specPickTags`
-/
namespace V.C12L

/-- one step of the per-category fold of `collectTags` -/
def cstep (j : Nat) (acc : List (List Char)) (ts : List Tag) : List (List Char) :=
  match ts[j]? with
  | some (some t) => if acc.contains t then acc else acc ++ [t]
  | _ => acc

theorem collectTags_eq (examples : List (List Tag)) :
    collectTags examples =
      (List.range (examples.foldl (fun acc x => max acc x.length) 0)).map fun j => examples.foldl (cstep j) [] := rfl

theorem cstep_inv (j : Nat) (acc : List (List Char)) (ts : List Tag) (hnd : acc.Nodup) :
    (cstep j acc ts).Nodup ∧ ∀ t, t ∈ cstep j acc ts ↔ t ∈ acc ∨ ts[j]? = some (some t) := by
  unfold cstep
  split
  · next t0 h0 =>
    rw [h0]
    have inj : ∀ {t}, some (some t0) = some (some t) → t = t0 := fun h => (Option.some.inj (Option.some.inj h)).symm
    split
    · next hc =>
      exact ⟨hnd, fun t => ⟨Or.inl, fun h => h.elim id fun h => inj h ▸ List.contains_iff_mem.mp hc⟩⟩
    · next hc =>
      refine ⟨List.nodup_append.mpr ⟨hnd, List.pairwise_singleton _ _, fun a ha b hb hab => ?_⟩, fun t => ?_⟩
      · exact hc (List.contains_iff_mem.mpr ((List.mem_singleton.mp hb) ▸ hab ▸ ha))
      · rw [List.mem_append, List.mem_singleton]
        exact ⟨fun h => h.imp_right fun h : t = t0 => h ▸ rfl, fun h => h.imp_right inj⟩
  · next hno => exact ⟨hnd, fun t => ⟨Or.inl, fun h => h.elim id fun h => absurd h (hno t)⟩⟩

theorem cfold_inv (j : Nat) (l : List (List Tag)) : ∀ (acc : List (List Char)), acc.Nodup →
    (l.foldl (cstep j) acc).Nodup ∧
      ∀ t, t ∈ l.foldl (cstep j) acc ↔ t ∈ acc ∨ ∃ ts ∈ l, ts[j]? = some (some t) := by
  induction l with
  | nil => exact fun acc hnd => ⟨hnd, fun t => ⟨Or.inl, fun h => h.elim id fun ⟨_, h, _⟩ => nomatch h⟩⟩
  | cons x r ih =>
    intro acc hnd
    obtain ⟨h1, h1'⟩ := cstep_inv j acc x hnd
    obtain ⟨h2, h2'⟩ := ih (cstep j acc x) h1
    refine ⟨h2, fun t => ?_⟩
    rw [List.foldl_cons, h2', h1']
    simp only [List.mem_cons, exists_eq_or_imp]
    exact or_assoc

theorem collectTags_getD (examples : List (List Tag)) (j : Nat) :
    (collectTags examples).getD j [] =
      if j < examples.foldl (fun acc x => max acc x.length) 0 then examples.foldl (cstep j) [] else [] := by
  rw [collectTags_eq, List.getD_eq_getElem?_getD, List.getElem?_map]
  by_cases h : j < examples.foldl (fun acc x => max acc x.length) 0
  · rw [List.getElem?_range h]
    simp [h]
  · rw [List.getElem?_eq_none (by simpa using h)]; simp [h]

theorem firstMax_lt : ∀ (l : List Int), l ≠ [] → firstMax l < l.length
  | [], h => absurd rfl h
  | x :: r, _ => by
    unfold firstMax
    by_cases ha : (r.all fun y => decide (y ≤ x)) = true
    · simp [ha]
    · simp only [ha]
      have hr : r ≠ [] := by
        intro h
        subst h
        simp at ha
      have := firstMax_lt r hr
      simp only [List.length_cons, Bool.false_eq_true, if_false]
      omega

theorem specPickTags_cons (c : List (List Char)) (r : List (List (List Char))) (scores : List Int) :
    specPickTags (c :: r) scores =
      (if 2 ≤ c.length then some (c.getD (firstMax (scores.take c.length)) []) else c.head?) ::
        specPickTags r (if 2 ≤ c.length then scores.drop c.length else scores) := by
  rw [specPickTags]
  split <;> rfl

end V.C12L
