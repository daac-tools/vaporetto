import VProofs.Lemmas.TagBoundBuild
import VProofs.Lemmas.TagBoundRun
/-!
# `Predictor.new(model, true)` stays within the tag mass of the model (for the C06 overflow bound): assembly
-/
namespace V.C06B
open C01L C01B C06L Merge

theorem tagTables_mass_le {α : Type} (m : WModel) (f : TagModel → List (TagNgramData α))
    (hf : ∀ tm, tagNgramMass (f tm) ≤ tm.mass) (tid : Nat) :
    tagNgramMass ((m.tagModels.map f).getD tid []) ≤ m.tagMass := by
  rw [List.getD_eq_getElem?_getD, List.getElem?_map]
  cases htm : m.tagModels[tid]? with
  | none => exact Nat.zero_le _
  | some tm => exact Nat.le_trans (hf tm) (mass_le_tagMass m tm (List.mem_of_getElem? htm))

theorem build_within_tag (cfg : Cfg) (m m0 : WModel) (hd : IsDropW0 m m0) (htm : m0.tagModels = m.tagModels) (hW : WFT m)
    (p : Predictor) (hp : Predictor.new cfg m true = .ok p) (P Q : Int → Bool)
    (hP : ∀ x : Int, x.natAbs ≤ m0.mass → P x = true) (hQ : ∀ x : Int, x.natAbs ≤ m.tagMass → Q x = true) :
    TagBuildWithin P Q cfg m0 p := by
  obtain ⟨hcfg, h1, _, h3, h4⟩ := new_tag_ok cfg m p hp
  refine ⟨?_, fun sc hsc => ?_, fun sc hsc => ?_⟩
  · intro tpm htpm e he x hx
    rw [h1] at htpm
    cases htpm
    obtain ⟨⟨tm, i⟩, hmem, rfl⟩ := List.mem_map.mp he
    obtain ⟨_, _, h3⟩ := List.mem_zipIdx hmem
    have hle : absSum tm.bias ≤ m.tagMass :=
      Nat.le_trans (Nat.le_trans (Nat.le_add_right _ _) (Nat.le_add_right _ _))
        (mass_le_tagMass m tm (by rw [h3]; exact List.getElem_mem _))
    rcases ofList_toList_mem cfg tm.bias x hx with h | h
    · exact hQ x (Nat.le_trans (natAbs_le_absSum_of_mem tm.bias x h) hle)
    · rw [h]; exact hQ 0 (Nat.zero_le _)
  · rw [htm]
    rw [hsc] at h3
    have hb := charScorerNew_tagBuilt cfg hcfg m _ sc h3
    rw [← hd.charNgrams, ← hd.charW, ← hd.dict] at hb
    have := tagMergerIn_of_built P Q m0.mass m.tagMass hP hQ (Lm m) cfg m0.charW
      (charEntriesTOf m0.charW m0.charNgrams m0.dict (m.tagModels.map (·.charNgrams))) _ _ rfl
      (List.forall_mem_append.mpr ⟨List.forall_mem_map.mpr fun _ _ => rfl, List.forall_mem_map.mpr fun _ _ => rfl⟩)
      (tagNgrams_len m _ hW.char_ok) (by rw [emass_charEntriesT]; exact m0.charMass_le)
      (tagTables_mass_le m _ fun tm => Nat.le_trans (Nat.le_add_left _ _) (Nat.le_add_right _ _)) sc hb
    rwa [List.length_map, List.map_eq_nil_iff] at this
  · rw [htm]
    rw [hsc] at h4
    have hb := typeScorerNew_tagBuilt cfg hcfg m _ sc h4
    rw [← hd.typeNgrams, ← hd.typeW] at hb
    have := tagMergerIn_of_built P Q m0.mass m.tagMass hP hQ (Lm m) cfg m0.typeW
      (typeEntriesTOf m0.typeW m0.typeNgrams (m.tagModels.map (·.typeNgrams))) _ _ rfl
      (List.forall_mem_map.mpr fun _ _ => rfl)
      (tagNgrams_len m _ hW.type_ok) (by rw [emass_typeEntriesT]; exact m0.typeMass_le)
      (tagTables_mass_le m _ fun tm => Nat.le_add_left _ _) sc hb
    rwa [List.length_map, List.map_eq_nil_iff] at this

end V.C06B
