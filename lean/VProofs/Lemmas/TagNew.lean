import VModel.Spec
import VProofs.Lemmas.TagStates
/-!
# `Predictor.new` with tag prediction: both scorers are tag-aware (or absent because there is nothing to score) (for C06)
-/
namespace V.C06L
open V.C01L

/-- number of trainable classes of tag model `i` -/
def Lm (m : WModel) (i : Nat) : Nat :=
  match m.tagModels[i]? with
  | some tm => nClass tm.tags
  | none => 0

/-- the `TagPredictor` that `Predictor.new` makes from a tag model -/
def mkTP (cfg : Cfg) (tm : TagModel) : TagPredictor := { tags := tm.tags, bias := WV.ofList cfg tm.bias }

theorem new_tag_ok (cfg : Cfg) (m : WModel) (p : Predictor) (hp : Predictor.new cfg m true = .ok p) :
    cfg.tagPred = true ∧
    p.tagPredictor = some ((m.tagModels.zipIdx).map fun x => (x.1.token, x.2, mkTP cfg x.1)) ∧
    p.nTags = specNTags m ∧
    charScorerNew cfg m (m.tagModels.map (·.charNgrams)) = .ok p.charScorer ∧
    typeScorerNew cfg m (m.tagModels.map (·.typeNgrams)) = .ok p.typeScorer := by
  obtain ⟨hcfg, hcs, hts, _, htp, hnt, _⟩ := new_inv cfg m true p hp
  have hc := hcfg rfl
  simp only [hc, Bool.and_self, if_true] at hcs hts htp hnt
  exact ⟨hc, htp, hnt, hcs, hts⟩

theorem Lm_eq (m : WModel) (tid : Nat) (tm : TagModel) (h : m.tagModels[tid]? = some tm) :
    Lm m tid = nClass tm.tags := by
  unfold Lm; rw [h]

theorem tagNgrams_len {α : Type} (m : WModel) (f : TagModel → List (TagNgramData α))
    (hf : ∀ tm ∈ m.tagModels, ∀ d ∈ f tm, ∀ w ∈ d.weights, w.weights.length = nClass tm.tags) :
    ∀ i tmc, (m.tagModels.map f)[i]? = some tmc → ∀ d ∈ tmc, ∀ w ∈ d.weights, w.weights.length = Lm m i := by
  intro i tmc hi d hd w hw
  rw [List.getElem?_map] at hi
  cases htm : m.tagModels[i]? with
  | none => rw [htm] at hi; cases hi
  | some tm =>
    rw [htm] at hi
    simp only [Option.map_some, Option.some.injEq] at hi
    subst hi
    rw [Lm_eq m i tm htm]
    exact hf tm (List.mem_of_getElem? htm) d hd w hw

theorem charScorer_tag (cfg : Cfg) (hcfg : cfg.tagPred = true) (m : WModel)
    (T : List (List (TagNgramData Char))) (hTne : T ≠ []) (L : Nat → Nat)
    (hT : ∀ i tm, T[i]? = some tm → ∀ d ∈ tm, ∀ w ∈ d.weights, w.weights.length = L i)
    (cs : Option (PmaScorer Char)) (h : charScorerNew cfg m T = .ok cs) :
    (cs = none ∧ ∀ tm ∈ T, tm = []) ∨ (∃ sc, cs = some sc ∧ TagScorerOK cfg m.charW T L sc) := by
  rcases charScorerNew_cases cfg m T cs h with ⟨h1, _, _, h4⟩ | ⟨sc, h1, _, _, hb⟩ | ⟨_, _, hn, _⟩
  · exact .inl ⟨h1, h4 hcfg⟩
  · refine .inr ⟨sc, h1, buildBoundaryTag_tagOK cfg m.charW L _ T ?_ hT sc hb⟩
    intro e he
    rcases List.mem_append.mp he with he | he
    · obtain ⟨d, _, rfl⟩ := List.mem_map.mp he; rfl
    · obtain ⟨d, _, rfl⟩ := List.mem_map.mp he; rfl
  · exact absurd ⟨hcfg, hTne⟩ hn

theorem typeScorer_tag (cfg : Cfg) (hcfg : cfg.tagPred = true) (m : WModel)
    (T : List (List (TagNgramData Nat))) (hTne : T ≠ []) (L : Nat → Nat)
    (hT : ∀ i tm, T[i]? = some tm → ∀ d ∈ tm, ∀ w ∈ d.weights, w.weights.length = L i)
    (ts : Option TypeScorer) (h : typeScorerNew cfg m T = .ok ts) :
    (ts = none ∧ ∀ tm ∈ T, tm = []) ∨ (∃ sc, ts = some (.pma sc) ∧ TagScorerOK cfg m.typeW T L sc) := by
  rcases typeScorerNew_cases cfg m T ts h with ⟨h1, _, h4⟩ | ⟨sc, h1, _, _, hb⟩ | ⟨_, hn, _⟩ | ⟨_, _, hn, _⟩
  · exact .inl ⟨h1, h4 hcfg⟩
  · refine .inr ⟨sc, h1, buildBoundaryTag_tagOK cfg m.typeW L _ T ?_ hT sc hb⟩
    intro e he
    obtain ⟨d, _, rfl⟩ := List.mem_map.mp he; rfl
  · exact absurd ⟨hcfg, hTne⟩ hn
  · exact absurd ⟨hcfg, hTne⟩ hn

end V.C06L
