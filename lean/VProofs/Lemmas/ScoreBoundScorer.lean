import VProofs.Lemmas.ScoreBoundBuild
import VProofs.Lemmas.ScorePredict
/-!
# What `Predictor.new` builds stays within the mass of the model (for the C01 overflow bound)

The entry lists that `CharScorer::new` / `TypeScorer::new` feed to the weight merger, the fact that the scorers are built
from them, their masses, the stored (layout-converted) weights, and the type-score cache.
-/
namespace V

def charEntriesOf (Wn : Nat) (ng : List (NgramData Char)) (dict : List DictWord) : List (List Char × PW) :=
  ng.map (fun d => (d.ngram, (⟨-(Wn : Int), d.weights⟩ : PW)))
    ++ dict.map (fun d => (d.word, (⟨-(d.word.length : Int), d.weights⟩ : PW)))

def charEntriesTOf (Wn : Nat) (ng : List (NgramData Char)) (dict : List DictWord) (T : List (List (TagNgramData Char))) :
    List (List Char × PWT) :=
  ng.map (fun d => (d.ngram, ({ weight := some ⟨-(Wn : Int), d.weights⟩, tagInfo := [] } : PWT)))
    ++ dict.map (fun d => (d.word, ({ weight := some ⟨-(d.word.length : Int), d.weights⟩, tagInfo := [] } : PWT)))
    ++ tagEntries T

def typeEntriesOf (Wn : Nat) (ng : List (NgramData Nat)) : List (List Nat × PW) :=
  ng.map (fun d => (d.ngram, (⟨-(Wn : Int), d.weights⟩ : PW)))

def typeEntriesTOf (Wn : Nat) (ng : List (NgramData Nat)) (T : List (List (TagNgramData Nat))) : List (List Nat × PWT) :=
  ng.map (fun d => (d.ngram, ({ weight := some ⟨-(Wn : Int), d.weights⟩, tagInfo := [] } : PWT)))
    ++ tagEntries T

/-- the entries `CharScorer::new` adds to its `CharWeightMerger<PositionalWeight<Vec<i32>>>` (no tag n-grams) -/
def charEntries (m : WModel) : List (List Char × PW) := charEntriesOf m.charW m.charNgrams m.dict
/-- … and to its `CharWeightMerger<PositionalWeightWithTag>` (with the tag n-grams `T`) -/
def charEntriesT (m : WModel) (T : List (List (TagNgramData Char))) : List (List Char × PWT) :=
  charEntriesTOf m.charW m.charNgrams m.dict T
/-- the entries `TypeScorer::new` adds to its `TypeWeightMerger` (no tag n-grams, no cache) -/
def typeEntries (m : WModel) : List (List Nat × PW) := typeEntriesOf m.typeW m.typeNgrams
def typeEntriesT (m : WModel) (T : List (List (TagNgramData Nat))) : List (List Nat × PWT) :=
  typeEntriesTOf m.typeW m.typeNgrams T

/-- the terms that `TypeScorerBoundaryCache::new` adds up (`y += *w`) for the table entry of `seqid` -/
def cacheTerms (ngrams : List (NgramData Nat)) (window : Nat) (seqid : Nat) : List Int :=
  (matchesAll (ngrams.map (·.ngram)) (seqOfId (2 * window) seqid)).map fun (e, id) =>
    match (ngrams.getD id ⟨[], []⟩).weights[2 * window - e]? with
    | some w => w
    | none => 0

theorem cacheEntry_eq (ngrams : List (NgramData Nat)) (window : Nat) (seqid : Nat) :
    cacheEntry ngrams window seqid
      = if (seqOfId (2 * window) seqid).contains 7 then 0 else (cacheTerms ngrams window seqid).sum := rfl

namespace C01B
open C01L Merge
variable {α : Type} [DecidableEq α] {W : Type}

omit [DecidableEq α] in
theorem emass_map {β : Type} (g : W → Option PW) (wrap : PW → W) (hw : ∀ pw, g (wrap pw) = some pw) (l : List β)
    (key : β → List α) (pw : β → PW) :
    emass g (l.map fun d => (key d, wrap (pw d))) = (l.map fun d => absSum (pw d).weight).sum := by
  unfold emass
  rw [List.map_map]
  congr 1
  apply List.map_congr_left
  intro d _
  simp only [Function.comp_def, hw]
  rfl

omit [DecidableEq α] in
theorem emass_tag (T : List (List (TagNgramData α))) : emass PWT.weight (tagEntries T) = 0 :=
  emass_zero _ _ (tagEntries_weight T)

theorem emass_charEntries (Wn : Nat) (ng : List (NgramData Char)) (dict : List DictWord) :
    emass (some : PW → Option PW) (charEntriesOf Wn ng dict) = ngramMass ng + dictMass dict := by
  unfold charEntriesOf
  rw [emass_append, emass_map some (fun pw => pw) (fun _ => rfl), emass_map some (fun pw => pw) (fun _ => rfl)]
  rfl

theorem emass_charEntriesT (Wn : Nat) (ng : List (NgramData Char)) (dict : List DictWord)
    (T : List (List (TagNgramData Char))) :
    emass PWT.weight (charEntriesTOf Wn ng dict T) = ngramMass ng + dictMass dict := by
  unfold charEntriesTOf
  rw [emass_append, emass_append, emass_tag,
    emass_map PWT.weight ofPW (fun _ => rfl),
    emass_map PWT.weight ofPW (fun _ => rfl)]
  rfl

theorem emass_typeEntries (Wn : Nat) (ng : List (NgramData Nat)) :
    emass (some : PW → Option PW) (typeEntriesOf Wn ng) = ngramMass ng := by
  unfold typeEntriesOf
  exact emass_map some (fun pw => pw) (fun _ => rfl) ng _ _

theorem emass_typeEntriesT (Wn : Nat) (ng : List (NgramData Nat)) (T : List (List (TagNgramData Nat))) :
    emass PWT.weight (typeEntriesTOf Wn ng T) = ngramMass ng := by
  unfold typeEntriesTOf
  rw [emass_append, emass_tag,
    emass_map PWT.weight ofPW (fun _ => rfl)]
  rfl

theorem charScorerNew_built (cfg : Cfg) (m : WModel) (T : List (List (TagNgramData Char))) (sc : PmaScorer Char)
    (h : charScorerNew cfg m T = .ok (some sc)) :
    BuiltFrom cfg PW.add ⟨0, []⟩ some
      (charEntriesOf m.charW (if m.charW = 0 then [] else m.charNgrams) m.dict) sc ∨
    BuiltFrom cfg PWT.add PWT.empty PWT.weight
      (charEntriesTOf m.charW (if m.charW = 0 then [] else m.charNgrams) m.dict T) sc := by
  rcases charScorerNew_cases cfg m T _ h with ⟨h, _⟩ | ⟨_, h, _, _, hb⟩ | ⟨_, h, _, hb⟩ <;> cases h
  · exact Or.inr (buildBoundaryTag_ok cfg _ _ _ sc hb)
  · exact Or.inl (buildBoundary_ok cfg _ sc hb)

theorem typeScorerNew_built (cfg : Cfg) (m : WModel) (T : List (List (TagNgramData Nat))) (ts : TypeScorer)
    (h : typeScorerNew cfg m T = .ok (some ts)) :
    (∃ sc, ts = .pma sc ∧
      (BuiltFrom cfg PW.add ⟨0, []⟩ some (typeEntriesOf m.typeW (if m.typeW = 0 then [] else m.typeNgrams)) sc ∨
       BuiltFrom cfg PWT.add PWT.empty PWT.weight
        (typeEntriesTOf m.typeW (if m.typeW = 0 then [] else m.typeNgrams) T) sc)) ∨
    ts = .cache (if m.typeW = 0 then [] else m.typeNgrams) m.typeW := by
  rcases typeScorerNew_cases cfg m T _ h with ⟨h, _⟩ | ⟨sc, h, _, _, hb⟩ | ⟨h, _⟩ | ⟨sc, h, _, _, hb⟩ <;> cases h
  · exact Or.inl ⟨sc, rfl, Or.inr (buildBoundaryTag_ok cfg _ _ _ sc hb)⟩
  · exact Or.inr rfl
  · exact Or.inl ⟨sc, rfl, Or.inl (buildBoundary_ok cfg _ sc hb)⟩

theorem builtFrom_keys_ne {cfg : Cfg} {add : W → W → W} {d : W} {g : W → Option PW} (hg : AddOK add g)
    {es : List (List α × W)} {sc : PmaScorer α} (hb : BuiltFrom cfg add d g es sc) : [] ∉ es.map Prod.fst := by
  obtain ⟨_, hkeys, _, _⟩ := addAll_correct add d (evg g 0) (fun _ _ => True) (fun _ _ _ _ _ => trivial)
    (fun _ a b _ _ => evg_add add g hg 0 a b) es (fun _ _ => trivial)
  have hne := (pmaBuildOk_spec sc.pats hb.2.2).1
  rw [hb.1, mergeEntries_keys] at hne
  exact fun h => hne ((hkeys []).mpr h)

/-- the layout conversion adds nothing but zero padding -/
theorem ofList_toList_mem (cfg : Cfg) (w : List Int) (x : Int) (hx : x ∈ (WV.ofList cfg w).toList) : x ∈ w ∨ x = 0 := by
  unfold WV.ofList at hx
  split at hx
  · exact (List.mem_append.mp hx).imp_right fun h => (List.mem_replicate.mp h).2
  · exact Or.inl hx

theorem builtFrom_weights (P : Int → Bool) (h0 : P 0 = true) {cfg : Cfg} {add : W → W → W} {d : W}
    {g : W → Option PW} {es : List (List α × W)} {sc : PmaScorer α} (hb : BuiltFrom cfg add d g es sc)
    (hok : ∀ e ∈ mergeEntries add d (addAll add es []), okW P g e.2 = true) :
    ∀ ow ∈ sc.weights, ∀ pwv, ow = some pwv → ∀ x ∈ pwv.weight.toList, P x = true := by
  intro ow how pwv hpwv x hx
  rw [hb.2.1] at how
  obtain ⟨e, he, rfl⟩ := List.mem_map.mp how
  cases hge : g e.2 with
  | none => rw [hge] at hpwv; cases hpwv
  | some pw =>
    rw [hge] at hpwv
    simp only [Option.map_some, Option.some.injEq] at hpwv
    subst hpwv
    rcases ofList_toList_mem cfg pw.weight x hx with h | h
    · exact okW_spec P g e.2 (hok e he) pw hge x h
    · rw [h]; exact h0

theorem cacheTerms_abs_le (ngrams : List (NgramData Nat)) (window : Nat) (seqid : Nat) :
    ((cacheTerms ngrams window seqid).map iabs).sum ≤ ((ngramMass ngrams : Nat) : Int) := by
  have hlen : (seqOfId (2 * window) seqid).length = 2 * window := by simp [seqOfId]
  unfold cacheTerms ngramMass
  rw [List.map_map, natsum_cast]
  refine Int.le_trans (Int.le_of_eq (isum_matchesAll ngrams _ fun d e =>
    iabs (match d.weights[2 * window - e]? with | some w => w | none => 0))) (isum_map_le _ _ _ fun d _ => ?_)
  rw [hlen]
  -- a match ending at `k + 1` reads the weight vector at index `2 * window − 1 − k`
  refine Int.le_trans (Int.le_of_eq (isum_map_congr _ _ _ fun k hk => ?_))
    (isum_abs_getZ_cond_le d.weights ((2 * window : Nat) - 1) (2 * window)
      fun k => d.ngram.isSuffixOf ((seqOfId (2 * window) seqid).take (k + 1)))
  have hk' : k < 2 * window := List.mem_range.mp hk
  rw [show ((2 * window : Nat) : Int) - 1 - (k : Int) = ((2 * window - (k + 1) : Nat) : Int) by omega, getZ_nat,
    List.getD_eq_getElem?_getD]
  cases d.weights[2 * window - (k + 1)]? <;> rfl

/-- every partial sum `y` of the loop that fills a table entry, and the entry itself -/
theorem cache_within (P : Int → Bool) (M : Nat) (hP : ∀ x : Int, x.natAbs ≤ M → P x = true)
    (ngrams : List (NgramData Nat)) (hM : ngramMass ngrams ≤ M) (window seqid : Nat) :
    (∀ k, P ((cacheTerms ngrams window seqid).take k).sum = true) ∧ P (cacheEntry ngrams window seqid) = true := by
  have hk : ∀ k, P ((cacheTerms ngrams window seqid).take k).sum = true := by
    intro k
    apply hP
    apply (iabs_le_iff _ _).mp
    have h1 := iabs_take_sum_le (cacheTerms ngrams window seqid) k
    have h2 := cacheTerms_abs_le ngrams window seqid
    omega
  refine ⟨hk, ?_⟩
  rw [cacheEntry_eq]
  split
  · exact hP 0 (by simp)
  · have := hk (cacheTerms ngrams window seqid).length
    rwa [List.take_length] at this

theorem cacheEntry_natAbs_le (ngrams : List (NgramData Nat)) (window seqid : Nat) :
    (cacheEntry ngrams window seqid).natAbs ≤ ngramMass ngrams := by
  have := (cache_within (fun x => decide (x.natAbs ≤ ngramMass ngrams)) (ngramMass ngrams)
    (fun x hx => by simpa using hx) ngrams (Nat.le_refl _) window seqid).2
  simpa using this

end C01B
end V
