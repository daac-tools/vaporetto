import VProofs.Lemmas.AsmDict
/-!
# C09: totality and score of the assembled model

Stated with `Generable` and `CfgOK` of `VProofs/C09.lean` unfolded, and for the weight function
`trace.foldl stepF (fun _ => 0)`, which is `wqOf trace` when the features of the trace are distinct.
-/
namespace V.C09L
open V V.C01L V.C10L

theorem good_of_gen (cfg : TrainCfg) (hne : ∀ w ∈ cfg.dictWords, w ≠ []) (hD : 1 ≤ cfg.dictMaxLen)
    (f : Feature) (text : List Char) (i : Nat) (h : f ∈ genFeatures cfg text i) : GoodF cfg f := by
  unfold genFeatures at h
  rcases List.mem_append.mp h with h | h
  · rcases List.mem_append.mp h with h | h
    · obtain ⟨p, hp, rfl⟩ := List.mem_map.mp h
      exact ngramFeats_window cfg.charW cfg.charN text i p.1 p.2 hp
    · obtain ⟨p, hp, rfl⟩ := List.mem_map.mp h
      exact ngramFeats_window cfg.typeW cfg.typeN (typesOf text) i p.1 p.2 hp
  · obtain ⟨⟨st, en⟩, hm, pos, rfl⟩ := mem_dictFeats_match h
    obtain ⟨w, hw, hlen⟩ := mem_dictMatches hm
    have hwl : 1 ≤ w.length := List.length_pos_iff.mpr (hne w hw)
    show 1 ≤ min (en - st) cfg.dictMaxLen ∧ min (en - st) cfg.dictMaxLen ≤ cfg.dictMaxLen
    omega

theorem TabWF.shape {α : Type} [DecidableEq α] {lt : List α → List α → Bool} {W : Nat} {m : List (List α × List Int)}
    (h : TabWF lt W m) (e : List α × List Int) (he : e ∈ m) :
    e.2.length = 2 * W - e.1.length + 1 ∧ e.1.length ≤ 2 * W := by
  obtain ⟨h1, h2⟩ := h.2 e he
  exact ⟨by omega, h2⟩

/-- every key of the type table is the n-gram of a trace entry -/
theorem asmFold_typeKeys (cfg : TrainCfg) (R : List Nat → Prop) (trace : List (Feature × Int)) (a : Asm)
    (hR : ∀ fw ∈ trace, ∀ g rel, fw.1 = Feature.typeNgram g rel → R g)
    (h : asmFold cfg trace { dictW := List.replicate cfg.dictMaxLen (0, 0, 0) } = .ok a) : ∀ e ∈ a.typeM, R e.1 := by
  refine (asmFold_induction cfg (fun a => AsmWF cfg a ∧ ∀ e ∈ a.typeM, R e.1) trace _ a ?_
    ⟨asmWF_init cfg, fun _ he => nomatch he⟩ h).2
  intro fw hfw a a' ⟨hwf, ht⟩ hs
  refine ⟨asmStep_wf cfg a a' hwf fw hs, ?_⟩
  obtain ⟨f, w⟩ := fw
  by_cases hw : w = 0
  · rw [hw, asmStep_zero] at hs
    cases hs
    exact ht
  · rw [asmStep_eq cfg f w hw a hwf] at hs
    split at hs
    · cases hs
      cases f with
      | typeNgram g rel =>
        intro e he
        rcases PermL.mem_insK _ _ _ _ e he with h | h | ⟨_, _, h⟩
        · exact ht e h
        · exact h ▸ hR _ hfw g rel rfl
        · exact h ▸ hR _ hfw g rel rfl
      | charNgram g rel => exact ht
      | dictWord len pos => exact ht
    · cases hs

theorem assemble_ok (cfg : TrainCfg) (trace : List (Feature × Int)) (bias : Int) (tms : List TagModel) (m : WModel)
    (h : assembleBoundary cfg trace bias tms = .ok m) :
    ∃ a dict, asmFold cfg trace { dictW := List.replicate cfg.dictMaxLen (0, 0, 0) } = .ok a ∧
      mapRes (dictRecord a.dictW) cfg.dictWords = .ok dict ∧
      m = { charNgrams := a.charM.map fun e => ⟨e.1, e.2⟩, typeNgrams := a.typeM.map fun e => ⟨e.1, e.2⟩,
            dict := dict, bias := bias, charW := cfg.charW, typeW := cfg.typeW, tagModels := tms } := by
  unfold assembleBoundary at h
  split at h
  · rename_i a ha
    split at h
    · rename_i dict hd
      exact ⟨a, dict, ha, hd, (Res.ok.inj h).symm⟩
    all_goals cases h
  all_goals cases h

theorem assemble_run (cfg : TrainCfg) (hne : ∀ w ∈ cfg.dictWords, w ≠ []) (hD : 1 ≤ cfg.dictMaxLen)
    (trace : List (Feature × Int)) (bias : Int) (tms : List TagModel)
    (hg : ∀ e ∈ trace, ∃ text i, i + 1 < text.length ∧ e.1 ∈ genFeatures cfg text i) :
    ∃ a, Inv cfg (trace.foldl stepF (fun _ => 0)) a ∧
      assembleBoundary cfg trace bias tms =
        .ok { charNgrams := a.charM.map fun e => ⟨e.1, e.2⟩, typeNgrams := a.typeM.map fun e => ⟨e.1, e.2⟩,
              dict := cfg.dictWords.map (recOf a.dictW), bias := bias, charW := cfg.charW, typeW := cfg.typeW,
              tagModels := tms } := by
  have good : ∀ e ∈ trace, GoodF cfg e.1 := by
    intro e he
    obtain ⟨text, i, _, hm⟩ := hg e he
    exact good_of_gen cfg hne hD e.1 text i hm
  obtain ⟨a, ha, hinv⟩ := asmFold_inv cfg trace (fun _ => 0) _ (inv_init cfg) good
  have hdict : mapRes (dictRecord a.dictW) cfg.dictWords = .ok (cfg.dictWords.map (recOf a.dictW)) := by
    apply mapRes_ok_map
    intro w hw
    apply dictRecord_eq
    have hwl : 1 ≤ w.length := List.length_pos_iff.mpr (hne w hw)
    have := hinv.dlen
    omega
  refine ⟨a, hinv, ?_⟩
  unfold assembleBoundary
  rw [ha]
  simp only
  rw [hdict]

theorem assemble_total (cfg : TrainCfg) (hne : ∀ w ∈ cfg.dictWords, w ≠ []) (hD : 1 ≤ cfg.dictMaxLen)
    (trace : List (Feature × Int)) (bias : Int) (tms : List TagModel)
    (hg : ∀ e ∈ trace, ∃ text i, i + 1 < text.length ∧ e.1 ∈ genFeatures cfg text i) :
    ∃ m, assembleBoundary cfg trace bias tms = .ok m := by
  obtain ⟨a, _, h⟩ := assemble_run cfg hne hD trace bias tms hg
  exact ⟨_, h⟩

/-- the score is the bias plus, per extracted feature, the last non-zero weight the trace gives it -/
theorem scores_main (cfg : TrainCfg) (hne : ∀ w ∈ cfg.dictWords, w ≠ []) (hD : 1 ≤ cfg.dictMaxLen)
    (trace : List (Feature × Int)) (bias : Int) (tms : List TagModel)
    (hg : ∀ e ∈ trace, ∃ text i, i + 1 < text.length ∧ e.1 ∈ genFeatures cfg text i) (m : WModel)
    (h : assembleBoundary cfg trace bias tms = .ok m) (text : List Char) (b : Nat) (hb : b + 1 < text.length) :
    specScore m text b = bias + ((genFeatures cfg text b).map (trace.foldl stepF fun _ => 0)).sum := by
  obtain ⟨a, hinv, h'⟩ := assemble_run cfg hne hD trace bias tms hg
  cases h'.symm.trans h
  unfold specScore genFeatures
  dsimp only
  rw [ngram_sum (lexLt_st ltChar_st) cfg.charW cfg.charN _ _ hinv.chars,
    ngram_sum (lexLt_st ltNat_st) cfg.typeW cfg.typeN _ _ hinv.types,
    dict_sum cfg _ a.dictW hinv.dlen hinv.dval hD hne text b hb]
  simp only [List.map_append, isum_append, List.map_map, Function.comp_def]
  omega

end V.C09L
