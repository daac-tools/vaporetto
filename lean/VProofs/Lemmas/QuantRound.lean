import VModel.Quantize
/-!
# `rneDiv` and `roundUnits`: correct rounding on the binary64 grid, in units of `2^-1074`

Round-to-nearest-even is monotone and fixes the grid points; everything else (it never crosses a representable value, the
error bounds) follows from these two facts and the half-unit characterisation `rneDiv_spec`.
-/
namespace V.QuantL
open V V.F64

theorem pow_mono2 {i j : Nat} (h : i ≤ j) : 2 ^ i ≤ 2 ^ j := Nat.pow_le_pow_right (by decide) h

theorem pow_split {s t : Nat} (h : s ≤ t) : 2 ^ t = 2 ^ (t - s) * 2 ^ s := by
  rw [← Nat.pow_add, Nat.sub_add_cancel h]

theorem log2_eq_of {a k : Nat} (h1 : 2 ^ k ≤ a) (h2 : a < 2 ^ (k + 1)) : a.log2 = k := by
  have hne : a ≠ 0 := by have := Nat.two_pow_pos k; omega
  have hle : a.log2 < k + 1 := (Nat.log2_lt hne).mpr h2
  have hge : ¬ a.log2 < k := fun h => by have := (Nat.log2_lt hne).mp h; omega
  omega

theorem rneDiv_spec (n d : Nat) (hd : 0 < d) :
    2 * (d * rneDiv n d) ≤ 2 * n + d ∧ 2 * n ≤ 2 * (d * rneDiv n d) + d ∧
    (2 * n = 2 * (d * rneDiv n d) + d → rneDiv n d % 2 = 0) ∧
    (2 * (d * rneDiv n d) = 2 * n + d → rneDiv n d % 2 = 0) := by
  have h1 : d * (n / d) + n % d = n := Nat.div_add_mod n d
  have h2 : n % d < d := Nat.mod_lt n hd
  unfold rneDiv
  simp only []
  generalize n / d = q at h1 ⊢
  generalize n % d = r at h1 h2 ⊢
  clear hd
  split
  · generalize d * q = x at h1 ⊢
    omega
  · split
    · rw [Nat.mul_succ]
      generalize d * q = x at h1 ⊢
      omega
    · split
      · rename_i c
        generalize d * q = x at h1 ⊢
        exact ⟨by omega, by omega, fun _ => c, fun _ => c⟩
      · rename_i c
        have c' : (q + 1) % 2 = 0 := by omega
        rw [Nat.mul_succ]
        generalize d * q = x at h1 ⊢
        exact ⟨by omega, by omega, fun _ => c', fun _ => c'⟩

theorem rneDiv_mul_left (d g : Nat) (hd : 0 < d) : rneDiv (d * g) d = g := by
  unfold rneDiv
  simp only []
  rw [Nat.mul_mod_right, Nat.mul_div_cancel_left g hd, if_pos hd]

/-- `r` is `n/D` rounded to the nearest integer, ties to even -/
def Rne (n D r : Nat) : Prop :=
  2 * (D * r) ≤ 2 * n + D ∧ 2 * n ≤ 2 * (D * r) + D ∧
    (2 * n = 2 * (D * r) + D → r % 2 = 0) ∧ (2 * (D * r) = 2 * n + D → r % 2 = 0)

/-- roundings of ordered numerators are ordered; with `n₁ = n₂`: the rounding is unique -/
theorem Rne.le_of_le {n₁ n₂ D r₁ r₂ : Nat} (hD : 0 < D) (h₁ : Rne n₁ D r₁) (h₂ : Rne n₂ D r₂) (hn : n₁ ≤ n₂) :
    r₁ ≤ r₂ := by
  apply Nat.le_of_not_lt
  intro hlt
  have hm : D * (r₂ + 1) ≤ D * r₁ := Nat.mul_le_mul_left D hlt
  obtain ⟨u, -, -, ue⟩ := h₁
  obtain ⟨-, l, le, -⟩ := h₂
  -- forced: both are ties and `r₁ = r₂ + 1`, yet both are even
  have e : 2 * (D * r₁) = 2 * n₁ + D ∧ 2 * n₂ = 2 * (D * r₂) + D ∧ D * r₁ = D * (r₂ + 1) := by
    rw [Nat.mul_succ] at hm ⊢
    generalize D * r₁ = x at u hm ⊢
    generalize D * r₂ = y at l hm ⊢
    omega
  have p1 := ue e.1
  have p2 := le e.2.1
  have := Nat.eq_of_mul_eq_mul_left hD e.2.2
  omega

theorem rneDiv_eq_iff (n D c : Nat) (hD : 0 < D) : rneDiv n D = c ↔ Rne n D c :=
  ⟨fun h => h ▸ rneDiv_spec n D hD, fun h =>
    Nat.le_antisymm (Rne.le_of_le hD (rneDiv_spec n D hD) h (Nat.le_refl n))
      (h.le_of_le hD (rneDiv_spec n D hD) (Nat.le_refl n))⟩

theorem rneDiv_mono (n₁ n₂ d : Nat) (hd : 0 < d) (h : n₁ ≤ n₂) : rneDiv n₁ d ≤ rneDiv n₂ d :=
  Rne.le_of_le hd (rneDiv_spec n₁ d hd) (rneDiv_spec n₂ d hd) h

theorem rneDiv_le_of_le (n d g : Nat) (hd : 0 < d) (h : n ≤ d * g) : rneDiv n d ≤ g := by
  have := rneDiv_mono n (d * g) d hd h
  rw [rneDiv_mul_left d g hd] at this
  exact this

theorem le_rneDiv_of_le (n d g : Nat) (hd : 0 < d) (h : d * g ≤ n) : g ≤ rneDiv n d := by
  have := rneDiv_mono (d * g) n d hd h
  rw [rneDiv_mul_left d g hd] at this
  exact this

theorem rneDiv_scale (n d c : Nat) (hc : 0 < c) : rneDiv (n * c) (d * c) = rneDiv n d := by
  unfold rneDiv
  simp only []
  rw [Nat.mul_div_mul_right n d hc, Nat.mul_mod_mul_right]
  have e1 : (2 * (n % d * c) < d * c) = (2 * (n % d) < d) := by
    rw [← Nat.mul_assoc]; exact propext (Nat.mul_lt_mul_right hc)
  have e2 : (d * c < 2 * (n % d * c)) = (d < 2 * (n % d)) := by
    rw [← Nat.mul_assoc]; exact propext (Nat.mul_lt_mul_right hc)
  simp only [e1, e2]

/-- the grid exponent used for `n/d` -/
def shiftOf (n d : Nat) : Nat := (n / d).log2 - 52

theorem roundUnits_eq (n d : Nat) :
    roundUnits n d = rneDiv n (d * 2 ^ shiftOf n d) * 2 ^ shiftOf n d := rfl

theorem shift_upper (n d : Nat) (hd : 0 < d) : n < d * 2 ^ (shiftOf n d + 53) := by
  have h1 : n / d < 2 ^ ((n / d).log2 + 1) := Nat.lt_log2_self
  have h2 : 2 ^ ((n / d).log2 + 1) ≤ 2 ^ (shiftOf n d + 53) := pow_mono2 (by unfold shiftOf; omega)
  rw [Nat.mul_comm]
  exact (Nat.div_lt_iff_lt_mul hd).mp (Nat.lt_of_lt_of_le h1 h2)

theorem shift_lower (n d : Nat) (hd : 0 < d) : shiftOf n d = 0 ∨ d * 2 ^ (shiftOf n d + 52) ≤ n := by
  by_cases h : shiftOf n d = 0
  · exact Or.inl h
  · right
    have hl : (n / d).log2 = shiftOf n d + 52 := by unfold shiftOf at h ⊢; omega
    have hne : n / d ≠ 0 := by
      intro h0
      rw [h0] at hl
      have : Nat.log2 0 = 0 := by decide
      omega
    have h1 : 2 ^ (n / d).log2 ≤ n / d := Nat.log2_self_le hne
    rw [hl] at h1
    rw [Nat.mul_comm]
    exact (Nat.le_div_iff_mul_le hd).mp h1

theorem log2_sub_eq (q u : Nat) (hu : q < 2 ^ (u + 53)) (hl : u = 0 ∨ 2 ^ (u + 52) ≤ q) : q.log2 - 52 = u := by
  rcases hl with rfl | hl
  · by_cases h0 : q = 0
    · rw [h0]; decide
    · have : q.log2 < 0 + 53 := (Nat.log2_lt h0).mpr hu
      omega
  · rw [log2_eq_of (k := u + 52) hl hu]
    omega

theorem shiftOf_eq (n d u : Nat) (hd : 0 < d) (hu : n < d * 2 ^ u * 2 ^ 53) (hl : u = 0 ∨ d * 2 ^ u * 2 ^ 52 ≤ n) :
    shiftOf n d = u := by
  apply log2_sub_eq
  · rw [Nat.pow_add]
    exact (Nat.div_lt_iff_lt_mul hd).mpr (by rw [Nat.mul_comm, ← Nat.mul_assoc]; exact hu)
  · refine hl.imp_right fun h => ?_
    rw [Nat.pow_add]
    exact (Nat.le_div_iff_mul_le hd).mpr (by rw [Nat.mul_comm, ← Nat.mul_assoc]; exact h)

/-- the normal form `c·2^t` of a magnitude (`c < 2^53`, and `2^52 ≤ c` above the integer grid) shows its grid exponent -/
theorem log2_normal (c t : Nat) (hc : c < 2 ^ 53) (hn : t = 0 ∨ 2 ^ 52 ≤ c) : (c * 2 ^ t).log2 - 52 = t := by
  apply log2_sub_eq
  · rw [Nat.pow_add, Nat.mul_comm (2 ^ t)]
    exact Nat.mul_lt_mul_of_pos_right hc (Nat.two_pow_pos t)
  · refine hn.imp_right fun h => ?_
    rw [Nat.pow_add, Nat.mul_comm (2 ^ t)]
    exact Nat.mul_le_mul_right _ h

theorem log2_mul_pow_le (c t : Nat) (hc : c < 2 ^ 53) : (c * 2 ^ t).log2 - 52 ≤ t := by
  by_cases h0 : c * 2 ^ t = 0
  · rw [h0]
    have : Nat.log2 0 = 0 := by decide
    omega
  · have hlt : c * 2 ^ t < 2 ^ (53 + t) := by
      rw [Nat.pow_add]; exact Nat.mul_lt_mul_of_pos_right hc (Nat.two_pow_pos t)
    have := (Nat.log2_lt h0).mpr hlt
    omega

theorem shift_mono (n₁ n₂ d : Nat) (h : n₁ ≤ n₂) : shiftOf n₁ d ≤ shiftOf n₂ d := by
  have hdiv : n₁ / d ≤ n₂ / d := Nat.div_le_div_right h
  have : (n₁ / d).log2 ≤ (n₂ / d).log2 := by
    by_cases h0 : n₁ / d = 0
    · rw [h0]
      have : Nat.log2 0 = 0 := by decide
      omega
    · have h2 : n₂ / d ≠ 0 := Nat.ne_of_gt (Nat.lt_of_lt_of_le (Nat.pos_of_ne_zero h0) hdiv)
      apply Nat.le_of_not_lt
      intro hlt
      have a := (Nat.log2_lt h2).mp hlt
      have b := Nat.log2_self_le h0
      omega
  unfold shiftOf
  omega

theorem mant_le (n d : Nat) (hd : 0 < d) : rneDiv n (d * 2 ^ shiftOf n d) ≤ 2 ^ 53 := by
  apply rneDiv_le_of_le _ _ _ (Nat.mul_pos hd (Nat.two_pow_pos _))
  have := shift_upper n d hd
  rw [Nat.pow_add, ← Nat.mul_assoc] at this
  exact Nat.le_of_lt this

theorem mant_ge (n d : Nat) (hd : 0 < d) (hs : shiftOf n d ≠ 0) : 2 ^ 52 ≤ rneDiv n (d * 2 ^ shiftOf n d) := by
  apply le_rneDiv_of_le _ _ _ (Nat.mul_pos hd (Nat.two_pow_pos _))
  rcases shift_lower n d hd with h | h
  · exact absurd h hs
  · rw [Nat.pow_add, ← Nat.mul_assoc] at h
    exact h

/-- `c·2^t` with `c < 2^53`: the finite binary64 magnitudes (exponent unbounded above) -/
def RepU (g : Nat) : Prop := ∃ c t, g = c * 2 ^ t ∧ c < 2 ^ 53

theorem roundUnits_mono (n₁ n₂ d : Nat) (hd : 0 < d) (h : n₁ ≤ n₂) : roundUnits n₁ d ≤ roundUnits n₂ d := by
  have hsm := shift_mono n₁ n₂ d h
  rw [roundUnits_eq, roundUnits_eq]
  by_cases heq : shiftOf n₁ d = shiftOf n₂ d
  · rw [heq]
    exact Nat.mul_le_mul_right _ (rneDiv_mono _ _ _ (Nat.mul_pos hd (Nat.two_pow_pos _)) h)
  · -- across binades: `m₁·2^s₁ ≤ 2^53·2^s₁ ≤ 2^52·2^s₂ ≤ m₂·2^s₂`
    have hs2 : shiftOf n₂ d ≠ 0 := by omega
    have h1 : rneDiv n₁ (d * 2 ^ shiftOf n₁ d) * 2 ^ shiftOf n₁ d ≤ 2 ^ 53 * 2 ^ shiftOf n₁ d :=
      Nat.mul_le_mul_right _ (mant_le n₁ d hd)
    have h2 : 2 ^ 53 * 2 ^ shiftOf n₁ d ≤ 2 ^ 52 * 2 ^ shiftOf n₂ d := by
      rw [← Nat.pow_add, ← Nat.pow_add]
      exact pow_mono2 (by omega)
    have h3 : 2 ^ 52 * 2 ^ shiftOf n₂ d ≤ rneDiv n₂ (d * 2 ^ shiftOf n₂ d) * 2 ^ shiftOf n₂ d :=
      Nat.mul_le_mul_right _ (mant_ge n₂ d hd hs2)
    exact Nat.le_trans h1 (Nat.le_trans h2 h3)

theorem roundUnits_exact (g d : Nat) (hd : 0 < d) (hg : RepU g) : roundUnits (d * g) d = g := by
  obtain ⟨c, t, rfl, hc⟩ := hg
  have hs : shiftOf (d * (c * 2 ^ t)) d ≤ t := by
    unfold shiftOf
    rw [Nat.mul_div_cancel_left _ hd]
    exact log2_mul_pow_le c t hc
  rw [roundUnits_eq]
  generalize shiftOf (d * (c * 2 ^ t)) d = s at hs
  have e : d * (c * 2 ^ t) = d * 2 ^ s * (c * 2 ^ (t - s)) := by
    rw [pow_split hs]; ac_rfl
  rw [e, rneDiv_mul_left _ _ (Nat.mul_pos hd (Nat.two_pow_pos _)), Nat.mul_assoc, ← pow_split hs]

theorem roundUnits_le_of_le (n d g : Nat) (hd : 0 < d) (hg : RepU g) (h : n ≤ d * g) : roundUnits n d ≤ g := by
  have := roundUnits_mono n (d * g) d hd h
  rw [roundUnits_exact g d hd hg] at this
  exact this

theorem le_roundUnits_of_le (n d g : Nat) (hd : 0 < d) (hg : RepU g) (h : d * g ≤ n) : g ≤ roundUnits n d := by
  have := roundUnits_mono (d * g) n d hd h
  rw [roundUnits_exact g d hd hg] at this
  exact this

theorem roundUnits_rep (n d : Nat) (hd : 0 < d) : RepU (roundUnits n d) := by
  rw [roundUnits_eq]
  have h := mant_le n d hd
  by_cases he : rneDiv n (d * 2 ^ shiftOf n d) = 2 ^ 53
  · refine ⟨1, 53 + shiftOf n d, ?_, by decide⟩
    rw [he, Nat.one_mul, Nat.pow_add]
  · exact ⟨_, _, rfl, by omega⟩

/-- the error: half a unit on the integer grid, relative `2^-53` above it -/
theorem roundUnits_err (n d : Nat) (hd : 0 < d) :
    (2 * n ≤ 2 * (d * roundUnits n d) + d ∧ 2 * (d * roundUnits n d) ≤ 2 * n + d) ∨
    (2 ^ 53 * n ≤ 2 ^ 53 * (d * roundUnits n d) + n ∧ 2 ^ 53 * (d * roundUnits n d) ≤ 2 ^ 53 * n + n) := by
  obtain ⟨hs1, hs2, _⟩ := rneDiv_spec n (d * 2 ^ shiftOf n d) (Nat.mul_pos hd (Nat.two_pow_pos _))
  have e : d * 2 ^ shiftOf n d * rneDiv n (d * 2 ^ shiftOf n d) = d * roundUnits n d := by
    rw [roundUnits_eq, Nat.mul_assoc, Nat.mul_comm (2 ^ shiftOf n d)]
  rw [e] at hs1 hs2
  rcases shift_lower n d hd with h0 | h0
  · left
    rw [h0, Nat.pow_zero, Nat.mul_one] at hs1 hs2
    exact ⟨hs2, hs1⟩
  · right
    rw [Nat.pow_add, ← Nat.mul_assoc] at h0
    generalize d * 2 ^ shiftOf n d = D at hs1 hs2 h0
    generalize d * roundUnits n d = x at hs1 hs2 ⊢
    omega

theorem roundUnits_lower (n d : Nat) (hd : 0 < d) :
    2 * n ≤ 2 * (d * roundUnits n d) + d ∨ 2 ^ 53 * n ≤ 2 ^ 53 * (d * roundUnits n d) + n :=
  (roundUnits_err n d hd).imp And.left And.left

theorem roundUnits_upper (n d : Nat) (hd : 0 < d) :
    2 * (d * roundUnits n d) ≤ 2 * n + d ∨ 2 ^ 53 * (d * roundUnits n d) ≤ 2 ^ 53 * n + n :=
  (roundUnits_err n d hd).imp And.right And.right

theorem roundUnits_rel (n d : Nat) (hd : 0 < d) (hbig : d * 2 ^ 52 ≤ n) :
    2 ^ 53 * (d * roundUnits n d) ≤ (2 ^ 53 + 1) * n ∧ (2 ^ 53 - 1) * n ≤ 2 ^ 53 * (d * roundUnits n d) := by
  have h := roundUnits_err n d hd
  generalize d * roundUnits n d = x at h ⊢
  omega

theorem roundUnits_scale (n d c : Nat) (hc : 0 < c) : roundUnits (n * c) (d * c) = roundUnits n d := by
  have hs : shiftOf (n * c) (d * c) = shiftOf n d := by
    unfold shiftOf; rw [Nat.mul_div_mul_right n d hc]
  rw [roundUnits_eq, roundUnits_eq, hs, Nat.mul_right_comm d c, rneDiv_scale _ _ _ hc]

theorem roundUnits_congr (n d n' d' : Nat) (hd : 0 < d) (hd' : 0 < d') (h : n * d' = n' * d) :
    roundUnits n d = roundUnits n' d' := by
  rw [← roundUnits_scale n d d' hd', h, Nat.mul_comm d d', roundUnits_scale n' d' d hd]

theorem roundUnits_zero (d : Nat) (hd : 0 < d) : roundUnits 0 d = 0 := by
  have := roundUnits_exact 0 d hd ⟨0, 0, rfl, by decide⟩
  rw [Nat.mul_zero] at this
  exact this

end V.QuantL
