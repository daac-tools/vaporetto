import VProofs.Lemmas.ParserTotal
/-!
The `parse_partial_annotation` state machine run over the output of `write_partial_annotation_text`.
-/
namespace V.C04L

theorem partStep_backslash (tx : List Char) (bs : List B) (tt : List (List (List Char)))
    (pend : Option (List Char)) :
    partStep ⟨tx, bs, tt, pend, false, false⟩ '\\' = .ok ⟨tx, bs, tt, pend, true, false⟩ := by
  simp [partStep]

theorem partStep_tag (tx : List Char) (bs : List B) (tt : List (List (List Char))) (t : List Char) (e : Bool)
    (c : Char) (h : e = true ∨ partSpecial c = false) :
    partStep ⟨tx, bs, tt, some t, e, false⟩ c = .ok ⟨tx, bs, tt, some (t ++ [c]), false, false⟩ := by
  rcases h with rfl | hs
  · simp [partStep]
  · simp only [partSpecial, Bool.or_eq_false_iff, decide_eq_false_iff_not] at hs
    obtain ⟨⟨⟨⟨h1, h2⟩, h3⟩, h4⟩, h5⟩ := hs
    simp [partStep, h1, h2, h3, h4, h5]

theorem partStep_slash (tx : List Char) (bs : List B) (pre : List (List (List Char)))
    (cur : List (List Char)) (pend : Option (List Char)) :
    partStep ⟨tx, bs, pre ++ [cur], pend, false, false⟩ '/' =
      .ok ⟨tx, bs, pre ++ [curOf cur pend], some [], false, false⟩ := by
  cases pend with
  | none => simp [partStep, curOf]
  | some p => simp [partStep, curOf, pushLast_concat]

theorem partStep_boundary (tx : List Char) (bs : List B) (pre : List (List (List Char)))
    (cur : List (List Char)) (pend : Option (List Char)) (b : B) :
    partStep ⟨tx, bs, pre ++ [cur], pend, false, false⟩ b.partChar =
      .ok ⟨tx, bs ++ [b], pre ++ [curOf cur pend], none, false, true⟩ := by
  cases pend with
  | none => cases b <;> simp [partStep, partBoundary, B.partChar, curOf]
  | some p => cases b <;> simp [partStep, partBoundary, B.partChar, curOf, pushLast_concat]

theorem partStep_char (tx : List Char) (bs : List B) (tt : List (List (List Char)))
    (pend : Option (List Char)) (e : Bool) (c : Char) (h0 : c ≠ '\x00') :
    partStep ⟨tx, bs, tt, pend, e, true⟩ c = .ok ⟨tx ++ [c], bs, tt ++ [[]], pend, e, false⟩ := by
  simp [partStep, h0]

theorem partRun_cons_ok {s s' : PartSt} {c : Char} (h : partStep s c = .ok s') (cs : List Char) :
    partRun s (c :: cs) = partRun s' cs := by
  simp [partRun, h]

/-- a parser state between two characters of the sentence: text `tx`, labels `bs`, and per-character tag
lists `tt` once the pending tag is flushed -/
def Good (s : PartSt) (tx : List Char) (bs : List B) (tt : List (List (List Char))) : Prop :=
  ∃ pre cur pend, s = ⟨tx, bs, pre ++ [cur], pend, false, false⟩ ∧ tt = pre ++ [curOf cur pend]

theorem good_tags {tx : List Char} {bs : List B} {pre : List (List (List Char))} (ts : List Tag) {s : PartSt}
    {last : List (List Char)} (h : Good s tx bs (pre ++ [last])) (rest : List Char) :
    ∃ s', partRun s (writeTagsWith escPart ts ++ rest) = partRun s' rest ∧
      Good s' tx bs (pre ++ [last ++ ts.map (·.getD [])]) := by
  obtain ⟨l, x, pend, rfl, htt⟩ := h
  obtain ⟨rfl, hlast⟩ := List.append_inj' htt rfl
  obtain ⟨x', pend', h1, h2⟩ := run_writeTags partRun (fun tt pend e => ⟨tx, bs, tt, pend, e, false⟩) partSpecial
    escPart (fun _ => True) rfl (fun _ _ => rfl) (fun tt pend r => partRun_cons_ok (partStep_backslash tx bs tt pend) r)
    (fun tt t e c r h _ => partRun_cons_ok (partStep_tag tx bs tt t e c h) r)
    (fun l x pend r => partRun_cons_ok (partStep_slash tx bs l x pend) r) ts (fun _ _ _ _ => trivial) pre x pend rest
  exact ⟨_, h1, pre, x', pend', rfl, by rw [h2, List.cons.inj hlast |>.1]⟩

theorem good_boundary {s : PartSt} {tx : List Char} {bs : List B} {tt : List (List (List Char))}
    (h : Good s tx bs tt) (b : B) (c : Char) (h0 : c ≠ '\x00') (rest : List Char) :
    ∃ s', partRun s (b.partChar :: c :: rest) = partRun s' rest ∧
      Good s' (tx ++ [c]) (bs ++ [b]) (tt ++ [[]]) := by
  obtain ⟨pre, cur, pend, rfl, rfl⟩ := h
  refine ⟨⟨tx ++ [c], bs ++ [b], (pre ++ [curOf cur pend]) ++ [[]], none, false, false⟩, ?_,
    pre ++ [curOf cur pend], [], none, rfl, rfl⟩
  rw [partRun_cons_ok (partStep_boundary tx bs pre cur pend b),
    partRun_cons_ok (partStep_char _ _ _ _ _ c h0)]

theorem good_writeTagged (cs : List Char) :
    ∀ (tss : List (List Tag)) (bounds : List B) {s : PartSt} {tx : List Char} {bs : List B}
      {tt : List (List (List Char))}, Good s tx bs tt → (NulFree cs) →
      cs.length = tss.length → cs.length = bounds.length →
      ∃ s', partRun s (writePartTagged cs tss bounds) = .ok s' ∧
        Good s' (tx ++ cs) (bs ++ bounds) (tt ++ tss.map fun ts => (trimNone ts).map (·.getD [])) := by
  induction cs with
  | nil =>
    intro tss bounds s tx bs tt h _ h1 h2
    cases tss with
    | cons _ _ => simp at h1
    | nil =>
      cases bounds with
      | cons _ _ => simp at h2
      | nil => exact ⟨s, by simp [writePartTagged, partRun], by simpa using h⟩
  | cons c cs ih =>
    intro tss bounds s tx bs tt h h0 h1 h2
    cases tss with
    | nil => simp at h1
    | cons ts tss =>
      cases bounds with
      | nil => simp at h2
      | cons b bounds =>
        simp only [writePartTagged, List.cons_append]
        obtain ⟨s1, e1, g1⟩ := good_boundary h b c (h0 c (by simp))
          (writeTagsWith escPart (trimNone ts) ++ writePartTagged cs tss bounds)
        obtain ⟨s2, e2, g2⟩ := good_tags (trimNone ts) g1 (writePartTagged cs tss bounds)
        obtain ⟨s3, e3, g3⟩ := ih tss bounds g2 (fun d hd => h0 d (by simp [hd]))
          (by simpa using h1) (by simpa using h2)
        refine ⟨s3, by rw [e1, e2, e3], ?_⟩
        simpa using g3

theorem writePartPlain_eq (cs : List Char) : ∀ (bounds : List B), cs.length = bounds.length →
    writePartPlain cs bounds = writePartTagged cs (List.replicate cs.length []) bounds := by
  induction cs with
  | nil => intro bounds _; rfl
  | cons c cs ih =>
    intro bounds h
    cases bounds with
    | nil => cases h
    | cons b bounds =>
      rw [writePartPlain, ih bounds (Nat.succ.inj h), List.length_cons, List.replicate_succ, writePartTagged]
      rfl

theorem good_first (c : Char) (h0 : c ≠ '\x00') (rest : List Char) :
    ∃ s', partRun {} (c :: rest) = partRun s' rest ∧ Good s' [c] [] [[]] :=
  ⟨⟨[c], [], [[]], none, false, false⟩, partRun_cons_ok (partStep_char [] [] [] none false c h0) rest,
    [], [], none, rfl, rfl⟩

theorem parsePartial_of_good {w : List Char} {s : PartSt} {tx : List Char} {bs : List B}
    {tt : List (List (List Char))} (hw : w ≠ []) (hr : partRun {} w = .ok s) (h : Good s tx bs tt) :
    parsePartial w = .ok ⟨tx, bs, padTags (maxLen tt) tt⟩ := by
  obtain ⟨pre, cur, pend, rfl, rfl⟩ := h
  rw [parsePartial_eq, if_neg hw, hr]
  exact finishTags_concat _ tx bs pre cur pend

/-- writing succeeds, and parsing the output gives back the text, the labels, and per character the
trimmed chunk of tags (as strings, `[]` for an absent tag) -/
theorem writePartial_parse (s : Sentence) (hne : s.text ≠ []) (hnul : NulFree s.text)
    (hbl : s.bounds.length + 1 = s.text.length) (htl : s.tags.length = s.text.length * s.nTags) :
    ∃ w tt, s.writePartial = .ok w ∧ parsePartial w = .ok ⟨s.text, s.bounds, padTags (maxLen tt) tt⟩ ∧
      tt.length = s.text.length ∧
      ∀ (i : Nat) (hi : i < tt.length),
        tt[i] = (trimNone ((s.tags.drop (i * s.nTags)).take s.nTags)).map (·.getD []) := by
  cases htx : s.text with
  | nil => exact absurd htx hne
  | cons c cs =>
    rw [htx] at hnul hbl htl
    have hc0 : c ≠ '\x00' := hnul c (by simp)
    have hcs0 : NulFree cs := fun d hd => hnul d (by simp [hd])
    have hlen : cs.length = s.bounds.length := by simpa using hbl.symm
    by_cases hn : s.nTags = 0
    · have htags : s.tags = [] := by simpa [hn] using htl
      -- the untagged writer writes what the tagged one writes for empty chunks
      obtain ⟨s1, e1, g1⟩ := good_first c hc0 (writePartTagged cs (List.replicate cs.length []) s.bounds)
      obtain ⟨s2, e2, g2⟩ := good_writeTagged cs (List.replicate cs.length []) s.bounds g1 hcs0 (by simp) hlen
      refine ⟨c :: writePartPlain cs s.bounds, [[]] ++ List.replicate cs.length [], ?_, ?_, ?_, ?_⟩
      · simp [Sentence.writePartial, htx, hn]
      · have := parsePartial_of_good (by simp) (e1.trans e2) g2
        rw [writePartPlain_eq cs s.bounds hlen]
        simpa [trimNone] using this
      · simp
      · intro i hi
        have : ([[]] ++ List.replicate cs.length ([] : List (List Char)))[i] = [] := by
          cases i with
          | zero => rfl
          | succ i => simp
        rw [this, htags]
        simp [trimNone]
    · obtain ⟨hcl, hci⟩ := chunks_spec s.nTags hn (cs.length + 1) s.tags (by simpa using htl)
      cases hch : chunks s.nTags s.tags with
      | nil => rw [hch] at hcl; simp at hcl
      | cons ts tss =>
        rw [hch] at hcl
        have hlen' : cs.length = tss.length := by simpa using hcl.symm
        obtain ⟨s1, e1, g1⟩ := good_first c hc0
          (writeTagsWith escPart (trimNone ts) ++ writePartTagged cs tss s.bounds)
        obtain ⟨s2, e2, g2⟩ := good_tags (pre := []) (trimNone ts) g1 (writePartTagged cs tss s.bounds)
        obtain ⟨s3, e3, g3⟩ := good_writeTagged cs tss s.bounds g2 hcs0 hlen' hlen
        refine ⟨c :: writeTagsWith escPart (trimNone ts) ++ writePartTagged cs tss s.bounds,
          (chunks s.nTags s.tags).map (fun ts => (trimNone ts).map (·.getD [])), ?_, ?_, ?_, ?_⟩
        · simp [Sentence.writePartial, htx, hn, hch]
        · have := parsePartial_of_good (by simp) (e1.trans (e2.trans e3)) g3
          simpa [hch] using this
        · simp [hch, hlen']
        · intro i hi
          have hi' : i < (chunks s.nTags s.tags).length := by simpa using hi
          rw [List.getElem_map, hci i hi']

end V.C04L
