import VModel.Scorer
import VProofs.Lemmas.TagInfo
import VProofs.Lemmas.ScoreBuild
/-!
# The merged tag vectors: pattern `p` carries, per `(token id, rel)` and class, the sum of the weights of all tag
n-grams of that tag model at that `rel` whose n-gram is a suffix of `p` (for C06)
-/
namespace V.C06L
open V.C01L V.PermL
variable {α : Type} [DecidableEq α]

/-- class-`c` weight of the tag n-grams `tm` at relative position `rel` whose n-gram is a suffix of `p` -/
def tagSum (tm : List (TagNgramData α)) (rel : Nat) (p : List α) (c : Nat) : Int :=
  (tm.map fun d => (d.weights.map fun w =>
    if w.rel = rel ∧ d.ngram.isSuffixOf p = true then getZ w.weights (c : Int) else 0).sum).sum

omit [DecidableEq α] in
theorem tagEntries_eq (T : List (List (TagNgramData α))) :
    tagEntries T = (T.zipIdx).flatMap fun p => p.1.flatMap fun d => d.weights.map fun w =>
      (d.ngram, ({ weight := none, tagInfo := [((p.2, w.rel), w.weights)] } : PWT)) := rfl

omit [DecidableEq α] in
theorem mem_tagEntries (T : List (List (TagNgramData α))) (e : List α × PWT) (he : e ∈ tagEntries T) :
    ∃ i tm d w, T[i]? = some tm ∧ d ∈ tm ∧ w ∈ d.weights ∧
      e = (d.ngram, ({ weight := none, tagInfo := [((i, w.rel), w.weights)] } : PWT)) := by
  rw [tagEntries_eq] at he
  obtain ⟨⟨tm, i⟩, hp, he⟩ := List.mem_flatMap.mp he
  obtain ⟨d, hd, he⟩ := List.mem_flatMap.mp he
  obtain ⟨w, hw, he⟩ := List.mem_map.mp he
  obtain ⟨_, h2, h3⟩ := List.mem_zipIdx hp
  refine ⟨i, tm, d, w, ?_, hd, hw, he.symm⟩
  simp only [Nat.zero_add, Nat.sub_zero] at h2 h3
  rw [List.getElem?_eq_getElem h2, h3]

omit [DecidableEq α] in
theorem tagEntries_mem (T : List (List (TagNgramData α))) (i : Nat) (tm : List (TagNgramData α))
    (d : TagNgramData α) (w : TagWeight) (hi : T[i]? = some tm) (hd : d ∈ tm) (hw : w ∈ d.weights) :
    (d.ngram, ({ weight := none, tagInfo := [((i, w.rel), w.weights)] } : PWT)) ∈ tagEntries T := by
  rw [tagEntries_eq]
  refine List.mem_flatMap.mpr ⟨(tm, i), ?_, List.mem_flatMap.mpr ⟨d, hd, List.mem_map.mpr ⟨w, hw, rfl⟩⟩⟩
  obtain ⟨hlt, _⟩ := List.getElem?_eq_some_iff.mp hi
  rw [List.mem_iff_getElem?]
  refine ⟨i, ?_⟩
  rw [List.getElem?_zipIdx, hi]
  simp

section
variable {W : Type}

theorem addEntry_Q (add : W → W → W) (Q : W → Prop) (hl : ∀ a b, Q a → Q (add a b)) (hr : ∀ a b, Q b → Q (add a b))
    (l : List (List α × W)) (k : List α) (w : W) :
    ∀ e ∈ l ++ [(k, w)], Q e.2 → ∃ e' ∈ Merge.addEntry add l k w, e'.1 = e.1 ∧ Q e'.2 := by
  induction l with
  | nil => intro e he hq; exact ⟨e, he, rfl, hq⟩
  | cons x r ih =>
    obtain ⟨k', w'⟩ := x
    intro e he hq
    simp only [Merge.addEntry]
    by_cases h : k' = k
    · rw [if_pos h]
      rcases List.mem_cons.mp he with he | he
      · subst he
        exact ⟨(k', add w' w), List.mem_cons_self, rfl, hl _ _ hq⟩
      · rcases List.mem_append.mp he with he | he
        · exact ⟨e, List.mem_cons_of_mem _ he, rfl, hq⟩
        · rw [List.mem_singleton.mp he] at hq ⊢
          exact ⟨(k', add w' w), List.mem_cons_self, h, hr _ _ hq⟩
    · rw [if_neg h]
      rcases List.mem_cons.mp he with he | he
      · exact ⟨e, he ▸ List.mem_cons_self, rfl, hq⟩
      · obtain ⟨e', h1, h2, h3⟩ := ih e he hq
        exact ⟨e', List.mem_cons_of_mem _ h1, h2, h3⟩

theorem addAll_Q (add : W → W → W) (Q : W → Prop) (hl : ∀ a b, Q a → Q (add a b)) (hr : ∀ a b, Q b → Q (add a b))
    (es : List (List α × W)) :
    ∀ acc : List (List α × W), ∀ e ∈ acc ++ es, Q e.2 → ∃ e' ∈ addAll add es acc, e'.1 = e.1 ∧ Q e'.2 := by
  induction es with
  | nil => intro acc e he hq; exact ⟨e, by simpa [addAll] using he, rfl, hq⟩
  | cons x r ih =>
    intro acc e he hq
    have he' : e ∈ (acc ++ [(x.1, x.2)]) ++ r := by simpa using he
    rcases List.mem_append.mp he' with h | h
    · obtain ⟨e1, a1, a2, a3⟩ := addEntry_Q add Q hl hr acc x.1 x.2 e h hq
      obtain ⟨e2, b1, b2, b3⟩ := ih (Merge.addEntry add acc x.1 x.2) e1 (List.mem_append_left _ a1) a3
      exact ⟨e2, b1, b2.trans a2, b3⟩
    · exact ih (Merge.addEntry add acc x.1 x.2) e (List.mem_append_right _ h) hq

end

/-- the number of rows per token that `buildBoundaryTag` allocates: the largest relative position among the (pre-merge) entries
plus one, at least `window + 1` -/
def nRelOf (window : Nat) (entries : List (List α × PWT)) : Nat :=
  entries.foldl (fun acc e => e.2.tagInfo.foldl (fun a kv => max a (kv.1.2 + 1)) acc) (window + 1)

theorem relFold_inner (l : TI) (a : Nat) :
    a ≤ l.foldl (fun a kv => max a (kv.1.2 + 1)) a ∧ ∀ kv ∈ l, ∀ a, kv.1.2 + 1 ≤ l.foldl (fun a kv => max a (kv.1.2 + 1)) a :=
  ⟨(foldl_ge _ (fun _ _ => Nat.le_max_left _ _) l a).1,
    fun kv h a => (foldl_ge _ (fun _ _ => Nat.le_max_left _ _) l a).2 kv h _ (fun _ => Nat.le_max_right _ _)⟩

omit [DecidableEq α] in
theorem nRelOf_ge (window : Nat) (es : List (List α × PWT)) : window + 1 ≤ nRelOf window es :=
  (foldl_ge _ (fun a e => (relFold_inner e.2.tagInfo a).1) es (window + 1)).1

omit [DecidableEq α] in
theorem nRelOf_key (window : Nat) (es : List (List α × PWT)) (e : List α × PWT) (he : e ∈ es)
    (K : Nat × Nat) (hK : K ∈ e.2.tagInfo.map Prod.fst) : K.2 < nRelOf window es := by
  obtain ⟨kv, hkv, rfl⟩ := List.mem_map.mp hK
  exact (foldl_ge _ (fun a e => (relFold_inner e.2.tagInfo a).1) es (window + 1)).2 e he (kv.1.2 + 1)
    (fun a => (relFold_inner e.2.tagInfo a).2 kv hkv a)

theorem tagRel_lt_nRel (window : Nat) (bes : List (List α × PWT)) (T : List (List (TagNgramData α)))
    (i : Nat) (tm : List (TagNgramData α)) (d : TagNgramData α) (w : TagWeight)
    (hi : T[i]? = some tm) (hd : d ∈ tm) (hw : w ∈ d.weights) :
    w.rel < nRelOf window (addAll PWT.add (bes ++ tagEntries T) []) := by
  obtain ⟨e', h1, _, h3⟩ := addAll_Q PWT.add (fun t : PWT => (i, w.rel) ∈ t.tagInfo.map Prod.fst)
    (fun a b h => (mem_PWT_add_keys a b _).mpr (Or.inl h))
    (fun a b h => (mem_PWT_add_keys a b _).mpr (Or.inr h))
    (bes ++ tagEntries T) [] _
    (List.mem_append_right [] (List.mem_append_right bes (tagEntries_mem T i tm d w hi hd hw))) (by simp)
  exact nRelOf_key window _ e' h1 (i, w.rel) h3

theorem tval_single (k k' : Nat × Nat) (c : Nat) (v : List Int) :
    tval k c [(k', v)] = if k' = k then getZ v (c : Int) else 0 := by
  unfold tval
  simp only [lookupK_cons, lookupK_nil]
  split
  · rfl
  · exact getZ_nil _

omit [DecidableEq α] in
/-- a sum over the tag entries, of a function that vanishes on the entries of every tag model but `tid`, is the sum over
the n-grams and weight vectors of tag model `tid` -/
theorem tagEntries_sum_select (T : List (List (TagNgramData α))) (tid : Nat) (F : List α × PWT → Int)
    (hF : ∀ i, i ≠ tid → ∀ (d : TagNgramData α) (w : TagWeight),
      F (d.ngram, { weight := none, tagInfo := [((i, w.rel), w.weights)] }) = 0) :
    ((tagEntries T).map F).sum = ((T.getD tid []).map fun d =>
      (d.weights.map fun w => F (d.ngram, { weight := none, tagInfo := [((tid, w.rel), w.weights)] })).sum).sum := by
  rw [tagEntries_eq, isum_flatMap]
  have h := isum_zipIdx_select T
    (fun tm i => ((tm.flatMap fun d => d.weights.map fun w =>
      (d.ngram, ({ weight := none, tagInfo := [((i, w.rel), w.weights)] } : PWT))).map F).sum) tid
    (by
      intro tm i hi
      apply isum_map_eq_zero
      intro e he
      obtain ⟨d, _, he⟩ := List.mem_flatMap.mp he
      obtain ⟨w, _, he⟩ := List.mem_map.mp he
      subst he
      exact hF i hi d w) 0
  rw [h, if_pos (Nat.zero_le _), Nat.sub_zero, List.getD_eq_getElem?_getD]
  cases T[tid]? with
  | none => rfl
  | some tm =>
    simp only [Option.getD_some]
    rw [isum_flatMap]
    exact isum_map_congr _ _ _ fun d _ => by rw [List.map_map]; rfl

theorem tagEntries_sum (T : List (List (TagNgramData α))) (tid rel c : Nat) (p : List α) :
    (((tagEntries T).filter fun e => e.1.isSuffixOf p).map fun e => tval (tid, rel) c e.2.tagInfo).sum
      = tagSum (T.getD tid []) rel p c := by
  rw [isum_filter, tagEntries_sum_select T tid _ fun i hi d w => by
    have hne : ¬ (i, w.rel) = (tid, rel) := fun e => hi (Prod.mk.inj e).1
    simp only [tval_single, if_neg hne, ite_self]]
  unfold tagSum
  apply isum_map_congr
  intro d _
  apply isum_map_congr
  intro w _
  simp only
  rw [tval_single]
  by_cases h1 : d.ngram.isSuffixOf p = true
  · by_cases h2 : w.rel = rel
    · simp [h1, h2]
    · have : ¬ (tid, w.rel) = (tid, rel) := by intro e; exact h2 (Prod.mk.inj e).2
      simp [h1, h2]
  · simp [h1]

omit [DecidableEq α] in
/-- every entry the tag merger is fed has a well-formed tag table: boundary entries carry none, a tag entry one vector -/
theorem entries_TIok (L : Nat → Nat) (bes : List (List α × PWT)) (T : List (List (TagNgramData α)))
    (hbes : ∀ e ∈ bes, e.2.tagInfo = [])
    (hT : ∀ i tm, T[i]? = some tm → ∀ d ∈ tm, ∀ w ∈ d.weights, w.weights.length = L i) :
    ∀ e ∈ bes ++ tagEntries T, TIok L e.2.tagInfo := by
  intro e he
  rcases List.mem_append.mp he with he | he
  · rw [hbes e he]; exact TIok_nil L
  · obtain ⟨i, tm, d, w, hi, hd, hw, rfl⟩ := mem_tagEntries T e he
    exact TIok_single L _ _ (hT i tm hi d hd w hw)

theorem merged_tval (L : Nat → Nat) (bes : List (List α × PWT)) (T : List (List (TagNgramData α)))
    (hbes : ∀ e ∈ bes, e.2.tagInfo = [])
    (hT : ∀ i tm, T[i]? = some tm → ∀ d ∈ tm, ∀ w ∈ d.weights, w.weights.length = L i)
    (hok : pmaBuildOk ((Merge.mergeEntries PWT.add PWT.empty (addAll PWT.add (bes ++ tagEntries T) [])).map Prod.fst)
      = true) :
    (∀ (id : Nat) (e : List α × PWT), (Merge.mergeEntries PWT.add PWT.empty (addAll PWT.add (bes ++ tagEntries T) []))[id]? = some e →
      TIok L e.2.tagInfo ∧
      ∀ tid rel c, tval (tid, rel) c e.2.tagInfo = tagSum (T.getD tid []) rel e.1 c) ∧
    (∀ (i : Nat) (tm : List (TagNgramData α)) (d : TagNgramData α), T[i]? = some tm → d ∈ tm → d.weights ≠ [] →
      d.ngram ∈ (Merge.mergeEntries PWT.add PWT.empty (addAll PWT.add (bes ++ tagEntries T) [])).map Prod.fst) := by
  let P : List α → PWT → Prop := fun _ t => TIok L t.tagInfo
  have hent : ∀ e ∈ bes ++ tagEntries T, P e.1 e.2 := entries_TIok L bes T hbes hT
  have hMk := Merge.mergeEntries_keys PWT.add PWT.empty (addAll PWT.add (bes ++ tagEntries T) [])
  rw [hMk] at hok
  obtain ⟨hne, hnd⟩ := pmaBuildOk_spec _ hok
  refine ⟨?_, ?_⟩
  · intro id e hid
    have hlk := lookupD_getElem PWT.empty _ (hMk ▸ hnd) id e.1 e.2 hid
    have hm := fun tid rel c => mergeEntries_addAll PWT.add PWT.empty (fun t => tval (tid, rel) c t.tagInfo) P
      (fun _ _ a b _ ha hb => PWT_add_ok L a b ha hb)
      (fun _ _ a b _ ha hb => PWT_add_tval L (tid, rel) c a b ha hb) (bes ++ tagEntries T) hent
      (fun h => hne ((addAll_keys PWT.add _ []).mpr h)) e.1
      ((addAll_keys PWT.add _ e.1).mp (hMk ▸ List.mem_map.mpr ⟨e, List.mem_of_getElem? hid, rfl⟩))
    simp only [hlk] at hm
    refine ⟨(hm 0 0 0).1, fun tid rel c => ?_⟩
    rw [(hm tid rel c).2, List.filter_append, List.map_append, isum_append, tagEntries_sum]
    have hz : ((bes.filter fun e' => e'.1.isSuffixOf e.1).map fun e => tval (tid, rel) c e.2.tagInfo).sum = 0 := by
      apply isum_map_eq_zero
      intro x hx
      rw [hbes x (List.mem_filter.mp hx).1]
      exact tval_none _ _ _ rfl
    rw [hz, Int.zero_add]
  · intro i tm d hi hd hw
    rw [hMk]
    obtain ⟨w, hwm⟩ := List.exists_mem_of_ne_nil _ hw
    exact (addAll_keys PWT.add _ _).mpr
      (List.mem_map.mpr ⟨_, List.mem_append_right _ (tagEntries_mem T i tm d w hi hd hwm), rfl⟩)

end V.C06L
