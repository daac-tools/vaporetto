import VModel.Scorer
import VProofs.Lemmas.TagInfo
import VProofs.Lemmas.TagFill
import VProofs.Lemmas.PermBase
import VProofs.Lemmas.ScoreBoundMerge
/-!
# C06 helpers: `PositionalWeightWithTag::tag_info` is a `HashMap`

`PWT.equiv`: two values with the same boundary weight whose `tagInfo` lists are permutations of each other, with distinct keys
(the same finite map, iterated in two orders).  `PWT.add` (`add_assign`, which iterates the OTHER map), the weight merger and
`addAll` respect it; `insertTagWeights` / `fillTagWeights` (the loop `for ((token_id, rel_position), weight) in weight.tag_info`
of `…BoundaryTag::new`) give the SAME table on equivalent inputs (up to the site of a panic).
-/
namespace V

/-- the same `PositionalWeightWithTag`, its hash map listed in two orders -/
def PWT.equiv (a b : PWT) : Prop :=
  a.weight = b.weight ∧ a.tagInfo.Perm b.tagInfo ∧ (a.tagInfo.map Prod.fst).Nodup

end V

namespace V.C06L
open V V.PermL

/-- element-wise relation of two lists -/
inductive ListRel {β γ : Type} (R : β → γ → Prop) : List β → List γ → Prop
  | nil : ListRel R [] []
  | cons {a : β} {b : γ} {l : List β} {l' : List γ} : R a b → ListRel R l l' → ListRel R (a :: l) (b :: l')

section
variable {β γ δ : Type} {R S : β → γ → Prop} {P : β → Prop} {l : List β} {l' : List γ}

theorem ListRel.map_eq (f : β → δ) (g : γ → δ) (h : ∀ a b, R a b → f a = g b) (hr : ListRel R l l') : l.map f = l'.map g := by
  induction hr with
  | nil => rfl
  | cons hab _ ih => rw [List.map_cons, List.map_cons, h _ _ hab, ih]

theorem ListRel.imp_of_mem (h : ∀ a b, P a → R a b → S a b) (hr : ListRel R l l') : (∀ a ∈ l, P a) → ListRel S l l' := by
  induction hr with
  | nil => exact fun _ => .nil
  | cons hab _ ih =>
    exact fun hP => .cons (h _ _ (hP _ List.mem_cons_self) hab) (ih fun a ha => hP a (List.mem_cons_of_mem _ ha))

theorem ListRel.forall_left (h : ∀ a b, R a b → P a) (hr : ListRel R l l') : ∀ a ∈ l, P a := by
  induction hr with
  | nil => exact fun _ ha => nomatch ha
  | cons hab _ ih => exact List.forall_mem_cons.mpr ⟨h _ _ hab, ih⟩

theorem ListRel.map_right (g : γ → γ) (h : ∀ a b, R a b → R a (g b)) (hr : ListRel R l l') : ListRel R l (l'.map g) := by
  induction hr with
  | nil => exact .nil
  | cons hab _ ih => exact .cons (h _ _ hab) ih

end

theorem ListRel.imp {β γ : Type} {R S : β → γ → Prop} (h : ∀ a b, R a b → S a b) :
    ∀ {l : List β} {l' : List γ}, ListRel R l l' → ListRel S l l' :=
  fun hr => hr.imp_of_mem (P := fun _ => True) (fun a b _ => h a b) fun _ _ => trivial

theorem ListRel.refl_of {β : Type} {R : β → β → Prop} : ∀ (l : List β), (∀ a ∈ l, R a a) → ListRel R l l
  | [], _ => .nil
  | a :: l, h => .cons (h a List.mem_cons_self) (ListRel.refl_of l fun x hx => h x (List.mem_cons_of_mem _ hx))

theorem equiv_refl (a : PWT) (h : (a.tagInfo.map Prod.fst).Nodup) : a.equiv a := ⟨rfl, List.Perm.refl _, h⟩

theorem equiv_nodup_right {a b : PWT} (h : a.equiv b) : (b.tagInfo.map Prod.fst).Nodup :=
  (h.2.1.map Prod.fst).nodup_iff.mp h.2.2

theorem equiv_symm {a b : PWT} (h : a.equiv b) : b.equiv a := ⟨h.1.symm, h.2.1.symm, equiv_nodup_right h⟩

theorem equiv_trans {a b c : PWT} (h : a.equiv b) (h' : b.equiv c) : a.equiv c :=
  ⟨h.1.trans h'.1, h.2.1.trans h'.2.1, h.2.2⟩

theorem equiv_empty : PWT.empty.equiv PWT.empty := ⟨rfl, List.Perm.refl _, List.nodup_nil⟩

/-- `entry(k).and_modify(zip-add).or_insert(v)` on the stored value -/
def comb (la lb : Option (List Int)) : Option (List Int) :=
  match la, lb with
  | some w, some v => some (zipAdd w v)
  | la, none => la
  | none, some v => some v

theorem tagInfoAdd_nodup (l : TI) (k : Nat × Nat) (v : List Int) (h : (l.map Prod.fst).Nodup) :
    ((tagInfoAdd l k v).map Prod.fst).Nodup := by
  rw [tagInfoAdd_keys]
  split
  · exact h
  · rename_i hm
    refine List.nodup_append.mpr ⟨h, List.pairwise_singleton _ k, fun a ha b hb e => hm ?_⟩
    rw [← List.mem_singleton.mp hb, ← e]
    exact ha

theorem fold_nodup (b : TI) : ∀ (a : TI), (a.map Prod.fst).Nodup →
    ((b.foldl (fun acc kv => tagInfoAdd acc kv.1 kv.2) a).map Prod.fst).Nodup := by
  induction b with
  | nil => intro a h; exact h
  | cons e b ih => intro a h; exact ih _ (tagInfoAdd_nodup a e.1 e.2 h)

/-- the map that `add_assign` leaves in `self`, key by key -/
theorem fold_lookup (b : TI) : ∀ (a : TI), (b.map Prod.fst).Nodup → ∀ k,
    lookupK (b.foldl (fun acc kv => tagInfoAdd acc kv.1 kv.2) a) k = comb (lookupK a k) (lookupK b k) := by
  induction b with
  | nil =>
    intro a _ k
    simp only [List.foldl_nil, lookupK_nil, comb]
  | cons e b ih =>
    obtain ⟨k', v⟩ := e
    intro a hnd k
    rw [List.map_cons, List.nodup_cons] at hnd
    rw [List.foldl_cons, ih _ hnd.2, lookupK_tagInfoAdd, lookupK_cons]
    by_cases hk : k' = k
    · subst hk
      have hb : lookupK b k' = none := lookupK_eq_none.mpr fun e he heq => hnd.1 (List.mem_map.mpr ⟨e, he, heq⟩)
      simp only [if_true, hb]
      cases lookupK a k' <;> rfl
    · simp only [hk, if_false]

theorem add_equiv {a a' b b' : PWT} (ha : a.equiv a') (hb : b.equiv b') : (a.add b).equiv (a'.add b') := by
  refine ⟨?_, ?_, ?_⟩
  · simp only [PWT.add, ha.1, hb.1]
  · rw [PWT_add_tagInfo, PWT_add_tagInfo]
    refine perm_of_lookupK_eq (fold_nodup _ _ ha.2.2) (fold_nodup _ _ (equiv_nodup_right ha)) ?_
    intro k
    rw [fold_lookup _ _ hb.2.2, fold_lookup _ _ (equiv_nodup_right hb), lookupK_perm ha.2.1 ha.2.2,
      lookupK_perm hb.2.1 hb.2.2]
  · rw [PWT_add_tagInfo]
    exact fold_nodup _ _ ha.2.2

section
variable {α : Type} [DecidableEq α] {W : Type}

/-- entries with the same key and related weights -/
def ERel (Rw : W → W → Prop) (e e' : List α × W) : Prop := e.1 = e'.1 ∧ Rw e.2 e'.2

/-- merger states with related weights and the same visited keys -/
def StR (Rw : W → W → Prop) (st st' : Merge.St α W) : Prop := (∀ k, Rw (st.w k) (st'.w k)) ∧ st.done = st'.done

omit [DecidableEq α] in
theorem ListRel.map_same {β γ δ : Type} {R : β → γ → Prop} (f : δ → β) (g : δ → γ) (h : ∀ x, R (f x) (g x)) :
    ∀ l : List δ, ListRel R (l.map f) (l.map g)
  | [] => .nil
  | x :: l => .cons (h x) (map_same f g h l)

theorem lookupD_cons (d : W) (e : List α × W) (es : List (List α × W)) (k : List α) :
    Merge.lookupD d (e :: es) k = if e.1 = k then e.2 else Merge.lookupD d es k := rfl

theorem addEntry_cons (add : W → W → W) (e : List α × W) (r : List (List α × W)) (k : List α) (w : W) :
    Merge.addEntry add (e :: r) k w = if e.1 = k then (e.1, add e.2 w) :: r else e :: Merge.addEntry add r k w := rfl

variable (Rw : W → W → Prop) (add add' : W → W → W)
  (hadd : ∀ a a' b b', Rw a a' → Rw b b' → Rw (add a b) (add' a' b'))
include hadd

theorem go_rel (l : List (List α)) : ∀ (st st' : Merge.St α W) (f : List α), StR Rw st st' →
    StR Rw (Merge.go add st f l) (Merge.go add' st' f l) := by
  induction l with
  | nil => exact fun _ _ _ h => h
  | cons t rest ih =>
    intro st st' f h
    refine ih _ _ t ⟨fun k => ?_, by simp only [h.2]⟩
    simp only [Merge.upd]
    split
    · exact hadd _ _ _ _ (h.1 t) (h.1 f)
    · exact h.1 k

theorem step_rel (keys : List (List α)) (st st' : Merge.St α W) (k : List α) (h : StR Rw st st') :
    StR Rw (Merge.step add keys st k) (Merge.step add' keys st' k) := by
  unfold Merge.step Merge.chain
  rw [h.2, Merge.chainAux_done keys st' st h.2]
  split
  · exact h
  · cases (k :: Merge.chainAux keys st' (Merge.properSuffixes k)).reverse with
    | nil => exact h
    | cons f rest => exact go_rel Rw add add' hadd rest _ _ f ⟨h.1, by simp only [h.2]⟩

omit hadd in
theorem lookupD_rel (d d' : W) (hd : Rw d d') {es es' : List (List α × W)} (h : ListRel (ERel Rw) es es') (k : List α) :
    Rw (Merge.lookupD d es k) (Merge.lookupD d' es' k) := by
  induction h with
  | nil => exact hd
  | cons hab _ ih =>
    rw [lookupD_cons, lookupD_cons, ← hab.1]
    split
    · exact hab.2
    · exact ih

theorem mergeEntries_rel (d d' : W) (hd : Rw d d') {es es' : List (List α × W)} (h : ListRel (ERel Rw) es es') :
    ListRel (ERel Rw) (Merge.mergeEntries add d es) (Merge.mergeEntries add' d' es') := by
  have hst : StR Rw (Merge.merge add (es.map Prod.fst) (Merge.lookupD d es))
      (Merge.merge add' (es.map Prod.fst) (Merge.lookupD d' es')) :=
    List.foldl_rel ⟨lookupD_rel Rw d d' hd h, rfl⟩ fun k _ st st' hs => step_rel Rw add add' hadd _ st st' k hs
  unfold Merge.mergeEntries
  rw [← ListRel.map_eq _ _ (fun _ _ hab => hab.1) h]
  exact ListRel.map_same _ _ (fun k => ⟨rfl, hst.1 k⟩) _

theorem addEntry_rel (k : List α) {w w' : W} (hw : Rw w w') {acc acc' : List (List α × W)}
    (h : ListRel (ERel Rw) acc acc') : ListRel (ERel Rw) (Merge.addEntry add acc k w) (Merge.addEntry add' acc' k w') := by
  induction h with
  | nil => exact .cons ⟨rfl, hw⟩ .nil
  | cons hab hr ih =>
    rw [addEntry_cons, addEntry_cons, ← hab.1]
    split
    · exact .cons ⟨rfl, hadd _ _ _ _ hab.2 hw⟩ hr
    · exact .cons hab ih

theorem addAll_rel {es es' : List (List α × W)} (h : ListRel (ERel Rw) es es') :
    ∀ {init init' : List (List α × W)}, ListRel (ERel Rw) init init' →
    ListRel (ERel Rw) (addAll add es init) (addAll add' es' init') := by
  induction h with
  | nil => exact fun hi => hi
  | cons hab _ ih =>
    intro _ _ hi
    unfold addAll
    rw [List.foldl_cons, List.foldl_cons, ← hab.1]
    exact ih (addEntry_rel Rw add add' hadd _ hab.2 hi)

end

theorem tw_ext (tw tw' : TW) (hl : tw.length = tw'.length) (hr : ∀ t, rowLen tw t = rowLen tw' t)
    (hc : ∀ t r, cell tw t r = cell tw' t r) : tw = tw' := by
  apply List.ext_getElem hl
  intro t h₁ h₂
  have hr' := hr t
  simp only [rowLen, List.getElem?_eq_getElem, h₁, h₂, Option.getD_some] at hr'
  apply List.ext_getElem hr'
  intro r g₁ g₂
  have hc' := hc t r
  simp only [cell, List.getElem?_eq_getElem, h₁, h₂, g₁, g₂, Option.getD_some] at hc'
  exact hc'

/-- the keys that `insertTagWeights` can place in a table of the shape of `tw` -/
def InB (tw : TW) (k : Nat × Nat) : Prop := k.1 < tw.length ∧ k.2 < rowLen tw k.1

theorem insert_cases (cfg : Cfg) (id : Nat) (info : TI) : ∀ tw : TW,
    ((∃ tw', insertTagWeights cfg id info tw = .ok tw') ∧ ∀ kv ∈ info, InB tw kv.1) ∨
    ((∃ s, insertTagWeights cfg id info tw = .panic s) ∧ ∃ kv ∈ info, ¬ InB tw kv.1) := by
  induction info with
  | nil => exact fun tw => Or.inl ⟨⟨tw, rfl⟩, fun _ h => nomatch h⟩
  | cons e rest ih =>
    obtain ⟨⟨tid, rel⟩, w⟩ := e
    intro tw
    rw [insertTagWeights]
    split
    · rename_i h1
      exact Or.inr ⟨⟨_, rfl⟩, _, List.mem_cons_self, fun h => Nat.not_lt.mpr (List.getElem?_eq_none_iff.mp h1) h.1⟩
    · rename_i row h1
      have hrow : rowLen tw tid = row.length := by
        unfold rowLen; rw [h1]; rfl
      split
      · rename_i h2
        refine Or.inr ⟨⟨_, rfl⟩, _, List.mem_cons_self, fun h => Nat.not_lt.mpr (List.getElem?_eq_none_iff.mp h2) ?_⟩
        rw [← hrow]; exact h.2
      · rename_i m h2
        have hshape : ∀ k, InB (tw.set tid (row.set rel (m ++ [(id, WV.ofList cfg w)]))) k ↔ InB tw k := by
          intro k
          unfold InB
          rw [List.length_set, rowLen_set tw tid rel row _ h1]
        rcases ih _ with ⟨ho, hb⟩ | ⟨hp, kv, hkv, hn⟩
        · refine Or.inl ⟨ho, List.forall_mem_cons.mpr ⟨⟨(List.getElem?_eq_some_iff.mp h1).1, ?_⟩,
            fun kv hkv => (hshape _).mp (hb kv hkv)⟩⟩
          rw [hrow]; exact (List.getElem?_eq_some_iff.mp h2).1
        · exact Or.inr ⟨hp, kv, List.mem_cons_of_mem _ hkv, fun h => hn ((hshape _).mpr h)⟩

theorem insert_perm (cfg : Cfg) (id : Nat) {info info' : TI} (p : info.Perm info') (hnd : (info.map Prod.fst).Nodup)
    (tw : TW) : ResSim (insertTagWeights cfg id info tw) (insertTagWeights cfg id info' tw) := by
  rcases insert_cases cfg id info tw with ⟨⟨tw₁, h₁⟩, hb⟩ | ⟨⟨s₁, h₁⟩, kv, hkv, hn⟩
  · rcases insert_cases cfg id info' tw with ⟨⟨tw₂, h₂⟩, _⟩ | ⟨_, kv, hkv, hn⟩
    · obtain ⟨a₁, a₂, a₃⟩ := insert_spec cfg id info tw tw₁ h₁
      obtain ⟨b₁, b₂, b₃⟩ := insert_spec cfg id info' tw tw₂ h₂
      rw [h₁, h₂]
      refine Or.inl (congrArg Res.ok (tw_ext tw₁ tw₂ (a₁.trans b₁.symm) (fun t => (a₂ t).trans (b₂ t).symm) ?_))
      intro t r
      rw [a₃, b₃]
      unfold chunkOf
      rw [filter_key info hnd, filter_key info' ((p.map Prod.fst).nodup_iff.mp hnd), lookupK_perm p hnd]
    · exact absurd (hb kv (p.symm.subset hkv)) hn
  · rcases insert_cases cfg id info' tw with ⟨_, hb⟩ | ⟨⟨s₂, h₂⟩, _⟩
    · exact absurd (hb kv (p.subset hkv)) hn
    · rw [h₁, h₂]; exact ResSim.panic _ _

section
variable {α : Type}

theorem fill_cons_bind (cfg : Cfg) (e : List α × PWT) (r : List (List α × PWT)) (id : Nat) (tw : TW) :
    fillTagWeights cfg (e :: r) id tw
      = (insertTagWeights cfg id e.2.tagInfo tw).bind fun tw' => fillTagWeights cfg r (id + 1) tw' := by
  rw [fillTagWeights]
  cases insertTagWeights cfg id e.2.tagInfo tw <;> rfl

theorem fill_perm (cfg : Cfg) {es es' : List (List α × PWT)} (h : ListRel (ERel PWT.equiv) es es') :
    ∀ (id : Nat) (tw : TW), ResSim (fillTagWeights cfg es id tw) (fillTagWeights cfg es' id tw) := by
  induction h with
  | nil => exact fun _ _ => ResSim.refl _
  | cons hab _ ih =>
    intro id tw
    rw [fill_cons_bind, fill_cons_bind]
    exact (insert_perm cfg id hab.2.2.1 hab.2.2.2 tw).bind2 (ih (id + 1))

end

end V.C06L
