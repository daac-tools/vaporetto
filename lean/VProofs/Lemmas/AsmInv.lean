import VProofs.Lemmas.PermAsm
import VProofs.Lemmas.ScoreWeights
/-!
# C09: the fold invariant of `asmFold`

After processing a prefix of the trace, with `F` the "last non-zero write" function of that prefix:
every stored n-gram vector has `2W − ℓ + 1` entries and holds `F (g, W − ℓ − idx)` at every index `idx`, n-grams that are
not stored have all their features at 0, and the triple of every dictionary bucket holds the three dictionary features.
-/
namespace V.C09L
open V V.C01L V.PermL

theorem getZ_set (v : List Int) (p : Nat) (w : Int) (idx : Int) :
    getZ (v.set p w) idx = if idx = (p : Int) ∧ p < v.length then w else getZ v idx := by
  by_cases h0 : 0 ≤ idx
  · obtain ⟨k, rfl⟩ := Int.eq_ofNat_of_zero_le h0
    rw [getZ_nat, getZ_nat, List.getD_eq_getElem?_getD, List.getD_eq_getElem?_getD, List.getElem?_set]
    by_cases hp : p = k
    · subst hp
      by_cases hl : p < v.length <;> simp [hl]
    · have : ¬ (k : Int) = (p : Int) := fun h => hp (Int.natCast_inj.mp h).symm
      simp only [hp, this, false_and, if_false]
  · rw [getZ_neg _ _ (by omega), getZ_neg _ _ (by omega), if_neg (by omega)]


section
variable {α : Type} [DecidableEq α]

/-- a table holds the weight function `Fn`: sorted keys, every vector of the length of its window holding `Fn` by window
position, and `Fn` zero on the keys that are absent -/
def NgInv (lt : List α → List α → Bool) (W : Nat) (Q : List α → Prop) (Fn : List α → Int → Int)
    (m : List (List α × List Int)) : Prop :=
  KSorted lt m ∧
  (∀ e ∈ m, e.2.length = 2 * W - e.1.length + 1 ∧ e.1.length ≤ 2 * W ∧ Q e.1 ∧
     ∀ idx : Int, 0 ≤ idx → idx < (e.2.length : Int) →
       getZ e.2 idx = Fn e.1 ((W : Int) - (e.1.length : Int) - idx)) ∧
  (∀ g, (∀ e ∈ m, e.1 ≠ g) → ∀ rel, Fn g rel = 0)

omit [DecidableEq α] in
theorem ngInv_nil (lt : List α → List α → Bool) (W : Nat) (Q : List α → Prop) :
    NgInv lt W Q (fun _ _ => 0) [] :=
  ⟨List.Pairwise.nil, (by intro e he; cases he), (by intros; rfl)⟩

omit [DecidableEq α] in
theorem NgInv.congr {lt : List α → List α → Bool} {W : Nat} {Q : List α → Prop} {Fn Fn' : List α → Int → Int}
    {m : List (List α × List Int)} (h : NgInv lt W Q Fn m) (hF : ∀ g rel, Fn' g rel = Fn g rel) : NgInv lt W Q Fn' m := by
  rw [show Fn' = Fn from funext fun g => funext (hF g)]
  exact h

/-- the vector written into is the stored one of `g0` or a fresh one; the table changes at the key `g0` only -/
theorem placeNgram_inv {lt : List α → List α → Bool} (st : StrictTotal lt) {W : Nat} {Q : List α → Prop}
    {Fn : List α → Int → Int} {m : List (List α × List Int)} (hinv : NgInv lt W Q Fn m)
    (g0 : List α) (rel0 w : Int) (hQ : Q g0) (h1 : -(W : Int) ≤ rel0) (h2 : rel0 + (g0.length : Int) ≤ W) :
    ∃ m', placeNgram lt W g0 rel0 w m = .ok m' ∧
      NgInv lt W Q (fun g rel => if g = g0 ∧ rel = rel0 then w else Fn g rel) m' := by
  obtain ⟨hs, hsh, habs⟩ := hinv
  have hlen : g0.length ≤ 2 * W := by omega
  have hwf : TabWF lt W m := by
    refine ⟨hs, fun e he => ?_⟩
    obtain ⟨h3, h4, _⟩ := hsh e he
    exact ⟨by omega, h4⟩
  have hok : NgOK W g0 rel0 := by
    unfold NgOK ngPos
    omega
  obtain ⟨vold, hvold, hl, hval⟩ : ∃ vold, (lookupK m g0).getD (List.replicate (2 * W + 1 - g0.length) 0) = vold ∧
      vold.length = 2 * W - g0.length + 1 ∧
      ∀ idx : Int, 0 ≤ idx → idx < (vold.length : Int) → getZ vold idx = Fn g0 ((W : Int) - (g0.length : Int) - idx) := by
    cases hl : lookupK m g0 with
    | some v =>
      obtain ⟨hvl, _, _, hvv⟩ := hsh _ (mem_of_lookupK hl)
      exact ⟨v, rfl, hvl, hvv⟩
    | none =>
      refine ⟨List.replicate (2 * W + 1 - g0.length) 0, rfl, ?_, fun idx _ _ => ?_⟩
      · rw [List.length_replicate]
        omega
      · rw [getZ_replicate, habs g0 (lookupK_eq_none.mp hl)]
  have hmem := mem_insK_iff st g0 (ngF W g0 rel0 w) hs
  simp only [ngF, ngPos, hvold] at hmem
  refine ⟨_, by rw [placeNgram_eq_insK hwf, if_pos hok], insK_sorted st _ _ hs, ?_, ?_⟩
  · intro e he
    rcases (hmem e).mp he with ⟨hm, hne⟩ | heq
    · obtain ⟨a, b, c, d⟩ := hsh e hm
      refine ⟨a, b, c, fun idx i0 i1 => ?_⟩
      simp only [hne, false_and, if_false]
      exact d idx i0 i1
    · subst heq
      refine ⟨(List.length_set ..).trans hl, hlen, hQ, fun idx i0 i1 => ?_⟩
      simp only [List.length_set] at i1
      simp only [true_and]
      rw [getZ_set, hval idx i0 i1]
      exact ite_cond_congr (propext (by omega))
  · intro g hg rel
    have hne : g ≠ g0 := fun h => hg _ ((hmem _).mpr (Or.inr rfl)) h.symm
    simp only [hne, false_and, if_false]
    refine habs g (fun e he heq => ?_) rel
    exact hg e ((hmem e).mpr (Or.inl ⟨he, fun h => hne (heq.symm.trans h)⟩)) heq

end

/-- an n-gram of a length the configuration generates -/
def QN {α : Type} (N : Nat) (g : List α) : Prop := 1 ≤ g.length ∧ g.length ≤ N

/-- what `Generable` gives about a feature -/
def GoodF (cfg : TrainCfg) : Feature → Prop
  | .charNgram g rel => QN cfg.charN g ∧ -(cfg.charW : Int) ≤ rel ∧ rel + (g.length : Int) ≤ cfg.charW
  | .typeNgram g rel => QN cfg.typeN g ∧ -(cfg.typeW : Int) ≤ rel ∧ rel + (g.length : Int) ≤ cfg.typeW
  | .dictWord len _ => 1 ≤ len ∧ len ≤ cfg.dictMaxLen

structure Inv (cfg : TrainCfg) (F : Feature → Int) (a : Asm) : Prop where
  chars : NgInv (lexLt ltChar) cfg.charW (QN cfg.charN) (fun g rel => F (.charNgram g rel)) a.charM
  types : NgInv (lexLt ltNat) cfg.typeW (QN cfg.typeN) (fun g rel => F (.typeNgram g rel)) a.typeM
  dlen : a.dictW.length = cfg.dictMaxLen
  dval : ∀ c, 1 ≤ c → c ≤ cfg.dictMaxLen →
    a.dictW.getD (c - 1) (0, 0, 0) = (F (.dictWord c .left), F (.dictWord c .inside), F (.dictWord c .right))

theorem inv_init (cfg : TrainCfg) :
    Inv cfg (fun _ => 0) { dictW := List.replicate cfg.dictMaxLen (0, 0, 0) } where
  chars := ngInv_nil _ _ _
  types := ngInv_nil _ _ _
  dlen := by simp
  dval := by
    intro c h1 h2
    rw [List.getD_eq_getElem?_getD, List.getElem?_replicate, if_pos (by omega)]
    rfl

theorem asmStep_inv (cfg : TrainCfg) (F : Feature → Int) (a : Asm) (hinv : Inv cfg F a) (e : Feature × Int)
    (hg : GoodF cfg e.1) : ∃ a', asmStep cfg a e = .ok a' ∧ Inv cfg (stepF F e) a' := by
  obtain ⟨f, w⟩ := e
  by_cases hw : w = 0
  · subst hw
    exact ⟨a, asmStep_zero cfg a f, hinv⟩
  · cases f with
    | charNgram g rel =>
      obtain ⟨hq, h1, h2⟩ := hg
      obtain ⟨m', hm', hi'⟩ := placeNgram_inv (lexLt_st ltChar_st) hinv.chars g rel w hq h1 h2
      have hstep : asmStep cfg a (.charNgram g rel, w) = .ok { a with charM := m' } := by
        rw [asmStep_char cfg a g rel w hw, hm']
        rfl
      refine ⟨_, hstep, ?_, ?_, hinv.dlen, ?_⟩
      · exact hi'.congr fun g' rel' => by simp only [stepF_of_ne F _ hw, Feature.charNgram.injEq]
      · exact hinv.types.congr fun g' rel' => by simp only [stepF_of_ne F _ hw, reduceCtorEq, if_false]
      · intro c c1 c2
        simp only [stepF_of_ne F _ hw, reduceCtorEq, if_false]
        exact hinv.dval c c1 c2
    | typeNgram g rel =>
      obtain ⟨hq, h1, h2⟩ := hg
      obtain ⟨m', hm', hi'⟩ := placeNgram_inv (lexLt_st ltNat_st) hinv.types g rel w hq h1 h2
      have hstep : asmStep cfg a (.typeNgram g rel, w) = .ok { a with typeM := m' } := by
        rw [asmStep_type cfg a g rel w hw, hm']
        rfl
      refine ⟨_, hstep, ?_, ?_, hinv.dlen, ?_⟩
      · exact hinv.chars.congr fun g' rel' => by simp only [stepF_of_ne F _ hw, reduceCtorEq, if_false]
      · exact hi'.congr fun g' rel' => by simp only [stepF_of_ne F _ hw, Feature.typeNgram.injEq]
      · intro c c1 c2
        simp only [stepF_of_ne F _ hw, reduceCtorEq, if_false]
        exact hinv.dval c c1 c2
    | dictWord len pos =>
      obtain ⟨l1, l2⟩ := hg
      have hd := hinv.dlen
      refine ⟨_, asmStep_dict cfg a len pos w hw (by omega) _ _ _ (hinv.dval len l1 l2), ?_, ?_, ?_, ?_⟩
      · exact hinv.chars.congr fun g' rel' => by simp only [stepF_of_ne F _ hw, reduceCtorEq, if_false]
      · exact hinv.types.congr fun g' rel' => by simp only [stepF_of_ne F _ hw, reduceCtorEq, if_false]
      · exact (List.length_set ..).trans hd
      · intro c c1 c2
        show (a.dictW.set (len - 1) _).getD (c - 1) (0, 0, 0) = _
        rw [List.getD_eq_getElem?_getD, List.getElem?_set]
        simp only [stepF_of_ne F _ hw, Feature.dictWord.injEq]
        by_cases hc : c = len
        · subst hc
          rw [if_pos rfl, if_pos (by omega)]
          cases pos <;> simp [dictTriple]
        · rw [if_neg (by omega), ← List.getD_eq_getElem?_getD, hinv.dval c c1 c2]
          simp only [hc, false_and, if_false]

theorem asmFold_inv (cfg : TrainCfg) :
    ∀ (trace : List (Feature × Int)) (F : Feature → Int) (a : Asm), Inv cfg F a →
      (∀ e ∈ trace, GoodF cfg e.1) → ∃ a', asmFold cfg trace a = .ok a' ∧ Inv cfg (trace.foldl stepF F) a'
  | [], F, a, hinv, _ => ⟨a, rfl, hinv⟩
  | e :: r, F, a, hinv, hg => by
    obtain ⟨a1, h1, hi1⟩ := asmStep_inv cfg F a hinv e (hg e List.mem_cons_self)
    obtain ⟨a2, h2, hi2⟩ := asmFold_inv cfg r (stepF F e) a1 hi1 (fun x hx => hg x (List.mem_cons_of_mem _ hx))
    refine ⟨a2, ?_, hi2⟩
    simp only [asmFold, h1]
    exact h2

end V.C09L
