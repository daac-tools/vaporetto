import VProofs.Lemmas.MergeCorrect
/-!
# Running the weight merger with a checked `+=` (for the C01 overflow bound)

The merger run on `Option W` with `addC ok add` (`none` = poisoned for good) models the Rust code with overflow-checking
arithmetic.  If every weight stored at any moment of the unchecked run passes `ok`, the checked run returns the unchecked
results, unpoisoned.  The moments are the states `bp add st c'` for the tails `c'` of a chain (one `to.w += from.w` each);
they are states after whole `step`s (`cOf_tails`), so the loop invariant of `MergeAlg` applies to all of them.
-/
namespace V.Merge
variable {α : Type} [DecidableEq α] {W : Type}

/-- checked `+=`: poisoned when an operand is poisoned or the result fails `ok` -/
def addC (ok : W → Bool) (add : W → W → W) : Option W → Option W → Option W
  | some a, some b => if ok (add a b) then some (add a b) else none
  | _, _ => none

/-- the entries as unpoisoned weights -/
def liftE (es : List (List α × W)) : List (List α × Option W) := es.map fun e => (e.1, some e.2)

omit [DecidableEq α] in
theorem liftE_keys (es : List (List α × W)) : (liftE es).map Prod.fst = es.map Prod.fst := by
  simp [liftE, List.map_map, Function.comp_def]

theorem addEntry_chk (ok : W → Bool) (add : W → W → W) (acc : List (List α × W)) (k : List α) (w : W)
    (h : ∀ x ∈ addEntry add acc k w, ok x.2 = true) :
    addEntry (addC ok add) (liftE acc) k (some w) = liftE (addEntry add acc k w) := by
  induction acc with
  | nil => rfl
  | cons e r ih =>
    obtain ⟨k', w'⟩ := e
    simp only [liftE, List.map_cons, addEntry] at h ⊢
    by_cases hk : k' = k
    · rw [if_pos hk] at h ⊢
      rw [if_pos hk]
      have := h (k', add w' w) (by simp)
      simp only [List.map_cons, addC, this, if_true]
    · rw [if_neg hk] at h ⊢
      rw [if_neg hk]
      simp only [List.map_cons]
      congr 1
      exact ih (fun x hx => h x (List.mem_cons_of_mem _ hx))

theorem addAll_chk (ok : W → Bool) (add : W → W → W) (es acc : List (List α × W))
    (h : ∀ n, ∀ x ∈ addAll add (es.take n) acc, ok x.2 = true) :
    addAll (addC ok add) (liftE es) (liftE acc) = liftE (addAll add es acc) := by
  induction es generalizing acc with
  | nil => rfl
  | cons e r ih =>
    have hunf : addAll add (e :: r) acc = addAll add r (addEntry add acc e.1 e.2) := rfl
    have hunf' : addAll (addC ok add) (liftE (e :: r)) (liftE acc)
        = addAll (addC ok add) (liftE r) (addEntry (addC ok add) (liftE acc) e.1 (some e.2)) := rfl
    rw [hunf, hunf', addEntry_chk ok add acc e.1 e.2 (h 1)]
    apply ih
    intro n
    exact h (n + 1)

/-- the checked state mirrors the unchecked one: same `done` flags, and on the keys the same weights, unpoisoned -/
def Sim (keys : List (List α)) (st : St α W) (st' : St α (Option W)) : Prop :=
  st'.done = st.done ∧ ∀ k ∈ keys, st'.w k = some (st.w k)

omit [DecidableEq α] in
theorem chainAux_done {W' : Type} (keys : List (List α)) [DecidableEq α] (st : St α W) (st' : St α W')
    (h : st'.done = st.done) (l : List (List α)) : chainAux keys st' l = chainAux keys st l := by
  induction l with
  | nil => rfl
  | cons s rest ih => simp only [chainAux, ih, h]

theorem step_eq_bp (add : W → W → W) (keys : List (List α)) (st : St α W) (k : List α)
    (hd : st.done k = false) : step add keys st k = bp add st (k :: cOf keys st k) := by
  unfold step
  rw [if_neg (by simp [hd]), backprop_reverse, chain, chainAux_properSuffixes]

theorem cOf_tails (keys : List (List α)) (st : St α W) (x : List α) (c' : List (List α))
    (h : c' <:+ cOf keys st x) :
    c' = [] ∨ (∃ q, c' = [q]) ∨ (∃ q, q ∈ keys ∧ st.done q = false ∧ c' = q :: cOf keys st q) := by
  induction x with
  | nil =>
    simp only [cOf] at h
    left; exact List.suffix_nil.mp h
  | cons a t ih =>
    cases t with
    | nil =>
      simp only [cOf] at h
      left; exact List.suffix_nil.mp h
    | cons b u =>
      simp only [cOf] at h
      split at h
      · rename_i hk
        split at h
        · rcases List.suffix_cons_iff.mp h with h | h
          · right; left; exact ⟨_, h⟩
          · left; exact List.suffix_nil.mp h
        · rename_i hd
          rcases List.suffix_cons_iff.mp h with h | h
          · right; right
            exact ⟨b :: u, hk, by simpa using hd, h⟩
          · exact ih h
      · exact ih h

theorem bp_sim (ok : W → Bool) (add : W → W → W) (keys : List (List α)) (st : St α W) (st' : St α (Option W))
    (hs : Sim keys st st') (c : List (List α)) (hc : ∀ x ∈ c, x ∈ keys)
    (hok : ∀ c', c' <:+ c → ∀ k ∈ keys, ok ((bp add st c').w k) = true) :
    Sim keys (bp add st c) (bp (addC ok add) st' c) := by
  induction c with
  | nil => exact hs
  | cons p c ih =>
    cases c with
    | nil =>
      refine ⟨?_, hs.2⟩
      show upd st'.done p true = upd st.done p true
      rw [hs.1]
    | cons q r =>
      have ih' := ih (fun x hx => hc x (List.mem_cons_of_mem _ hx))
        (fun c' hc' => hok c' (hc'.trans (List.suffix_cons p (q :: r))))
      have hp : p ∈ keys := hc p (by simp)
      have hq : q ∈ keys := hc q (by simp)
      have hokp := hok (p :: q :: r) (List.suffix_refl _) p hp
      simp only [bp, stepTo] at hokp ⊢
      rw [upd_same] at hokp
      refine ⟨?_, fun k hk => ?_⟩
      · show upd _ p true = upd _ p true
        rw [ih'.1]
      · show upd _ p _ k = some (upd _ p _ k)
        by_cases hkp : k = p
        · subst hkp
          rw [upd_same, upd_same, ih'.2 k hp, ih'.2 q hq]
          simp only [addC, hokp, if_true]
        · rw [upd_other _ _ _ _ hkp, upd_other _ _ _ _ hkp]
          exact ih'.2 k hk

/-- `G` is any property of unchecked states that is kept by whole steps and makes the weights of all keys pass the check -/
theorem step_sim (ok : W → Bool) (add : W → W → W) (keys : List (List α)) (G : St α W → Prop)
    (hGok : ∀ st, G st → ∀ k ∈ keys, ok (st.w k) = true)
    (hGstep : ∀ st k, G st → k ∈ keys → G (step add keys st k))
    (st : St α W) (st' : St α (Option W)) (hs : Sim keys st st') (hG : G st) (k : List α) (hk : k ∈ keys) :
    Sim keys (step add keys st k) (step (addC ok add) keys st' k) := by
  cases hd : st.done k with
  | true =>
    have hd' : st'.done k = true := by rw [hs.1]; exact hd
    unfold step
    rw [if_pos hd, if_pos hd']
    exact hs
  | false =>
    have hd' : st'.done k = false := by rw [hs.1]; exact hd
    rw [step_eq_bp add keys st k hd, step_eq_bp (addC ok add) keys st' k hd', ← chainAux_properSuffixes keys st' k,
      chainAux_done keys st st' hs.1, chainAux_properSuffixes]
    apply bp_sim ok add keys st st' hs
    · intro x hx
      rcases List.mem_cons.mp hx with h | h
      · subst h; exact hk
      · exact cOf_mem_keys keys st k x h
    · intro c' hc' y hy
      rcases List.suffix_cons_iff.mp hc' with h | h
      · rw [h, ← step_eq_bp add keys st k hd]
        exact hGok _ (hGstep st k hG hk) y hy
      · rcases cOf_tails keys st k c' h with h | ⟨q, h⟩ | ⟨q, hq, hqd, h⟩
        · rw [h]; exact hGok st hG y hy
        · rw [h]; exact hGok st hG y hy
        · rw [h, ← step_eq_bp add keys st q hqd]
          exact hGok _ (hGstep st q hG hq) y hy

theorem foldl_sim (ok : W → Bool) (add : W → W → W) (keys : List (List α)) (G : St α W → Prop)
    (hGok : ∀ st, G st → ∀ k ∈ keys, ok (st.w k) = true)
    (hGstep : ∀ st k, G st → k ∈ keys → G (step add keys st k))
    (ks : List (List α)) (hks : ∀ k ∈ ks, k ∈ keys)
    (st : St α W) (st' : St α (Option W)) (hs : Sim keys st st') (hG : G st) :
    Sim keys (ks.foldl (step add keys) st) (ks.foldl (step (addC ok add) keys) st') := by
  induction ks generalizing st st' with
  | nil => exact hs
  | cons k ks ih =>
    simp only [List.foldl_cons]
    exact ih (fun q hq => hks q (List.mem_cons_of_mem _ hq)) _ _
      (step_sim ok add keys G hGok hGstep st st' hs hG k (hks k (by simp)))
      (hGstep st k hG (hks k (by simp)))

theorem lookupD_liftE (d : W) (entries : List (List α × W)) (k : List α) (hk : k ∈ entries.map Prod.fst) :
    lookupD (none : Option W) (liftE entries) k = some (lookupD d entries k) := by
  induction entries with
  | nil => simp at hk
  | cons e r ih =>
    obtain ⟨k', w'⟩ := e
    simp only [liftE, List.map_cons, lookupD]
    by_cases h : k' = k
    · rw [if_pos h, if_pos h]
    · rw [if_neg h, if_neg h]
      simp only [List.map_cons, List.mem_cons] at hk
      rcases hk with hk | hk
      · exact absurd hk.symm h
      · exact ih hk

theorem mergeEntries_chk (ok : W → Bool) (add : W → W → W) (d : W) (entries : List (List α × W))
    (G : St α W → Prop)
    (hGok : ∀ st, G st → ∀ k ∈ entries.map Prod.fst, ok (st.w k) = true)
    (hGstep : ∀ st k, G st → k ∈ entries.map Prod.fst → G (step add (entries.map Prod.fst) st k))
    (hG0 : G { w := lookupD d entries, done := fun _ => false }) :
    mergeEntries (addC ok add) none (liftE entries) = liftE (mergeEntries add d entries) := by
  have hsim := foldl_sim ok add (entries.map Prod.fst) G hGok hGstep (entries.map Prod.fst) (fun _ h => h)
    { w := lookupD d entries, done := fun _ => false }
    { w := lookupD none (liftE entries), done := fun _ => false }
    ⟨rfl, fun k hk => lookupD_liftE d entries k hk⟩ hG0
  have e1 : ∀ {W' : Type} (add' : W' → W' → W') (d' : W') (es : List (List α × W')),
      mergeEntries add' d' es = (es.map Prod.fst).map fun k =>
        (k, ((es.map Prod.fst).foldl (step add' (es.map Prod.fst)) { w := lookupD d' es, done := fun _ => false }).w k) :=
    fun _ _ _ => rfl
  rw [e1 (addC ok add) none (liftE entries), e1 add d entries, liftE_keys]
  show _ = List.map _ (List.map _ _)
  simp only [List.map_map]
  apply List.map_congr_left
  intro e he
  simp only [Function.comp_def]
  rw [hsim.2 e.1 (List.mem_map.mpr ⟨e, he, rfl⟩)]

end V.Merge
