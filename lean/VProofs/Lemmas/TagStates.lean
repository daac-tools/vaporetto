import VModel.Spec
import VProofs.Lemmas.TagScorer
import VProofs.Lemmas.ScorePredict
/-!
# The automaton states recorded by `predict` (tag-aware scorers) (for C06)
-/
namespace V.C06L
open V.C01L
variable {α : Type} [DecidableEq α]

omit [DecidableEq α] in
theorem go_states (sc : PmaScorer α) (htw : sc.tagWeight.isSome = true) (ms : List (Nat × Nat)) :
    ∀ (buf : List Int) (st : List (Option Nat)) (r : List Int) (st' : List (Option Nat)),
      pmaAddScores.go sc ms buf st = .ok (r, st') →
      st' = ms.foldl (fun st (m : Nat × Nat) => st.set (m.1 - 1) (some m.2)) st := by
  induction ms with
  | nil =>
    intro buf st r st' h
    rw [pmaAddScores.go.eq_1] at h
    simp only [Res.ok.injEq, Prod.mk.injEq] at h
    exact h.2.symm
  | cons m ms ih =>
    obtain ⟨e, id⟩ := m
    intro buf st r st' h
    rw [pmaAddScores.go.eq_2] at h
    split at h
    · cases h
    · simp only at h
      split at h
      · rw [if_pos htw] at h
        split at h
        · exact ih _ _ _ _ h
        · cases h
      · cases h
      · cases h
      · cases h

theorem map_range_set {β : Type} (N : Nat) (f : Nat → β) (i : Nat) (x : β) :
    ((List.range N).map f).set i x = (List.range N).map (fun k => if k = i then x else f k) := by
  apply List.ext_getElem?
  intro j
  rw [List.getElem?_set, List.getElem?_map, List.getElem?_map, List.length_map, List.length_range]
  by_cases hj : j < N
  · rw [List.getElem?_range hj, Option.map_some, Option.map_some]
    by_cases h : i = j
    · subst h
      rw [if_pos rfl, if_pos hj, if_pos rfl]
    · rw [if_neg h, if_neg (fun e => h e.symm)]
  · rw [List.getElem?_eq_none (by rw [List.length_range]; omega), Option.map_none, Option.map_none]
    by_cases h : i = j
    · subst h
      rw [if_pos rfl, if_neg hj]
    · rw [if_neg h]

theorem ite_lt_succ {β : Type} (g : Nat → β) (d : β) (n k : Nat) :
    (if k < n + 1 then g k else d) = if k = n then g n else if k < n then g k else d := by
  rcases Nat.lt_trichotomy k n with h | h | h
  · rw [if_pos (Nat.lt_succ_of_lt h), if_neg (Nat.ne_of_lt h), if_pos h]
  · subst h
    rw [if_pos (Nat.lt_succ_self _), if_pos rfl]
  · rw [if_neg (Nat.not_lt.mpr h), if_neg (Nat.ne_of_gt h), if_neg (Nat.lt_asymm h)]

/-- the matches are reported by increasing end position, each writes its own slot: after the first `n'` positions the
slots below `n'` hold the longest match and the others are still empty -/
theorem fold_states (lm : Nat → Option Nat) (N : Nat) :
    ∀ n', (((List.range n').filterMap fun k => (lm k).map fun id => (k + 1, id)).foldl
        (fun st (m : Nat × Nat) => st.set (m.1 - 1) (some m.2)) (List.replicate N none))
      = (List.range N).map (fun k => if k < n' then lm k else none) := by
  intro n'
  induction n' with
  | zero =>
    rw [List.map_congr_left (g := fun _ => none) (fun k _ => if_neg (Nat.not_lt_zero k)), List.map_const',
      List.length_range]
    rfl
  | succ n' ih =>
    rw [List.range_succ, List.filterMap_append, List.foldl_append, ih]
    cases hl : lm n' with
    | none =>
      simp only [List.filterMap_cons, List.filterMap_nil, hl, Option.map_none, List.foldl_nil]
      apply List.map_congr_left
      intro k _
      rw [ite_lt_succ, hl]
      by_cases h : k = n'
      · rw [if_pos h, if_neg (h ▸ Nat.lt_irrefl k)]
      · rw [if_neg h]
    | some id =>
      simp only [List.filterMap_cons, List.filterMap_nil, hl, Option.map_some, List.foldl_cons, List.foldl_nil,
        Nat.add_sub_cancel]
      rw [map_range_set]
      apply List.map_congr_left
      intro k _
      rw [ite_lt_succ, hl]

theorem pmaAddScores_states (sc : PmaScorer α) (htw : sc.tagWeight.isSome = true) (seq : List α) (buf : List Int)
    (states : List (Option Nat)) (r : List Int) (st : List (Option Nat))
    (h : pmaAddScores sc seq buf states = .ok (r, st)) : st = statesOf sc.pats seq := by
  unfold pmaAddScores at h
  simp only at h
  rw [if_pos htw] at h
  rw [go_states sc htw _ _ _ _ _ h]
  unfold matchesNoSuffix
  rw [fold_states (fun k => longestMatch sc.pats (seq.take (k + 1))) seq.length seq.length]
  unfold statesOf
  apply List.map_congr_left
  intro k hk
  rw [if_pos (List.mem_range.mp hk)]

theorem predict_states (p : Predictor) (pid : Nat) (s s1 : Sentence) (h : p.predict pid s = .ok s1) :
    s1.text = s.text ∧ s1.types = s.types ∧
    (∀ sc, p.charScorer = some sc → sc.tagWeight.isSome = true → s1.cstates = statesOf sc.pats s.text) ∧
    (∀ sc, p.typeScorer = some (.pma sc) → sc.tagWeight.isSome = true → s1.tstates = statesOf sc.pats s.types) := by
  obtain ⟨buf1, cst, buf2, tst, hc, ht, rfl⟩ := predict_finish p pid s s1 h
  refine ⟨rfl, rfl, ?_, ?_⟩
  · intro sc hsc htw
    rw [hsc] at hc
    exact pmaAddScores_states sc htw _ _ _ _ _ hc
  · intro sc hsc htw
    rw [hsc] at ht
    exact pmaAddScores_states sc htw _ _ _ _ _ ht

end V.C06L
