import VProofs.Lemmas.CsvFileGo
/-!
# One written field, read back

Once the text of a field `f` has been consumed the automaton is in `inField`, or in a state that treats everything that can
end a field like `inField` does; so `csvGo .inField f.reverse ra rest` is the common form of "the field `f` is complete".
-/
namespace V.C19F
open V

def FieldEnd : List Char → Prop
  | [] => True
  | d :: _ => d = ',' ∨ d = '\n' ∨ d = '\r'

def RecEnd : List Char → Prop
  | [] => True
  | d :: _ => d = '\n' ∨ d = '\r'

theorem RecEnd.fieldEnd {rest : List Char} (h : RecEnd rest) : FieldEnd rest := by
  cases rest with
  | nil => trivial
  | cons d r => exact Or.inr h

theorem endRecord_eq (f : List Char) (ra : List (List Char)) : csvEndRecord f.reverse ra = ra.reverse ++ [f] := by
  rw [csvEndRecord, List.reverse_cons, List.reverse_reverse]

theorem fieldEnd_as_inField {st : CsvSt} (hst : st = .startField ∨ st = .quoteInQuoted) (fa : List Char)
    (ra : List (List Char)) {rest : List Char} (h : FieldEnd rest) :
    csvGo st fa ra rest = csvGo .inField fa ra rest ∧ csvStrictGo st rest = csvStrictGo .inField rest := by
  cases rest with
  | nil => rcases hst with e | e <;> subst e <;> exact ⟨rfl, rfl⟩
  | cons d r =>
    have hs : csvStep st d = csvStep .inField d ∧ csvLenient st d = csvLenient .inField d := by
      rcases hst with e | e <;> subst e <;> rcases h with e | e | e <;> subst e <;> decide
    rw [csvGo, csvGo, strict_cons, strict_cons, hs.1, hs.2]
    exact ⟨rfl, rfl⟩

theorem go_inField_comma (f : List Char) (ra : List (List Char)) (rest : List Char) :
    csvGo .inField f.reverse ra (',' :: rest) = csvGo .startField [] (f :: ra) rest := by
  rw [go_endField (st' := .startField) rfl, List.reverse_reverse]

theorem go_inField_recEnd (f : List Char) (ra : List (List Char)) {rest : List Char} (h : RecEnd rest) :
    csvGo .inField f.reverse ra rest = (ra.reverse ++ [f]) :: csvGo .startRecord [] [] rest.tail := by
  rw [← endRecord_eq]
  cases rest with
  | nil => rfl
  | cons d r =>
    rcases h with e | e <;> subst e
    · exact go_endRecord rfl _ ra r
    · exact (go_endRecord rfl _ ra r).trans (by rw [go_afterCR_eq]; rfl)

theorem strict_inField_recEnd {rest : List Char} (h : RecEnd rest) :
    csvStrictGo .inField rest = csvStrictGo .startRecord rest.tail := by
  cases rest with
  | nil => rfl
  | cons d r =>
    rcases h with e | e <;> subst e
    · rfl
    · exact strict_afterCR_eq r

/-- a field in quotes (whether it needs them or not) -/
def csvQuoted (f : List Char) : List Char := '"' :: (csvEscape f ++ ['"'])

/-- `p`, at the start of a field and before anything that ends one, is read as the field `f` without a lenient transition -/
def ReadsField (p f : List Char) : Prop :=
  ∀ (ra : List (List Char)) (rest : List Char), FieldEnd rest →
    csvGo .startField [] ra (p ++ rest) = csvGo .inField f.reverse ra rest ∧
      csvStrictGo .startField (p ++ rest) = csvStrictGo .inField rest

theorem readsField_quoted (f : List Char) : ReadsField (csvQuoted f) f := by
  intro ra rest h
  obtain ⟨hg, hs⟩ := quoted_run f [] ra rest
  obtain ⟨eg, es⟩ := fieldEnd_as_inField (.inr rfl) (f.reverse ++ []) ra h
  have e : csvQuoted f ++ rest = '"' :: (csvEscape f ++ '"' :: rest) := by
    rw [csvQuoted, List.cons_append, List.append_assoc]
    rfl
  rw [e, go_skip (st' := .inQuoted) rfl, hg, eg, List.append_nil]
  exact ⟨rfl, hs.trans es⟩

theorem readsField_plain {f : List Char} (hf : csvNeedsQuotes f = false) : ReadsField f f := by
  intro ra rest h
  cases f with
  | nil => exact fieldEnd_as_inField (.inl rfl) [] ra h
  | cons c cs =>
    obtain ⟨hc, hcs⟩ := needsQuotes_cons hf
    obtain ⟨hg, hs⟩ := plain_run cs hcs [c] ra rest
    rw [List.cons_append, go_copy (step_startField_plain hc), hg, strict_cons, step_startField_plain hc, hs,
      List.reverse_cons]
    exact ⟨rfl, rfl⟩

theorem readsField_field (f : List Char) : ReadsField (csvField f) f := by
  unfold csvField
  by_cases hq : csvNeedsQuotes f = true
  · rw [if_pos hq]; exact readsField_quoted f
  · rw [if_neg hq]; exact readsField_plain (Bool.not_eq_true _ ▸ hq)

end V.C19F
