import VProofs.Lemmas.ScorePredict
/-!
# A prediction overwrites what an earlier prediction left (C01)

`predict` reads of the incoming sentence only the text, the types, the *length* of the label vector and — for the scorers
that do not record automaton states — the two state vectors, which it then hands through unchanged.  Everything else it
writes from scratch.
-/
namespace V

/-- the character scorer records automaton states (`CharScorerBoundaryTag`): it clears and rewrites `char_pma_states`;
the plain scorer and a missing scorer leave the vector as it was -/
def Predictor.writesCharStates (p : Predictor) : Bool :=
  match p.charScorer with
  | some sc => sc.tagWeight.isSome
  | none => false

/-- the type scorer records automaton states (`TypeScorerBoundaryTag`) or clears them (the cached scorer's `[]` of the
model); the plain automaton scorer and a missing scorer leave the vector as it was -/
def Predictor.writesTypeStates (p : Predictor) : Bool :=
  match p.typeScorer with
  | some (.pma sc) => sc.tagWeight.isSome
  | some (.cache _ _) => true
  | none => false

namespace C01O
open C01L

variable {α : Type} [DecidableEq α]

omit [DecidableEq α] in
theorem pma_go_plain (sc : PmaScorer α) (h : sc.tagWeight.isSome = false) (ms : List (Nat × Nat)) (buf : List Int)
    (st : List (Option Nat)) :
    pmaAddScores.go sc ms buf st = (pmaAddScores.go sc ms buf []).map (fun r => (r.1, st)) := by
  induction ms generalizing buf with
  | nil => simp [pmaAddScores.go, Res.map]
  | cons e ms ih =>
    obtain ⟨e, id⟩ := e
    unfold pmaAddScores.go
    cases hw : sc.weights[id]? with
    | none => simp [Res.map]
    | some w =>
      simp only [h, Bool.false_eq_true, if_false]
      cases w with
      | none => exact ih buf
      | some pw =>
        simp only []
        generalize pw.addScore ((e : Int) + (padding : Int) - 1) buf = bufR
        cases bufR with
        | ok buf' => exact ih buf'
        | err x => simp [Res.map]
        | panic x => simp [Res.map]
        | ub x => simp [Res.map]

theorem pma_plain_states (sc : PmaScorer α) (h : sc.tagWeight.isSome = false) (seq : List α) (buf : List Int)
    (st : List (Option Nat)) :
    pmaAddScores sc seq buf st = (pmaAddScores sc seq buf []).map (fun r => (r.1, st)) := by
  unfold pmaAddScores
  simp only [h, Bool.false_eq_true, if_false]
  exact pma_go_plain sc h _ buf st

/-- the state-recording scorer ignores the incoming states, the plain one hands them through -/
theorem pma_states (sc : PmaScorer α) (seq : List α) (buf : List Int) (st st' : List (Option Nat))
    (b : List Int) (c : List (Option Nat)) (hok : pmaAddScores sc seq buf st = .ok (b, c)) :
    ∃ c', pmaAddScores sc seq buf st' = .ok (b, c') ∧
      (sc.tagWeight.isSome = true → c' = c) ∧ (sc.tagWeight.isSome = false → c = st ∧ c' = st') := by
  cases ht : sc.tagWeight.isSome with
  | true =>
    refine ⟨c, ?_, fun _ => rfl, fun h => Bool.noConfusion h⟩
    unfold pmaAddScores at hok ⊢
    simp only [ht, if_true] at hok ⊢
    exact hok
  | false =>
    rw [pma_plain_states sc ht] at hok
    obtain ⟨a, ha, hbc⟩ := Res.map_eq_ok hok
    rw [Prod.mk.injEq] at hbc
    refine ⟨st', ?_, fun h => Bool.noConfusion h, fun _ => ⟨hbc.2.symm, rfl⟩⟩
    rw [pma_plain_states sc ht, ha, ← hbc.1]
    rfl

theorem charPhase_states (p : Predictor) (text : List Char) (buf : List Int) (st st' : List (Option Nat))
    (b : List Int) (c : List (Option Nat)) (hok : charPhase p.charScorer text st buf = .ok (b, c)) :
    ∃ c', charPhase p.charScorer text st' buf = .ok (b, c') ∧
      (p.writesCharStates = true → c' = c) ∧ (p.writesCharStates = false → c = st ∧ c' = st') := by
  unfold Predictor.writesCharStates
  cases hcs : p.charScorer with
  | none =>
    rw [hcs] at hok
    cases hok
    exact ⟨st', rfl, fun h => Bool.noConfusion h, fun _ => ⟨rfl, rfl⟩⟩
  | some sc =>
    rw [hcs] at hok
    exact pma_states sc text buf st st' b c hok

theorem typePhase_states (p : Predictor) (types : List Nat) (nB : Nat) (buf : List Int) (st st' : List (Option Nat))
    (b : List Int) (c : List (Option Nat)) (hok : typePhase p.typeScorer types nB st buf = .ok (b, c)) :
    ∃ c', typePhase p.typeScorer types nB st' buf = .ok (b, c') ∧
      (p.writesTypeStates = true → c' = c) ∧ (p.writesTypeStates = false → c = st ∧ c' = st') := by
  unfold Predictor.writesTypeStates
  cases hts : p.typeScorer with
  | none =>
    rw [hts] at hok
    cases hok
    exact ⟨st', rfl, fun h => Bool.noConfusion h, fun _ => ⟨rfl, rfl⟩⟩
  | some ts =>
    rw [hts] at hok
    cases ts with
    | cache ng w => exact ⟨c, hok, fun _ => rfl, fun h => Bool.noConfusion h⟩
    | pma sc => exact pma_states sc types buf st st' b c hok

theorem predict_keeps_states (q : Predictor) (qid : Nat) (s s1 : Sentence) (h : q.predict qid s = .ok s1) :
    (q.writesCharStates = false → s1.cstates = s.cstates) ∧ (q.writesTypeStates = false → s1.tstates = s.tstates) := by
  obtain ⟨buf1, cst, buf2, tst, h1, h2, rfl⟩ := predict_finish q qid s s1 h
  obtain ⟨_, _, _, hc⟩ := charPhase_states q _ _ _ s.cstates _ _ h1
  obtain ⟨_, _, _, ht⟩ := typePhase_states q _ _ _ _ s.tstates _ _ h2
  exact ⟨fun hw => (hc hw).1, fun hw => (ht hw).1⟩

theorem finish_eq_of (s s1 : Sentence) (pid : Nat) (buf : List Int) (c t c1 t1 : List (Option Nat))
    (e1 : s1.text = s.text) (e2 : s1.types = s.types) (e3 : s1.tags = s.tags) (e4 : s1.tagScores = s.tagScores)
    (e5 : s1.nTags = s.nTags) (hb : (finish s1 pid buf c1 t1).bounds = (finish s pid buf c t).bounds) :
    finish s1 pid buf c1 t1 = { finish s pid buf c t with cstates := c1, tstates := t1 } := by
  cases s; cases s1
  simp only at e1 e2 e3 e4 e5
  subst e1 e2 e3 e4 e5
  simp only [finish, Sentence.mk.injEq, true_and, and_true] at hb ⊢
  exact hb

theorem predict_same_input (q : Predictor) (qid : Nat) (s s1 : Sentence) (h : q.predict qid s = .ok s1) :
    s1.text = s.text ∧ s1.types = s.types ∧ s1.bounds.length = s.bounds.length := by
  obtain ⟨_, _, _, _, _, _, rfl⟩ := predict_finish q qid s s1 h
  exact ⟨rfl, rfl, finish_bounds_length _ _ _ _ _⟩

/-- that the two results carry the same labels is all that is needed of the model -/
theorem overwrites_fields (p q : Predictor) (s s1 r r1 : Sentence) (pid qid : Nat) (h1 : q.predict qid s = .ok s1)
    (hr : p.predict pid s = .ok r) (hr1 : p.predict pid s1 = .ok r1) (hb : r1.bounds = r.bounds) :
    r1 = { r with cstates := r1.cstates, tstates := r1.tstates } ∧
      (p.writesCharStates = true → r1.cstates = r.cstates) ∧
      (p.writesCharStates = false → r.cstates = s.cstates ∧ r1.cstates = s1.cstates) ∧
      (p.writesTypeStates = true → r1.tstates = r.tstates) ∧
      (p.writesTypeStates = false → r.tstates = s.tstates ∧ r1.tstates = s1.tstates) := by
  obtain ⟨e1, e2, e3⟩ := predict_same_input q qid s s1 h1
  obtain ⟨_, _, _, _, _, _, hs1⟩ := predict_finish q qid s s1 h1
  obtain ⟨buf1, cst, buf2, tst, hp1, hp2, rfl⟩ := predict_finish p pid s r hr
  obtain ⟨cst1, hc1, hc⟩ := charPhase_states p _ _ _ s1.cstates _ _ hp1
  obtain ⟨tst1, ht1, ht⟩ := typePhase_states p _ _ _ _ s1.tstates _ _ hp2
  -- `p` on `s1`, which agrees with `s` in text, types and number of labels: the same buffers
  have hr1f : p.predict pid s1 = .ok (finish s1 pid buf2 cst1 tst1) := by
    rw [predict_eq, e1, e2, hc1]
    show finishR s1 pid cst1 (typePhase p.typeScorer s1.types s1.bounds.length s1.tstates buf1) = _
    rw [e2, e3, ht1]
    rfl
  rw [hr1, Res.ok.injEq] at hr1f
  subst hr1f
  exact ⟨finish_eq_of s s1 pid buf2 cst tst cst1 tst1 e1 e2 (by rw [hs1]; rfl) (by rw [hs1]; rfl) (by rw [hs1]; rfl) hb,
    hc.1, hc.2, ht.1, ht.2⟩

/-- a vector that `p` hands through is one that `q` handed through as well -/
theorem overwrites_eq (p q : Predictor) (s s1 r r1 : Sentence) (pid qid : Nat) (h1 : q.predict qid s = .ok s1)
    (hr : p.predict pid s = .ok r) (hr1 : p.predict pid s1 = .ok r1)
    (hf : r1 = { r with cstates := r1.cstates, tstates := r1.tstates } ∧
      (p.writesCharStates = true → r1.cstates = r.cstates) ∧
      (p.writesCharStates = false → r.cstates = s.cstates ∧ r1.cstates = s1.cstates) ∧
      (p.writesTypeStates = true → r1.tstates = r.tstates) ∧
      (p.writesTypeStates = false → r.tstates = s.tstates ∧ r1.tstates = s1.tstates))
    (hwc : q.writesCharStates = true → p.writesCharStates = true)
    (hwt : q.writesTypeStates = true → p.writesTypeStates = true) :
    p.predict pid s1 = p.predict pid s := by
  obtain ⟨heq, hc1, hc2, ht1, ht2⟩ := hf
  obtain ⟨kc, kt⟩ := predict_keeps_states q qid s s1 h1
  have ec : r1.cstates = r.cstates := by
    cases hw : p.writesCharStates with
    | true => exact hc1 hw
    | false =>
      have hq : q.writesCharStates = false := by
        cases hq : q.writesCharStates with
        | false => rfl
        | true => rw [hwc hq] at hw; cases hw
      rw [(hc2 hw).1, (hc2 hw).2, kc hq]
  have et : r1.tstates = r.tstates := by
    cases hw : p.writesTypeStates with
    | true => exact ht1 hw
    | false =>
      have hq : q.writesTypeStates = false := by
        cases hq : q.writesTypeStates with
        | false => rfl
        | true => rw [hwt hq] at hw; cases hw
      rw [(ht2 hw).1, (ht2 hw).2, kt hq]
  rw [hr, hr1, heq, ec, et]

end C01O
end V
