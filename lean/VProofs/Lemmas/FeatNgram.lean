import VModel.Trainer
/-!
# Lemmas for C10 — the n-gram part of `genFeatures`
-/
namespace V.C10L

variable {α : Type}

/-- the start positions `ngramFeats` runs over for n-grams of length `n + 1`: the n-gram lies inside the window and the text -/
theorem ngramWindow_iff (W len i n j : Nat) :
    (i + 1 - W ≤ j ∧ j < i + 1 - W + (min (i + 1 + W) len - n - (i + 1 - W))) ↔
      i + 1 ≤ j + W ∧ j + (n + 1) ≤ min len (i + 1 + W) := by
  have h1 : i + 1 - W ≤ j ↔ i + 1 ≤ j + W := Nat.sub_le_iff_le_add
  rw [← h1, Nat.min_comm]
  generalize i + 1 - W = lo
  generalize min len (i + 1 + W) = M
  omega

theorem ngramRow_length (W : Nat) (seq : List α) (i n j : Nat)
    (hj : j ∈ List.range' (i + 1 - W) (min (i + 1 + W) seq.length - n - (i + 1 - W))) :
    ((seq.drop j).take (n + 1)).length = n + 1 := by
  have := ((ngramWindow_iff W seq.length i n j).mp (List.mem_range'_1.mp hj)).2
  rw [List.length_take, List.length_drop]
  omega

theorem mem_ngramFeats (W N : Nat) (seq : List α) (i : Nat) (g : List α) (rel : Int) :
    (g, rel) ∈ ngramFeats W N seq i ↔
      ∃ j l, 1 ≤ l ∧ l ≤ N ∧ i + 1 ≤ j + W ∧ j + l ≤ min seq.length (i + 1 + W) ∧
        g = (seq.drop j).take l ∧ rel = (j : Int) - (i : Int) - 1 := by
  unfold ngramFeats
  simp only [List.mem_flatMap, List.mem_range, List.mem_map, List.mem_range'_1, ngramWindow_iff, Prod.mk.injEq]
  constructor
  · rintro ⟨n, hn, j, ⟨hlo, hhi⟩, rfl, rfl⟩
    exact ⟨j, n + 1, Nat.succ_pos n, hn, hlo, hhi, rfl, rfl⟩
  · rintro ⟨j, l, h1, h2, h3, h4, rfl, rfl⟩
    obtain ⟨n, rfl⟩ : ∃ n, l = n + 1 := ⟨l - 1, (Nat.sub_add_cancel h1).symm⟩
    exact ⟨n, h2, j, ⟨h3, h4⟩, rfl, rfl⟩

/-- distinct index pairs `(n, j)` give distinct `(g, rel)`: within a length by `rel`, across lengths by the length of `g` -/
theorem nodup_ngramFeats (W N : Nat) (seq : List α) (i : Nat) : (ngramFeats W N seq i).Nodup := by
  unfold ngramFeats
  rw [List.nodup_iff_pairwise_ne, List.pairwise_flatMap]
  refine ⟨fun n _ => ?_, ?_⟩
  · rw [List.pairwise_map]
    refine (List.pairwise_lt_range' (s := i + 1 - W)
      (n := min (i + 1 + W) seq.length - n - (i + 1 - W))).imp ?_
    intro a b hab e
    have := (Prod.mk.inj e).2
    omega
  · refine (List.pairwise_lt_range (n := N)).imp ?_
    intro a b hab x hx y hy e
    obtain ⟨j, hj, rfl⟩ := List.mem_map.mp hx
    obtain ⟨j', hj', rfl⟩ := List.mem_map.mp hy
    have := ngramRow_length W seq i a j hj
    rw [(Prod.mk.inj e).1, ngramRow_length W seq i b j' hj'] at this
    omega

theorem count_ngramFeats_le_one [BEq (List α × Int)] [LawfulBEq (List α × Int)] (W N : Nat) (seq : List α) (i : Nat) (p : List α × Int) :
    (ngramFeats W N seq i).count p ≤ 1 :=
  List.nodup_iff_count.1 (nodup_ngramFeats W N seq i) p

theorem count_map_inj {β γ : Type} [BEq β] [LawfulBEq β] [BEq γ] [LawfulBEq γ] (f : β → γ)
    (hf : ∀ a b, f a = f b → a = b) (x : β) (l : List β) :
    (l.map f).count (f x) = l.count x := by
  induction l with
  | nil => rfl
  | cons a l ih =>
    simp only [List.map_cons, List.count_cons, ih]
    by_cases h : a = x
    · subst h; simp
    · have : f a ≠ f x := fun e => h (hf _ _ e)
      simp [h, this]

theorem suffix_take_iff {α : Type} [DecidableEq α] (g seq : List α) (e : Nat) (he : e ≤ seq.length) :
    g.isSuffixOf (seq.take e) = true ↔ g.length ≤ e ∧ (seq.drop (e - g.length)).take g.length = g := by
  rw [List.isSuffixOf_iff_suffix]
  have hlen : (seq.take e).length = e := List.length_take_of_le he
  have hsub : g.length ≤ e → e - (e - g.length) = g.length := by omega
  constructor
  · intro h
    have h1 := h.length_le
    rw [hlen] at h1
    have h2 := List.suffix_iff_eq_drop.mp h
    rw [hlen, List.drop_take, hsub h1] at h2
    exact ⟨h1, h2.symm⟩
  · rintro ⟨h1, h2⟩
    have hs := List.drop_suffix (e - g.length) (seq.take e)
    rw [List.drop_take, hsub h1, h2] at hs
    exact hs

end V.C10L
