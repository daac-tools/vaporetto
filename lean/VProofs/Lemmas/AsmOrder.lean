import VModel.Trainer
/-!
# C09: the `BTreeMap` order

`lexLt lt` is a strict total order whenever `lt` is.
-/
namespace V.C09L
open V

structure StrictTotal {β : Type} (lt : β → β → Bool) : Prop where
  irrefl : ∀ a, lt a a = false
  trans : ∀ a b c, lt a b = true → lt b c = true → lt a c = true
  conn : ∀ a b, a ≠ b → lt a b = false → lt b a = true

theorem ltNat_st : StrictTotal ltNat where
  irrefl := by intro a; simp [ltNat]
  trans := by intro a b c; simp only [ltNat, decide_eq_true_eq]; omega
  conn := by intro a b; simp only [ltNat, decide_eq_true_eq, decide_eq_false_iff_not]; omega

theorem ltChar_st : StrictTotal ltChar where
  irrefl a := ltNat_st.irrefl a.toNat
  trans a b c := ltNat_st.trans a.toNat b.toNat c.toNat
  conn a b hab := ltNat_st.conn a.toNat b.toNat fun e => hab (Char.toNat_inj.mp e)

section
variable {α : Type} [DecidableEq α] {lt : α → α → Bool}

theorem st_eq_of_not_lt (st : StrictTotal lt) {a b : α} (h1 : lt a b = false) (h2 : lt b a = false) : a = b := by
  apply Decidable.byContradiction
  intro hne
  have := st.conn a b hne h1
  rw [h2] at this
  exact Bool.noConfusion this

omit [DecidableEq α] in
theorem lexLt_irrefl (st : StrictTotal lt) : ∀ a : List α, lexLt lt a a = false
  | [] => rfl
  | x :: xs => by simp [lexLt, st.irrefl, lexLt_irrefl st xs]

theorem lexLt_trans (st : StrictTotal lt) :
    ∀ a b c : List α, lexLt lt a b = true → lexLt lt b c = true → lexLt lt a c = true
  | [], [], _ => by simp [lexLt]
  | [], _ :: _, [] => by simp [lexLt]
  | [], _ :: _, _ :: _ => by simp [lexLt]
  | _ :: _, [], _ => by simp [lexLt]
  | _ :: _, _ :: _, [] => by simp [lexLt]
  | x :: xs, y :: ys, z :: zs => by
    intro h1 h2
    simp only [lexLt] at h1 h2 ⊢
    cases hxy : lt x y
    · cases hyx : lt y x
      · have exy := st_eq_of_not_lt st hxy hyx
        subst exy
        simp only [hxy, Bool.false_eq_true, if_false] at h1
        cases hyz : lt x z
        · cases hzy : lt z x
          · simp only [hyz, hzy, Bool.false_eq_true, if_false] at h2 ⊢
            exact lexLt_trans st xs ys zs h1 h2
          · simp [hyz, hzy] at h2
        · simp
      · simp [hxy, hyx] at h1
    · cases hyz : lt y z
      · cases hzy : lt z y
        · have eyz := st_eq_of_not_lt st hyz hzy
          subst eyz
          simp [hxy]
        · simp [hyz, hzy] at h2
      · simp [st.trans x y z hxy hyz]

theorem lexLt_conn (st : StrictTotal lt) :
    ∀ a b : List α, a ≠ b → lexLt lt a b = false → lexLt lt b a = true
  | [], [] => by simp
  | [], _ :: _ => by simp [lexLt]
  | _ :: _, [] => by simp [lexLt]
  | x :: xs, y :: ys => by
    intro hne h
    simp only [lexLt] at h ⊢
    cases hxy : lt x y
    · cases hyx : lt y x
      · have exy := st_eq_of_not_lt st hxy hyx
        subst exy
        simp only [hxy, Bool.false_eq_true, if_false] at h ⊢
        exact lexLt_conn st xs ys (fun e => hne (by rw [e])) h
      · simp
    · simp [hxy] at h

theorem lexLt_st (st : StrictTotal lt) : StrictTotal (lexLt lt) :=
  ⟨lexLt_irrefl st, lexLt_trans st, lexLt_conn st⟩

end

end V.C09L
