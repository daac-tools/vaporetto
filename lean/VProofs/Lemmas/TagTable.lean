import VModel.Sentence
import VProofs.Lemmas.Base
/-!
The per-character tag lists of the two annotated parsers (`tags_tmp`) and the flat tag table they are laid out into:
`pushLast`, the flush of a pending tag string, `trimNone`, `tagOfStr`, `maxLen`, `padTags`, `chunks`.
-/
namespace V

theorem eq_concat_of_ne_nil {α : Type} {l : List α} (h : l ≠ []) : ∃ l' x, l = l' ++ [x] :=
  ⟨l.dropLast, l.getLast h, (List.dropLast_concat_getLast h).symm⟩

theorem pushLast_concat (l : List (List (List Char))) (x : List (List Char)) (t : List Char) :
    pushLast (l ++ [x]) t = some (l ++ [x ++ [t]]) := by
  induction l with
  | nil => rfl
  | cons y r ih =>
    cases hr : r ++ [x] with
    | nil => simp at hr
    | cons z w =>
      simp only [List.cons_append, hr, pushLast]
      rw [← hr, ih]
      rfl

/-- the tag list of the last character once the pending tag string (if any) is pushed -/
def curOf (cur : List (List Char)) : Option (List Char) → List (List Char)
  | none => cur
  | some p => cur ++ [p]

/-- `tags_tmp` once the pending tag string (if any) is pushed onto the last character's list; `none` is where the
Rust code's `tags_tmp.last_mut().unwrap()` panics -/
def flushTags (tt : List (List (List Char))) : Option (List Char) → Option (List (List (List Char)))
  | none => some tt
  | some t => pushLast tt t

theorem flushTags_concat (l : List (List (List Char))) (x : List (List Char)) (ts : Option (List Char)) :
    flushTags (l ++ [x]) ts = some (l ++ [curOf x ts]) := by
  cases ts with
  | none => rfl
  | some t => exact pushLast_concat l x t

theorem flushTags_of_ne_nil {tt : List (List (List Char))} (h : tt ≠ []) (ts : Option (List Char)) :
    ∃ l x, tt = l ++ [x] ∧ flushTags tt ts = some (l ++ [curOf x ts]) := by
  obtain ⟨l, x, rfl⟩ := eq_concat_of_ne_nil h
  exact ⟨l, x, rfl, flushTags_concat l x ts⟩

theorem flushTags_eq_some {tt tt' : List (List (List Char))} {ts : Option (List Char)}
    (h : flushTags tt ts = some tt') : (ts = none ∧ tt' = tt) ∨ ∃ l x, tt = l ++ [x] ∧ tt' = l ++ [curOf x ts] := by
  by_cases hne : tt = []
  · subst hne
    cases ts with
    | none => exact Or.inl ⟨rfl, (Option.some.inj h).symm⟩
    | some t => cases h
  · obtain ⟨l, x, e, h'⟩ := flushTags_of_ne_nil hne ts
    rw [h'] at h
    exact Or.inr ⟨l, x, e, (Option.some.inj h).symm⟩

theorem flushTags_length {tt tt' : List (List (List Char))} {ts : Option (List Char)}
    (h : flushTags tt ts = some tt') : tt'.length = tt.length := by
  rcases flushTags_eq_some h with ⟨_, rfl⟩ | ⟨l, x, rfl, rfl⟩
  · rfl
  · simp only [List.length_append, List.length_singleton]

theorem flushTags_forall {P : List Char → Prop} {tt tt' : List (List (List Char))} {ts : Option (List Char)}
    (h : flushTags tt ts = some tt') (h1 : ∀ r ∈ tt, ∀ u ∈ r, P u) (h2 : ∀ t, ts = some t → P t) :
    ∀ r ∈ tt', ∀ u ∈ r, P u := by
  rcases flushTags_eq_some h with ⟨_, rfl⟩ | ⟨l, x, rfl, rfl⟩
  · exact h1
  · intro r hr u hu
    rcases List.mem_append.mp hr with hr | hr
    · exact h1 r (List.mem_append_left _ hr) u hu
    · rw [List.mem_singleton] at hr
      subst hr
      cases ts with
      | none => exact h1 x (by simp) u hu
      | some t =>
        rcases List.mem_append.mp hu with hu | hu
        · exact h1 x (by simp) u hu
        · rw [List.mem_singleton] at hu
          exact hu ▸ h2 t rfl

theorem trimNone_cons (t : Tag) (ts : List Tag) :
    trimNone (t :: ts) = if trimNone ts = [] then (if t.isSome then [t] else []) else t :: trimNone ts := by
  rw [trimNone]
  cases trimNone ts <;> simp

theorem mem_trimNone {x : Tag} {l : List Tag} (h : x ∈ trimNone l) : x ∈ l := by
  induction l with
  | nil => simp [trimNone] at h
  | cons t ts ih =>
    rw [trimNone_cons] at h
    by_cases hn : trimNone ts = []
    · simp only [hn, if_true] at h
      by_cases hs : t.isSome
      · simp only [hs, if_true, List.mem_singleton] at h
        simp [h]
      · simp [hs] at h
    · simp only [hn, if_false, List.mem_cons] at h
      rcases h with h | h
      · simp [h]
      · exact List.mem_cons_of_mem _ (ih h)

theorem trimNone_idem (l : List Tag) : trimNone (trimNone l) = trimNone l := by
  induction l with
  | nil => rfl
  | cons t ts ih =>
    rw [trimNone_cons]
    by_cases hn : trimNone ts = []
    · simp only [hn, if_true]
      by_cases hs : t.isSome
      · simp [hs, trimNone_cons, trimNone]
      · simp [hs, trimNone]
    · simp only [hn, if_false]
      rw [trimNone_cons, ih]
      simp [hn]

theorem trimNone_replicate_none (k : Nat) : trimNone (List.replicate k (none : Tag)) = [] := by
  induction k with
  | zero => rfl
  | succ k ih => rw [List.replicate_succ, trimNone_cons, ih]; rfl

theorem trimNone_append_nones (l : List Tag) (k : Nat) :
    trimNone (l ++ List.replicate k none) = trimNone l := by
  induction l with
  | nil => rw [List.nil_append, trimNone_replicate_none]; rfl
  | cons t ts ih => rw [List.cons_append, trimNone_cons, ih, ← trimNone_cons]

/-- a tag that is absent or non-empty survives being stored as a string (`[]` for absent) and read back -/
theorem map_tagOfStr_getD (l : List Tag) (h : ∀ t, some t ∈ l → t ≠ []) :
    (l.map (·.getD [])).map tagOfStr = l := by
  induction l with
  | nil => rfl
  | cons t ts ih =>
    have ih' := ih (fun t' ht' => h t' (by simp [ht']))
    simp only [List.map_cons, ih']
    cases t with
    | none => simp [tagOfStr]
    | some t => simp [tagOfStr, h t (by simp)]

theorem le_maxLen (tt : List (List (List Char))) : ∀ ts ∈ tt, ts.length ≤ maxLen tt :=
  (le_foldl_max List.length tt 0).2

/-- the padded tag slots of one character -/
def padOne (m : Nat) (ts : List (List Char)) : List Tag := ts.map tagOfStr ++ List.replicate (m - ts.length) none

theorem padOne_length {m : Nat} {ts : List (List Char)} (h : ts.length ≤ m) : (padOne m ts).length = m := by
  simp only [padOne, List.length_append, List.length_map, List.length_replicate]
  omega

theorem padTags_cons (m : Nat) (x : List (List Char)) (r : List (List (List Char))) :
    padTags m (x :: r) = padOne m x ++ padTags m r := by
  simp [padTags, padOne]

theorem padTags_length (m : Nat) (tt : List (List (List Char))) (h : ∀ ts ∈ tt, ts.length ≤ m) :
    (padTags m tt).length = tt.length * m := by
  induction tt with
  | nil => simp [padTags]
  | cons x r ih =>
    rw [padTags_cons, List.length_append, padOne_length (h x (by simp)),
      ih (fun ts hts => h ts (by simp [hts])), List.length_cons, Nat.succ_mul, Nat.add_comm]

theorem padTags_maxLen_length (tt : List (List (List Char))) :
    (padTags (maxLen tt) tt).length = tt.length * maxLen tt :=
  padTags_length _ _ (le_maxLen tt)

theorem padTags_slot (m : Nat) (tt : List (List (List Char))) (h : ∀ x ∈ tt, x.length ≤ m) (k : Nat)
    (x : List (List Char)) (hk : tt[k]? = some x) :
    ((padTags m tt).drop (k * m)).take m = padOne m x := by
  induction tt generalizing k with
  | nil => simp at hk
  | cons y r ih =>
    have hy := padOne_length (h y (by simp))
    rw [padTags_cons]
    cases k with
    | zero =>
      simp only [List.getElem?_cons_zero, Option.some.injEq] at hk
      subst hk
      rw [Nat.zero_mul, List.drop_zero, List.take_append_of_le_length (by omega), List.take_of_length_le (by omega)]
    | succ k =>
      simp only [List.getElem?_cons_succ] at hk
      have e : (k + 1) * m = (padOne m y).length + k * m := by rw [hy, Nat.succ_mul]; omega
      rw [e, List.drop_length_add_append]
      exact ih (fun z hz => h z (by simp [hz])) k hk

theorem mem_padTags {m : Nat} {tt : List (List (List Char))} {t : List Char} (h : some t ∈ padTags m tt) :
    t ≠ [] ∧ ∃ ts ∈ tt, t ∈ ts := by
  simp only [padTags, List.mem_flatMap, List.mem_append, List.mem_map, List.mem_replicate] at h
  obtain ⟨ts, hts, h | h⟩ := h
  · obtain ⟨u, hu, he⟩ := h
    unfold tagOfStr at he
    by_cases hn : u = []
    · simp [hn] at he
    · simp only [hn, if_false, Option.some.injEq] at he
      subst he
      exact ⟨hn, ts, hts, hu⟩
  · simp at h

/-- reading character `k`'s slots back from the table the parsers build, with the tag count computed as the sentence
constructors do (`tags.len() / text.len()`): what was stored, up to trailing absent tags -/
theorem padTags_readback (tt : List (List (List Char))) (hne : tt ≠ []) (k : Nat) (ts : List Tag)
    (hk : tt[k]? = some (ts.map (·.getD []))) (hts : ∀ t, some t ∈ ts → t ≠ []) :
    trimNone (((padTags (maxLen tt) tt).drop (k * ((padTags (maxLen tt) tt).length / tt.length))).take
      ((padTags (maxLen tt) tt).length / tt.length)) = trimNone ts := by
  rw [padTags_maxLen_length, Nat.mul_div_cancel_left _ (List.length_pos_iff.mpr hne),
    padTags_slot _ _ (le_maxLen tt) k _ hk, padOne, map_tagOfStr_getD ts hts, trimNone_append_nones]

theorem chunksExact_spec (k : Nat) (hk : 0 < k) :
    ∀ (n : Nat) (xs : List Tag) (fuel : Nat), xs.length = n * k → n ≤ fuel →
      (chunksExact k xs fuel).length = n ∧
        ∀ (i : Nat) (hi : i < (chunksExact k xs fuel).length),
          (chunksExact k xs fuel)[i] = (xs.drop (i * k)).take k := by
  intro n
  induction n with
  | zero =>
    intro xs fuel hx _
    have : xs = [] := by simpa using hx
    subst this
    cases fuel with
    | zero => simp [chunksExact]
    | succ f =>
      have : ¬ k ≤ 0 := by omega
      simp [chunksExact, this]
  | succ n ih =>
    intro xs fuel hx hf
    cases fuel with
    | zero => omega
    | succ f =>
      have hle : k ≤ xs.length := by rw [hx, Nat.succ_mul]; omega
      have hd : (xs.drop k).length = n * k := by
        rw [List.length_drop, hx, Nat.succ_mul]; omega
      obtain ⟨h1, h2⟩ := ih (xs.drop k) f hd (by omega)
      simp only [chunksExact, hle, if_true, List.length_cons, h1, true_and]
      intro i hi
      cases i with
      | zero => simp
      | succ i =>
        simp only [List.getElem_cons_succ]
        rw [h2 i (by omega), List.drop_drop, Nat.succ_mul]
        congr 2
        omega

theorem chunks_spec (k : Nat) (hk : k ≠ 0) (n : Nat) (xs : List Tag) (hx : xs.length = n * k) :
    (chunks k xs).length = n ∧
      ∀ (i : Nat) (hi : i < (chunks k xs).length), (chunks k xs)[i] = (xs.drop (i * k)).take k := by
  have hk' : 0 < k := Nat.pos_of_ne_zero hk
  refine chunksExact_spec k hk' n xs xs.length hx ?_
  rw [hx]
  exact Nat.le_mul_of_pos_right n hk'

end V
