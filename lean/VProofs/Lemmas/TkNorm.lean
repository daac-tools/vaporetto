import VModel.Tantivy
/-!
# TkNorm — the generated full-width table, seen only through whole-table boolean checks
-/
namespace V.C16L
open V V.Gen

/-- every image is a single code point -/
theorem tbl_single : fullwidthTable.all (fun e => e.2.length == 1) = true := by decide +kernel

/-- every image code point is a Unicode scalar value and not NUL -/
theorem tbl_valid : fullwidthTable.all (fun e => e.2.all (fun v => decide (Nat.isValidChar v) && decide (v ≠ 0))) = true := by
  decide +kernel

/-- no image is itself a key of the table -/
theorem tbl_nokey : fullwidthTable.all (fun e => e.2.all (fun v => (lookupFw v fullwidthTable).isNone)) = true := by
  decide +kernel

theorem lookupFw_mem {n : Nat} {v : List Nat} : ∀ {tbl : List (Nat × List Nat)}, lookupFw n tbl = some v → (n, v) ∈ tbl
  | [], h => by simp [lookupFw] at h
  | (k, w) :: r, h => by
    unfold lookupFw at h
    split at h
    · next hk => injection h with h; subst hk; subst h; exact List.mem_cons_self
    · exact List.mem_cons_of_mem _ (lookupFw_mem h)

theorem toNat_ofNat {v : Nat} (h : Nat.isValidChar v) : (Char.ofNat v).toNat = v := by
  unfold Char.ofNat
  rw [dif_pos h]
  rfl

/-- the per-character map of `C16_norm_only_table` -/
def g (c : Char) : Char :=
  match lookupFw c.toNat fullwidthTable with
  | some [v] => Char.ofNat v
  | _ => c

theorem lookup_shape {n : Nat} {v : List Nat} (h : lookupFw n fullwidthTable = some v) :
    ∃ x, v = [x] ∧ Nat.isValidChar x ∧ x ≠ 0 ∧ lookupFw x fullwidthTable = none := by
  have hm := lookupFw_mem h
  have h1 := List.all_eq_true.mp tbl_single _ hm
  have h2 := List.all_eq_true.mp tbl_valid _ hm
  have h3 := List.all_eq_true.mp tbl_nokey _ hm
  simp only [beq_iff_eq] at h1
  match v, h1 with
  | [x], _ =>
    have h2' := List.all_eq_true.mp h2 x List.mem_cons_self
    have h3' := List.all_eq_true.mp h3 x List.mem_cons_self
    simp only [Bool.and_eq_true, decide_eq_true_eq] at h2'
    exact ⟨x, rfl, h2'.1, h2'.2, by simpa [Option.isNone_iff_eq_none] using h3'⟩

theorem fwChar_eq (c : Char) : fwChar c = [g c] := by
  unfold fwChar g
  cases h : lookupFw c.toNat fullwidthTable with
  | none => rfl
  | some v =>
    obtain ⟨x, rfl, _⟩ := lookup_shape h
    rfl

theorem fullwidth_eq_map (s : List Char) : fullwidth s = s.map g := by
  unfold fullwidth
  induction s with
  | nil => rfl
  | cons c cs ih => rw [List.flatMap_cons, ih, fwChar_eq]; rfl

theorem g_cases (c : Char) :
    g c = c ∨ ∃ x, lookupFw c.toNat fullwidthTable = some [x] ∧ g c = Char.ofNat x ∧ Nat.isValidChar x ∧ x ≠ 0 ∧
      lookupFw x fullwidthTable = none := by
  unfold g
  cases h : lookupFw c.toNat fullwidthTable with
  | none => exact Or.inl rfl
  | some v =>
    obtain ⟨x, rfl, hv, h0, hn⟩ := lookup_shape h
    exact Or.inr ⟨x, rfl, rfl, hv, h0, hn⟩

theorem g_idem (c : Char) : g (g c) = g c := by
  rcases g_cases c with h | ⟨x, _, h, hv, _, hn⟩
  · rw [h, h]
  · rw [h]
    unfold g
    rw [toNat_ofNat hv, hn]

theorem g_ne_nul (c : Char) (hc : c ≠ '\x00') : g c ≠ '\x00' := by
  rcases g_cases c with h | ⟨x, _, h, hv, h0, _⟩
  · rw [h]; exact hc
  · rw [h]
    exact fun he => h0 ((toNat_ofNat hv).symm.trans (congrArg Char.toNat he))

theorem fullwidth_length (s : List Char) : (fullwidth s).length = s.length := by
  rw [fullwidth_eq_map, List.length_map]

theorem fullwidth_no_nul (s : List Char) (h : '\x00' ∉ s) : '\x00' ∉ fullwidth s := by
  rw [fullwidth_eq_map]
  intro hm
  obtain ⟨c, hc, he⟩ := List.mem_map.mp hm
  exact g_ne_nul c (fun e => h (e ▸ hc)) he

theorem fullwidth_ne_nil (s : List Char) (h : s ≠ []) : fullwidth s ≠ [] := by
  intro he
  have := fullwidth_length s
  rw [he] at this
  exact h (List.eq_nil_of_length_eq_zero this.symm)

end V.C16L
