import VProofs.C01
import VProofs.C06
/-!
# `Predictor.new` accepts every well-formed model (for C11)

`new` fails only in `charScorerNew` / `typeScorerNew`: the automaton cannot be built (no pattern, an empty pattern, a
repeated pattern), a dictionary word is too long, or `insertTagWeights` indexes outside the tag table.
-/
namespace V.C11L
open V.C01L V.C06L
variable {α : Type} [DecidableEq α] {W : Type}

def KeysIn (n w : Nat) (l : TI) : Prop := ∀ K ∈ l.map Prod.fst, K.1 < n ∧ K.2 < w

theorem getElem?_of_rowLen (tw : TW) (n w t : Nat) (hlen : tw.length = n) (hrow : ∀ t, t < n → rowLen tw t = w)
    (ht : t < n) : ∃ row, tw[t]? = some row ∧ row.length = w := by
  have hlt : t < tw.length := by omega
  refine ⟨tw[t], List.getElem?_eq_getElem hlt, ?_⟩
  have := hrow t ht
  unfold rowLen at this
  rw [List.getElem?_eq_getElem hlt] at this
  exact this

theorem insert_total (cfg : Cfg) (id n w : Nat) (info : TI) :
    ∀ tw : TW, tw.length = n → (∀ t, t < n → rowLen tw t = w) → KeysIn n w info →
      ∃ tw', insertTagWeights cfg id info tw = .ok tw' := by
  induction info with
  | nil => intro tw _ _ _; exact ⟨tw, rfl⟩
  | cons e rest ih =>
    obtain ⟨⟨tid, rel⟩, v⟩ := e
    intro tw hlen hrow hk
    have hk0 := hk (tid, rel) List.mem_cons_self
    obtain ⟨row, h1, hrl⟩ := getElem?_of_rowLen tw n w tid hlen hrow hk0.1
    have hr : rel < row.length := by rw [hrl]; exact hk0.2
    rw [insertTagWeights]
    simp only [h1, List.getElem?_eq_getElem hr]
    apply ih
    · rw [List.length_set]; exact hlen
    · intro t ht
      rw [rowLen_set tw tid rel row _ h1]; exact hrow t ht
    · exact fun K hK => hk K (List.mem_cons_of_mem _ hK)

omit [DecidableEq α] in
theorem fill_total (cfg : Cfg) (n w : Nat) (es : List (List α × PWT)) (hes : ∀ e ∈ es, KeysIn n w e.2.tagInfo) :
    ∀ (id : Nat) (tw : TW), tw.length = n → (∀ t, t < n → rowLen tw t = w) →
      ∃ tw', fillTagWeights cfg es id tw = .ok tw' := by
  induction es with
  | nil => intro id tw _ _; exact ⟨tw, rfl⟩
  | cons e es ih =>
    intro id tw hlen hrow
    obtain ⟨tw1, h1⟩ := insert_total cfg id n w e.2.tagInfo tw hlen hrow (hes e List.mem_cons_self)
    obtain ⟨a1, a2, _⟩ := insert_spec cfg id e.2.tagInfo tw tw1 h1
    rw [fillTagWeights]
    simp only [h1]
    exact ih (fun x hx => hes x (List.mem_cons_of_mem _ hx)) (id + 1) tw1 (by rw [a1]; exact hlen)
      (fun t ht => by rw [a2]; exact hrow t ht)

theorem PWT_add_keys (P : Nat × Nat → Prop) (a b : PWT) (ha : ∀ K ∈ a.tagInfo.map Prod.fst, P K)
    (hb : ∀ K ∈ b.tagInfo.map Prod.fst, P K) : ∀ K ∈ (a.add b).tagInfo.map Prod.fst, P K :=
  fun K hK => ((mem_PWT_add_keys a b K).mp hK).elim (ha K) (hb K)

theorem isEmpty_false_iff {β : Type} (l : List β) : l.isEmpty = false ↔ l ≠ [] := by
  cases l <;> simp

theorem pmaBuildOk_intro (pats : List (List α)) (h0 : pats ≠ []) (h1 : [] ∉ pats) (h2 : pats.Nodup) :
    pmaBuildOk pats = true := by
  have b : pats.all (fun p => !p.isEmpty) = true := by
    rw [List.all_eq_true]
    intro p hp
    cases p with
    | nil => exact absurd hp h1
    | cons _ _ => rfl
  unfold pmaBuildOk
  rw [(isEmpty_false_iff pats).mpr h0, b, decide_eq_true h2]
  rfl

theorem addAll_ok (add : W → W → W) (P : W → Prop) (hP : ∀ a b, P a → P b → P (add a b)) (es : List (List α × W))
    (h0 : es ≠ []) (h1 : ∀ e ∈ es, e.1 ≠ [] ∧ P e.2) :
    pmaBuildOk ((addAll add es []).map Prod.fst) = true ∧ ∀ e ∈ addAll add es [], P e.2 := by
  obtain ⟨hnd, hkeys, hP', _⟩ := addAll_correct add (es.head h0).2 (fun _ => 0) (fun _ w => P w)
    (fun _ a b => hP a b) (fun _ _ _ _ _ => rfl) es (fun e he => (h1 e he).2)
  refine ⟨pmaBuildOk_intro _ ?_ ?_ hnd, hP'⟩
  · cases es with
    | nil => exact absurd rfl h0
    | cons e r =>
      intro hc
      have : e.1 ∈ (addAll add (e :: r) []).map Prod.fst := (hkeys e.1).mpr (List.mem_map_of_mem List.mem_cons_self)
      rw [hc] at this
      cases this
  · intro hc
    obtain ⟨e, he, hk⟩ := List.mem_map.mp ((hkeys []).mp hc)
    exact (h1 e he).1 hk

theorem buildBoundary_total (cfg : Cfg) (entries : List (List α × PW))
    (hok : pmaBuildOk (entries.map Prod.fst) = true) : ∃ sc, buildBoundary cfg entries = .ok sc := by
  unfold buildBoundary
  simp only [Merge.mergeEntries_keys, hok, if_true]
  exact ⟨_, rfl⟩

theorem buildBoundaryTag_total (cfg : Cfg) (window n : Nat) (entries : List (List α × PWT))
    (hok : pmaBuildOk (entries.map Prod.fst) = true)
    (hkeys : ∀ e ∈ entries, ∀ K ∈ e.2.tagInfo.map Prod.fst, K.1 < n) :
    ∃ sc, buildBoundaryTag cfg window n entries = .ok sc := by
  obtain ⟨hne, hnd⟩ := pmaBuildOk_spec _ hok
  have hk := Merge.mergeEntries_keys PWT.add PWT.empty entries
  have hent : ∀ e ∈ entries, KeysIn n (nRelOf window entries) e.2.tagInfo :=
    fun e he K hK => ⟨hkeys e he K hK, nRelOf_key window entries e he K hK⟩
  -- a merged entry carries the merged weight of its key, which inherits the bounds from the summands
  have hmerged : ∀ e ∈ Merge.mergeEntries PWT.add PWT.empty entries, KeysIn n (nRelOf window entries) e.2.tagInfo := by
    intro e he
    have h1 : e.1 ∈ entries.map Prod.fst := by rw [← hk]; exact List.mem_map_of_mem he
    rw [← Merge.lookupD_of_mem PWT.empty _ (by rw [hk]; exact hnd) e he]
    exact (Merge.mergeEntries_correct PWT.add PWT.empty (fun _ => 0)
      (fun _ t => KeysIn n (nRelOf window entries) t.tagInfo)
      (fun _ _ a b _ ha hb => PWT_add_keys _ a b ha hb) (fun _ _ _ _ _ _ _ => rfl) entries hnd hne hent e.1 h1).1
  obtain ⟨tw, htw⟩ := fill_total cfg n (nRelOf window entries) _ hmerged 0
    (List.replicate n (List.replicate (nRelOf window entries) ([] : List (Nat × WV))))
    List.length_replicate (fun t ht => rowLen_replicate n _ t ht)
  unfold nRelOf at htw
  unfold buildBoundaryTag
  simp only [htw, hk, hok, if_true]
  exact ⟨_, rfl⟩

/-! Both constructors return early when there is nothing to score, i.e. when `e && (!cfg.tagPred || T.all (·.isEmpty))` holds,
`e` saying that there are no boundary entries; otherwise they choose the tag-aware scorer when
`cfg.tagPred && !T.isEmpty`, and the plain one else.  Either way the test has left at least one pattern. -/

omit [DecidableEq α] in
theorem tagEntries_ne_nil (T : List (List (TagNgramData α))) (hw : ∀ tm ∈ T, ∀ d ∈ tm, d.weights ≠ [])
    (hall : T.all (·.isEmpty) = false) : tagEntries T ≠ [] := by
  obtain ⟨tm, htm, hne⟩ := List.all_eq_false.mp hall
  obtain ⟨i, hi, hget⟩ := List.mem_iff_getElem.mp htm
  cases tm with
  | nil => exact absurd rfl hne
  | cons d r =>
    cases hws : d.weights with
    | nil => exact absurd hws (hw _ htm d List.mem_cons_self)
    | cons w ws =>
      intro hc
      have := tagEntries_mem T i (d :: r) d w (by rw [List.getElem?_eq_getElem hi, hget]) List.mem_cons_self
        (by rw [hws]; exact List.mem_cons_self)
      rw [hc] at this
      cases this

/-- the entries have non-empty keys, and either a boundary entry is left or a tag n-gram, which carries a weight -/
theorem tagBranch_total {γ : Type} (f : PmaScorer α → γ) (cfg : Cfg) (window : Nat) (bes : List (List α × PWT))
    (T : List (List (TagNgramData α))) (e : Bool) (hbes : ∀ x ∈ bes, x.1 ≠ [] ∧ x.2.tagInfo = [])
    (hT : ∀ tm ∈ T, ∀ d ∈ tm, d.ngram ≠ [] ∧ d.weights ≠ []) (he : bes = [] → e = true)
    (hc : ¬ (e && (!cfg.tagPred || T.all (·.isEmpty))) = true) :
    ∃ c, (buildBoundaryTag cfg window T.length (addAll PWT.add (bes ++ tagEntries T) [])).map f = .ok c := by
  have hne : bes ++ tagEntries T ≠ [] := by
    intro hnil
    obtain ⟨h1, h2⟩ := List.append_eq_nil_iff.mp hnil
    cases hall : T.all (·.isEmpty) with
    | true => rw [he h1, hall, Bool.or_true] at hc; exact hc rfl
    | false => exact tagEntries_ne_nil T (fun tm htm d hd => (hT tm htm d hd).2) hall h2
  have hent : ∀ x ∈ bes ++ tagEntries T, x.1 ≠ [] ∧ ∀ K ∈ x.2.tagInfo.map Prod.fst, K.1 < T.length := by
    intro x hx
    rcases List.mem_append.mp hx with hx | hx
    · refine ⟨(hbes x hx).1, ?_⟩
      rw [(hbes x hx).2]
      intro K hK; cases hK
    · obtain ⟨i, tm, d, w, hi, hd, hw, rfl⟩ := mem_tagEntries T x hx
      refine ⟨(hT tm (List.mem_of_getElem? hi) d hd).1, ?_⟩
      intro K hK
      rw [List.map_singleton, List.mem_singleton] at hK
      subst hK
      exact (List.getElem?_eq_some_iff.mp hi).1
  obtain ⟨hok, hkeys⟩ := addAll_ok PWT.add (fun t => ∀ K ∈ t.tagInfo.map Prod.fst, K.1 < T.length)
    (PWT_add_keys _) _ hne hent
  obtain ⟨sc, h⟩ := buildBoundaryTag_total cfg window T.length _ hok hkeys
  exact ⟨f sc, by rw [h]; rfl⟩

/-- where the plain scorer is chosen there are no tag n-grams, so the failed test says that there are boundary entries -/
theorem plain_entries {β : Type} (e tp : Bool) (T : List (List β)) (hc : ¬ (e && (!tp || T.all (·.isEmpty))) = true)
    (htag : ¬ (tp && !T.isEmpty) = true) : e = false := by
  have hno : (!tp || T.all (·.isEmpty)) = true := by
    cases tp
    · rfl
    · cases T with
      | nil => rfl
      | cons _ _ => exact absurd rfl htag
  rw [hno, Bool.and_true] at hc
  exact Bool.eq_false_iff.mpr hc

theorem plainBranch_total {β γ : Type} (f : PmaScorer α → γ) (cfg : Cfg) (bes : List (List α × PW)) (T : List (List β))
    (e : Bool) (hbes : ∀ x ∈ bes, x.1 ≠ []) (he : bes = [] → e = true)
    (hc : ¬ (e && (!cfg.tagPred || T.all (·.isEmpty))) = true) (htag : ¬ (cfg.tagPred && !T.isEmpty) = true) :
    ∃ c, (buildBoundary cfg (addAll PW.add bes [])).map f = .ok c := by
  have hne : bes ≠ [] := fun hnil => Bool.noConfusion ((he hnil).symm.trans (plain_entries e _ T hc htag))
  obtain ⟨sc, h⟩ := buildBoundary_total cfg _
    (addAll_ok PW.add (fun _ => True) (fun _ _ _ _ => trivial) bes hne (fun x hx => ⟨hbes x hx, trivial⟩)).1
  exact ⟨f sc, by rw [h]; rfl⟩

theorem charScorerNew_total_of (cfg : Cfg) (m : WModel) (hcn : m.charW ≠ 0 → ∀ d ∈ m.charNgrams, d.ngram ≠ [])
    (hdict : ∀ d ∈ m.dict, d.word ≠ [] ∧ d.word.length ≤ 32767) (T : List (List (TagNgramData Char)))
    (hT : ∀ tm ∈ T, ∀ d ∈ tm, d.ngram ≠ [] ∧ d.weights ≠ []) : ∃ cs, charScorerNew cfg m T = .ok cs := by
  simp only [charScorerNew, charModel_ngrams, charModel_dict, charModel_charW]
  have hng : ∀ d ∈ (if m.charW = 0 then [] else m.charNgrams), d.ngram ≠ [] :=
    fun d hd => hcn (Nat.ne_of_gt (mem_ite_nil hd).1) d (mem_ite_nil hd).2
  generalize (if m.charW = 0 then [] else m.charNgrams) = ng at hng ⊢
  by_cases hc : (ng.isEmpty && m.dict.isEmpty && (!cfg.tagPred || T.all (·.isEmpty))) = true
  · rw [if_pos hc]; exact ⟨none, rfl⟩
  have hlong : (m.dict.any fun d => decide (32767 < d.word.length)) = false := by
    rw [List.any_eq_false]
    intro d hd
    rw [decide_eq_true_eq]
    exact Nat.not_lt.mpr (hdict d hd).2
  rw [if_neg hc, hlong, if_neg Bool.false_ne_true]
  have he : ∀ {β : Type} (f : NgramData Char → β) (g : DictWord → β),
      ng.map f ++ m.dict.map g = [] → (ng.isEmpty && m.dict.isEmpty) = true := by
    intro _ f g hnil
    obtain ⟨h1, h2⟩ := List.append_eq_nil_iff.mp hnil
    rw [List.map_eq_nil_iff.mp h1, List.map_eq_nil_iff.mp h2]
    rfl
  by_cases htag : (cfg.tagPred && !T.isEmpty) = true
  · rw [if_pos htag]
    refine tagBranch_total _ cfg m.charW _ T _ ?_ hT (he _ _) hc
    intro x hx
    rcases List.mem_append.mp hx with hx | hx
    · obtain ⟨d, hd, rfl⟩ := List.mem_map.mp hx
      exact ⟨hng d hd, rfl⟩
    · obtain ⟨d, hd, rfl⟩ := List.mem_map.mp hx
      exact ⟨(hdict d hd).1, rfl⟩
  · rw [if_neg htag]
    refine plainBranch_total _ cfg _ T _ ?_ (he _ _) hc htag
    intro x hx
    rcases List.mem_append.mp hx with hx | hx
    · obtain ⟨d, hd, rfl⟩ := List.mem_map.mp hx
      exact hng d hd
    · obtain ⟨d, hd, rfl⟩ := List.mem_map.mp hx
      exact (hdict d hd).1

/-- distinctness is for the cache variant, which builds its automaton from the n-grams as they stand -/
theorem typeScorerNew_total_of (cfg : Cfg) (m : WModel) (htn : m.typeW ≠ 0 → ∀ d ∈ m.typeNgrams, d.ngram ≠ [])
    (hnd : m.typeW ≠ 0 → (m.typeNgrams.map (·.ngram)).Nodup) (T : List (List (TagNgramData Nat)))
    (hT : ∀ tm ∈ T, ∀ d ∈ tm, d.ngram ≠ [] ∧ d.weights ≠ []) : ∃ ts, typeScorerNew cfg m T = .ok ts := by
  simp only [typeScorerNew, typeModel_ngrams, typeModel_typeW]
  have hng : ∀ d ∈ (if m.typeW = 0 then [] else m.typeNgrams), d.ngram ≠ [] :=
    fun d hd => htn (Nat.ne_of_gt (mem_ite_nil hd).1) d (mem_ite_nil hd).2
  replace hnd : ((if m.typeW = 0 then [] else m.typeNgrams).map (·.ngram)).Nodup := by
    split
    · exact List.nodup_nil
    · exact hnd ‹_›
  generalize (if m.typeW = 0 then [] else m.typeNgrams) = ng at hng hnd ⊢
  by_cases hc : (ng.isEmpty && (!cfg.tagPred || T.all (·.isEmpty))) = true
  · rw [if_pos hc]; exact ⟨none, rfl⟩
  rw [if_neg hc]
  have he : ∀ {β : Type} (f : NgramData Nat → β), ng.map f = [] → ng.isEmpty = true := by
    intro _ f hnil
    rw [List.map_eq_nil_iff.mp hnil]
    rfl
  by_cases htag : (cfg.tagPred && !T.isEmpty) = true
  · rw [if_pos htag]
    refine tagBranch_total _ cfg m.typeW _ T _ ?_ hT (he _) hc
    intro x hx
    obtain ⟨d, hd, rfl⟩ := List.mem_map.mp hx
    exact ⟨hng d hd, rfl⟩
  · rw [if_neg htag]
    by_cases hcache : (cfg.cache && decide (m.typeW ≤ 3)) = true
    · have hne : ng ≠ [] := (isEmpty_false_iff _).mp (plain_entries _ _ T hc htag)
      rw [if_pos hcache, if_pos (pmaBuildOk_intro _ (fun h => hne (List.map_eq_nil_iff.mp h)) ?_ hnd)]
      · exact ⟨_, rfl⟩
      · intro h
        obtain ⟨d, hd, hk⟩ := List.mem_map.mp h
        exact hng d hd hk
    · rw [if_neg hcache]
      refine plainBranch_total _ cfg _ T _ ?_ (he _) hc htag
      intro x hx
      obtain ⟨d, hd, rfl⟩ := List.mem_map.mp hx
      exact hng d hd

theorem mem_tagNgrams {β : Type} {c : Prop} [Decidable c] {f : TagModel → List β} {l : List TagModel} {x : List β}
    (h : x ∈ (if c then l.map f else [])) : c ∧ ∃ tm ∈ l, f tm = x := by
  split at h
  · exact ⟨‹_›, List.mem_map.mp h⟩
  · cases h

/-- the tag n-grams matter only when tag prediction is asked for -/
theorem new_total0 (cfg : Cfg) (m : WModel) (hm : WFModel0 m) (pt : Bool)
    (hc : pt = true → ∀ tm ∈ m.tagModels, ∀ d ∈ tm.charNgrams, d.ngram ≠ [] ∧ d.weights ≠ [])
    (ht : pt = true → ∀ tm ∈ m.tagModels, ∀ d ∈ tm.typeNgrams, d.ngram ≠ [] ∧ d.weights ≠ [])
    (hcfg : pt = true → cfg.tagPred = true) : ∃ p, Predictor.new cfg m pt = .ok p := by
  have h0 : ¬ (pt && !cfg.tagPred) = true := by
    cases hpt : pt with
    | false => exact Bool.false_ne_true
    | true => rw [hcfg hpt]; exact Bool.false_ne_true
  obtain ⟨cs, hcs⟩ := charScorerNew_total_of cfg m
    (fun h0 d hd => List.ne_nil_of_length_pos (hm.char_shape (Nat.pos_of_ne_zero h0) d hd).1)
    (fun d hd => ⟨List.ne_nil_of_length_pos (hm.dict_shape d hd).1, (hm.dict_shape d hd).2.1⟩)
    (if (pt && cfg.tagPred) = true then m.tagModels.map (·.charNgrams) else []) (by
      intro tm htm d hd
      obtain ⟨hpt, x, hx, rfl⟩ := mem_tagNgrams htm
      exact hc (Bool.and_eq_true_iff.mp hpt).1 x hx d hd)
  obtain ⟨ts, hts⟩ := typeScorerNew_total_of cfg m
    (fun h0 d hd => List.ne_nil_of_length_pos (hm.type_shape (Nat.pos_of_ne_zero h0) d hd).1)
    (fun h0 => hm.type_nodup (Nat.pos_of_ne_zero h0))
    (if (pt && cfg.tagPred) = true then m.tagModels.map (·.typeNgrams) else []) (by
      intro tm htm d hd
      obtain ⟨hpt, x, hx, rfl⟩ := mem_tagNgrams htm
      exact ht (Bool.and_eq_true_iff.mp hpt).1 x hx d hd)
  simp only [Predictor.new, if_neg h0, hcs, hts]
  exact ⟨_, rfl⟩

end V.C11L
