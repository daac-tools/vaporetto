import VProofs.Lemmas.AsmOrder
/-!
# C09: the steps of `asmFold`

The equations of `asmStep` by kind of trace entry, induction along the fold, and the weight function a trace defines
(`stepF`: the last non-zero write of a feature wins).
-/
namespace V.C09L
open V

def dictTriple (pos : DPos) (l i r w : Int) : Int × Int × Int :=
  match pos with
  | .left => (w, i, r)
  | .inside => (l, w, r)
  | .right => (l, i, w)

theorem asmStep_zero (cfg : TrainCfg) (a : Asm) (f : Feature) : asmStep cfg a (f, 0) = .ok a :=
  if_pos rfl

theorem asmStep_char (cfg : TrainCfg) (a : Asm) (g : List Char) (rel w : Int) (hw : ¬ w = 0) :
    asmStep cfg a (.charNgram g rel, w)
      = (placeNgram (lexLt ltChar) cfg.charW g rel w a.charM).map fun m => { a with charM := m } :=
  if_neg hw

theorem asmStep_type (cfg : TrainCfg) (a : Asm) (g : List Nat) (rel w : Int) (hw : ¬ w = 0) :
    asmStep cfg a (.typeNgram g rel, w)
      = (placeNgram (lexLt ltNat) cfg.typeW g rel w a.typeM).map fun m => { a with typeM := m } :=
  if_neg hw

theorem asmStep_dict (cfg : TrainCfg) (a : Asm) (len : Nat) (pos : DPos) (w : Int) (hw : ¬ w = 0)
    (hcond : ¬ (len = 0 ∨ a.dictW.length < len)) (l i r : Int) (hcur : a.dictW.getD (len - 1) (0, 0, 0) = (l, i, r)) :
    asmStep cfg a (.dictWord len pos, w) =
      .ok { a with dictW := a.dictW.set (len - 1) (dictTriple pos l i r w) } := by
  simp only [asmStep, hw, if_false, hcond, hcur, dictTriple]
  cases pos <;> rfl

/-- the weight function after one more trace entry (zero weights are skipped) -/
def stepF (F : Feature → Int) (e : Feature × Int) : Feature → Int :=
  if e.2 = 0 then F else fun f => if f = e.1 then e.2 else F f

theorem stepF_of_ne (F : Feature → Int) (f : Feature) {w : Int} (hw : ¬ w = 0) (f' : Feature) :
    stepF F (f, w) f' = if f' = f then w else F f' := by
  rw [stepF, if_neg hw]

theorem asmFold_induction (cfg : TrainCfg) (P : Asm → Prop) :
    ∀ (trace : List (Feature × Int)) (a a' : Asm),
      (∀ fw ∈ trace, ∀ a a', P a → asmStep cfg a fw = .ok a' → P a') → P a → asmFold cfg trace a = .ok a' → P a'
  | [], a, a', _, ha, h => by
    cases h
    exact ha
  | fw :: r, a, a', hstep, ha, h => by
    rw [asmFold] at h
    split at h
    · rename_i a1 hs
      exact asmFold_induction cfg P r a1 a' (fun x hx => hstep x (List.mem_cons_of_mem _ hx))
        (hstep fw List.mem_cons_self a a1 ha hs) h
    · rename_i hne
      exact absurd h (hne a')

/-- with distinct features the final weight function is the first (only) entry of the feature -/
theorem foldl_stepF (f : Feature) :
    ∀ (trace : List (Feature × Int)) (F : Feature → Int), (trace.map Prod.fst).Nodup →
      trace.foldl stepF F f =
        match trace.find? (fun e => e.1 = f) with
        | some e => if e.2 = 0 then F f else e.2
        | none => F f
  | [], F, _ => rfl
  | e :: r, F, hnd => by
    have hnd' : e.1 ∉ r.map Prod.fst ∧ (r.map Prod.fst).Nodup := List.nodup_cons.mp hnd
    rw [List.foldl_cons, foldl_stepF f r (stepF F e) hnd'.2]
    by_cases he : e.1 = f
    · have hnone : r.find? (fun e => decide (e.1 = f)) = none := by
        rw [List.find?_eq_none]
        intro x hx
        simp only [decide_eq_true_eq]
        intro hxf
        exact hnd'.1 (List.mem_map.mpr ⟨x, hx, by rw [hxf, he]⟩)
      rw [hnone]
      simp only [List.find?_cons, he, decide_true]
      unfold stepF
      split
      · rfl
      · simp [he]
    · have hs : stepF F e f = F f := by
        unfold stepF
        split
        · rfl
        · exact if_neg (fun h => he h.symm)
      simp only [List.find?_cons, he, decide_false, hs]

theorem foldl_stepF_zero (f : Feature) (trace : List (Feature × Int)) (hnd : (trace.map Prod.fst).Nodup) :
    trace.foldl stepF (fun _ => 0) f =
      match trace.find? (fun e => e.1 = f) with
      | some e => e.2
      | none => 0 := by
  rw [foldl_stepF f trace _ hnd]
  split
  · split
    · rename_i h; rw [h]
    · rfl
  · rfl

end V.C09L
