import VProofs.Lemmas.KyDump
/-!
# C17 — the trie the harness's encoder writes

`trieStates keys` is a `TreeTable` whose gotos are strictly ascending, and below the root it encodes exactly
`(key, entry)` for every key (with the entry of its last occurrence).
-/
namespace V.C17L
open V V.Ky
open V.Bin (Bytes)

theorem mem_prefixesOf {q w : List Char} : q ∈ prefixesOf w ↔ q ≠ [] ∧ q <+: w := by
  simp only [prefixesOf, List.mem_map, List.mem_range]
  constructor
  · rintro ⟨n, hn, rfl⟩
    refine ⟨fun h => ?_, List.take_prefix _ _⟩
    rcases List.take_eq_nil_iff.1 h with h | h
    · cases h
    · rw [h] at hn; cases hn
  · rintro ⟨hne, hp⟩
    have hlen := List.length_pos_iff.2 hne
    refine ⟨q.length - 1, Nat.lt_of_lt_of_le (Nat.sub_lt hlen Nat.one_pos) hp.length_le, ?_⟩
    rw [Nat.sub_add_cancel hlen]
    exact (List.prefix_iff_eq_take.1 hp).symm

theorem mem_addNew {q p : List Char} {acc : List (List Char)} : q ∈ addNew acc p ↔ q ∈ acc ∨ q = p := by
  unfold addNew
  split
  · next h => exact ⟨Or.inl, fun hq => hq.elim id fun e => e ▸ h⟩
  · rw [List.mem_append, List.mem_singleton]

theorem nodup_addNew {p : List Char} {acc : List (List Char)} (h : acc.Nodup) : (addNew acc p).Nodup := by
  unfold addNew
  split
  · exact h
  · next hp =>
    exact List.nodup_append.2 ⟨h, List.pairwise_singleton _ p, fun a ha b hb hab => hp (List.mem_singleton.1 hb ▸ hab ▸ ha)⟩

theorem prefix_addNew (acc : List (List Char)) (p : List Char) : acc <+: addNew acc p := by
  unfold addNew
  split
  · exact List.prefix_refl _
  · exact List.prefix_append _ _

theorem mem_foldl_addNew (q : List Char) : ∀ (ps acc : List (List Char)), q ∈ ps.foldl addNew acc ↔ q ∈ acc ∨ q ∈ ps
  | [], acc => by simp only [List.foldl_nil, List.not_mem_nil, or_false]
  | p :: ps, acc => by rw [List.foldl_cons, mem_foldl_addNew q ps, mem_addNew, List.mem_cons, or_assoc]

theorem nodup_foldl_addNew : ∀ (ps acc : List (List Char)), acc.Nodup → (ps.foldl addNew acc).Nodup
  | [], _, h => h
  | _ :: ps, _, h => nodup_foldl_addNew ps _ (nodup_addNew h)

theorem prefix_foldl_addNew : ∀ (ps acc : List (List Char)), acc <+: ps.foldl addNew acc
  | [], acc => List.prefix_refl acc
  | p :: ps, acc => (prefix_addNew acc p).trans (prefix_foldl_addNew ps _)

theorem trieNodes_nodup (keys : List (List Char)) : (trieNodes keys).Nodup :=
  nodup_foldl_addNew _ _ (by simp)

theorem trieNodes_head (keys : List (List Char)) : ∃ t, trieNodes keys = [] :: t := by
  obtain ⟨t, ht⟩ := prefix_foldl_addNew (keys.flatMap prefixesOf) [[]]
  exact ⟨t, by rw [trieNodes, ← ht]; rfl⟩

theorem mem_trieNodes {keys : List (List Char)} {q : List Char} :
    q ∈ trieNodes keys ↔ q = [] ∨ ∃ k ∈ keys, q <+: k := by
  rw [trieNodes, mem_foldl_addNew]
  simp only [List.mem_singleton, List.mem_flatMap, mem_prefixesOf]
  constructor
  · rintro (h | ⟨k, hk, _, hp⟩)
    · exact Or.inl h
    · exact Or.inr ⟨k, hk, hp⟩
  · rintro (h | ⟨k, hk, hp⟩)
    · exact Or.inl h
    · by_cases hq : q = []
      · exact Or.inl hq
      · exact Or.inr ⟨k, hk, hq, hp⟩

theorem prefix_mem_trieNodes {keys : List (List Char)} {p q : List Char} (hq : q ∈ trieNodes keys) (hp : p <+: q) :
    p ∈ trieNodes keys := by
  rcases mem_trieNodes.1 hq with rfl | ⟨k, hk, hqk⟩
  · exact mem_trieNodes.2 (Or.inl (List.prefix_nil.1 hp))
  · exact mem_trieNodes.2 (Or.inr ⟨k, hk, hp.trans hqk⟩)

theorem idxOf_nil_trieNodes (keys : List (List Char)) : (trieNodes keys).idxOf [] = 0 := by
  obtain ⟨t, ht⟩ := trieNodes_head keys
  rw [ht]; simp

theorem trieNodes_getElem?_zero (keys : List (List Char)) : (trieNodes keys)[0]? = some [] := by
  obtain ⟨t, ht⟩ := trieNodes_head keys
  rw [ht]; rfl

theorem getElem?_idxOf_of_mem {l : List (List Char)} {q : List Char} (h : q ∈ l) : l[l.idxOf q]? = some q := by
  have hlt := List.idxOf_lt_length_of_mem h
  rw [List.getElem?_eq_getElem hlt, List.getElem_idxOf]

theorem idxOf_of_getElem? {l : List (List Char)} (hnd : l.Nodup) {i : Nat} {q : List Char} (h : l[i]? = some q) :
    l.idxOf q = i := by
  obtain ⟨hi, rfl⟩ := List.getElem?_eq_some_iff.1 h
  exact hnd.idxOf_getElem i hi

theorem idxOf_inj {l : List (List Char)} {a b : List Char} (ha : a ∈ l) (hb : b ∈ l) (h : l.idxOf a = l.idxOf b) :
    a = b := by
  have e := getElem?_idxOf_of_mem ha
  rw [h, getElem?_idxOf_of_mem hb] at e
  exact (Option.some.inj e).symm

theorem lastIdxAux_some {p : List Char} {e : Nat} : ∀ (ks : List (List Char)) (i : Nat) (r : Option Nat),
    lastIdxAux p ks i r = some e → r = some e ∨ ∃ j, ks[j]? = some p ∧ e = i + j
  | [], _, _, h => Or.inl h
  | k :: ks, i, r, h => by
    rcases lastIdxAux_some ks _ _ h with h1 | ⟨j, hj, rfl⟩
    · by_cases hk : k = p
      · rw [if_pos hk] at h1
        exact Or.inr ⟨0, congrArg some hk, (Option.some.inj h1).symm⟩
      · rw [if_neg hk] at h1
        exact Or.inl h1
    · exact Or.inr ⟨j + 1, hj, by omega⟩

theorem lastIdxAux_isSome {p : List Char} : ∀ (ks : List (List Char)) (i : Nat) (r : Option Nat),
    (r.isSome ∨ p ∈ ks) → (lastIdxAux p ks i r).isSome
  | [], _, _, h => h.elim id fun h => absurd h List.not_mem_nil
  | k :: ks, i, r, h => by
    refine lastIdxAux_isSome ks _ _ ?_
    by_cases hk : k = p
    · rw [if_pos hk]
      exact Or.inl rfl
    · rw [if_neg hk]
      exact h.imp_right fun h => (List.mem_cons.1 h).resolve_left (Ne.symm hk)

theorem lastIdx_some {p : List Char} {keys : List (List Char)} {e : Nat} (h : lastIdx p keys = some e) :
    keys[e]? = some p := by
  rcases lastIdxAux_some keys 0 none h with h1 | ⟨j, hj, rfl⟩
  · cases h1
  · simpa using hj

theorem lastIdx_of_mem {p : List Char} {keys : List (List Char)} (h : p ∈ keys) : ∃ e, lastIdx p keys = some e :=
  Option.isSome_iff_exists.1 (lastIdxAux_isSome keys 0 none (Or.inr h))

theorem lastIdx_eq_of_nodup {p : List Char} {keys : List (List Char)} (hnd : keys.Nodup) {e : Nat}
    (h : keys[e]? = some p) : lastIdx p keys = some e := by
  obtain ⟨e', he'⟩ := lastIdx_of_mem (List.mem_of_getElem? h)
  have h2 := lastIdx_some he'
  have hlt : e < keys.length := (List.getElem?_eq_some_iff.1 h).1
  have := (List.getElem?_inj hlt hnd).1 (h.trans h2.symm)
  rw [he', this]

theorem insertGoto_perm (x : Char × Nat) : ∀ (l : List (Char × Nat)), (insertGoto x l).Perm (x :: l) := by
  intro l
  induction l with
  | nil => exact List.Perm.refl _
  | cons y r ih =>
    simp only [insertGoto]
    by_cases h : gotoLe x y = true
    · simp [h]
    · rw [if_neg h]
      exact (List.Perm.cons y ih).trans (List.Perm.swap x y r)

theorem sortGotos_perm : ∀ (l : List (Char × Nat)), (sortGotos l).Perm l := by
  intro l
  induction l with
  | nil => exact List.Perm.refl _
  | cons y r ih =>
    simp only [sortGotos]
    exact (insertGoto_perm y _).trans (List.Perm.cons y ih)

theorem mem_insertGoto {x g : Char × Nat} {l : List (Char × Nat)} : g ∈ insertGoto x l ↔ g = x ∨ g ∈ l :=
  (insertGoto_perm x l).mem_iff.trans List.mem_cons

theorem mem_sortGotos {g : Char × Nat} {l : List (Char × Nat)} : g ∈ sortGotos l ↔ g ∈ l :=
  (sortGotos_perm l).mem_iff

abbrev CharAsc (l : List (Char × Nat)) : Prop := l.Pairwise fun a b => a.1.toNat < b.1.toNat

theorem gotoLe_of_ne {x y : Char × Nat} (h : x.1.toNat ≠ y.1.toNat) : gotoLe x y = decide (x.1.toNat < y.1.toNat) := by
  simp only [gotoLe, beq_eq_false_iff_ne.2 h, Bool.false_and, Bool.or_false]

theorem insertGoto_asc {x : Char × Nat} : ∀ {l : List (Char × Nat)}, CharAsc l → (∀ y ∈ l, x.1.toNat ≠ y.1.toNat) →
    CharAsc (insertGoto x l)
  | [], _, _ => List.pairwise_singleton _ _
  | y :: r, hl, hx => by
    have hxy := hx y List.mem_cons_self
    rw [CharAsc, List.pairwise_cons] at hl
    rw [insertGoto, gotoLe_of_ne hxy]
    by_cases h : x.1.toNat < y.1.toNat
    · rw [decide_eq_true h, if_pos rfl]
      refine List.pairwise_cons.2 ⟨fun z hz => ?_, List.pairwise_cons.2 hl⟩
      rcases List.mem_cons.1 hz with rfl | hz
      · exact h
      · exact Nat.lt_trans h (hl.1 z hz)
    · rw [decide_eq_false h, if_neg Bool.false_ne_true]
      refine List.pairwise_cons.2 ⟨fun z hz => ?_, insertGoto_asc hl.2 fun z hz => hx z (List.mem_cons_of_mem y hz)⟩
      rcases mem_insertGoto.1 hz with rfl | hz
      · exact Nat.lt_of_le_of_ne (Nat.not_lt.1 h) hxy.symm
      · exact hl.1 z hz

theorem sortGotos_asc : ∀ {l : List (Char × Nat)}, (l.Pairwise fun a b => a.1.toNat ≠ b.1.toNat) → CharAsc (sortGotos l) := by
  intro l
  induction l with
  | nil => intro _; simp [sortGotos, CharAsc]
  | cons y r ih =>
    intro h
    simp only [List.pairwise_cons] at h
    simp only [sortGotos]
    exact insertGoto_asc (ih h.2) (fun z hz => h.1 z (mem_sortGotos.1 hz))

/-- `sort_unstable` undoes the descending order of the file: both lists are ascending and have the same members -/
theorem sortGotos_reverse {l : List (Char × Nat)} (h : CharAsc l) : sortGotos l.reverse = l :=
  List.Perm.eq_of_pairwise (fun _ _ _ _ h1 h2 => absurd h2 (Nat.lt_asymm h1))
    (sortGotos_asc (List.pairwise_reverse.2 (h.imp fun hab => (Nat.ne_of_lt hab).symm))) h
    ((sortGotos_perm _).trans (List.reverse_perm l))

theorem childF_some {nodes : List (List Char)} {p q : List Char} {b : Char × Nat}
    (h : (match q.getLast? with
      | some c => if q = p ++ [c] then some (c, nodes.idxOf q) else none
      | none => none) = some b) : q = p ++ [b.1] ∧ b.2 = nodes.idxOf q := by
  cases hl : q.getLast? with
  | none => simp [hl] at h
  | some c =>
    simp only [hl] at h
    by_cases hqc : q = p ++ [c]
    · rw [if_pos hqc] at h
      cases h
      exact ⟨hqc, rfl⟩
    · rw [if_neg hqc] at h; cases h

theorem mem_childrenOf {nodes : List (List Char)} {p : List Char} {g : Char × Nat} :
    g ∈ childrenOf nodes p ↔ (p ++ [g.1]) ∈ nodes ∧ g.2 = nodes.idxOf (p ++ [g.1]) := by
  simp only [childrenOf, List.mem_filterMap]
  constructor
  · rintro ⟨q, hq, h⟩
    obtain ⟨h1, h2⟩ := childF_some h
    subst h1
    exact ⟨hq, h2⟩
  · rintro ⟨hm, hi⟩
    refine ⟨p ++ [g.1], hm, ?_⟩
    rw [List.getLast?_concat]
    simp only [if_true]
    rw [← hi]

theorem childrenOf_pairwise {nodes : List (List Char)} (p : List Char) (hnd : nodes.Nodup) :
    (childrenOf nodes p).Pairwise fun a b => a.1.toNat ≠ b.1.toNat ∧ a.2 ≠ b.2 := by
  unfold childrenOf
  refine List.Pairwise.filterMap _ ?_ (List.Pairwise.and_mem.1 hnd)
  rintro q q' ⟨hq, hq', hne⟩ b hb b' hb'
  obtain ⟨h1, h2⟩ := childF_some hb
  obtain ⟨h1', h2'⟩ := childF_some hb'
  constructor
  · intro hc
    apply hne
    rw [h1, h1', Char.toNat_inj.1 hc]
  · intro hi
    exact hne (idxOf_inj hq hq' (h2.symm.trans (hi.trans h2')))

theorem trieStates_getElem? {keys : List (List Char)} {i : Nat} {st : KState} (h : (trieStates keys)[i]? = some st) :
    ∃ p, (trieNodes keys)[i]? = some p ∧ st = trieState keys (trieNodes keys) p := by
  simp only [trieStates, List.getElem?_map, Option.map_eq_some_iff] at h
  obtain ⟨p, hp, rfl⟩ := h
  exact ⟨p, hp, rfl⟩

theorem trieStates_of_node {keys : List (List Char)} {i : Nat} {p : List Char} (h : (trieNodes keys)[i]? = some p) :
    (trieStates keys)[i]? = some (trieState keys (trieNodes keys) p) := by
  simp only [trieStates, List.getElem?_map, h, Option.map_some]

theorem mem_trieState_gotos {keys nodes : List (List Char)} {p : List Char} {g : Char × Nat} :
    g ∈ (trieState keys nodes p).gotos ↔ (p ++ [g.1]) ∈ nodes ∧ g.2 = nodes.idxOf (p ++ [g.1]) :=
  mem_sortGotos.trans mem_childrenOf

theorem trieStates_asc (keys : List (List Char)) (i : Nat) (st : KState) (h : (trieStates keys)[i]? = some st) :
    CharAsc st.gotos := by
  obtain ⟨p, _, rfl⟩ := trieStates_getElem? h
  exact sortGotos_asc ((childrenOf_pairwise p (trieNodes_nodup keys)).imp fun h => h.1)

theorem trieStates_length (keys : List (List Char)) : (trieStates keys).length = (trieNodes keys).length := by
  simp [trieStates]

theorem trieNodes_length_pos (keys : List (List Char)) : 0 < (trieNodes keys).length := by
  obtain ⟨t, ht⟩ := trieNodes_head keys
  rw [ht]; simp

theorem trieStates_tree {τ : Type} (keys : List (List Char)) (entries : List τ) (hlen : entries.length = keys.length) :
    TreeTable (trieStates keys) entries := by
  have hnd := trieNodes_nodup keys
  constructor
  · rw [trieStates_length]; exact trieNodes_length_pos keys
  · intro i i' st st' g g' hst hst' hg hg' heq
    obtain ⟨p, hp, rfl⟩ := trieStates_getElem? hst
    obtain ⟨p', hp', rfl⟩ := trieStates_getElem? hst'
    obtain ⟨hm, hi⟩ := mem_trieState_gotos.1 hg
    obtain ⟨hm', hi'⟩ := mem_trieState_gotos.1 hg'
    have hpp : p = p' := List.append_inj_left' (idxOf_inj hm hm' (hi.symm.trans (heq.trans hi'))) rfl
    subst hpp
    rw [← idxOf_of_getElem? hnd hp, ← idxOf_of_getElem? hnd hp']
  · intro i st hst
    obtain ⟨p, hp, rfl⟩ := trieStates_getElem? hst
    have h1 : ((childrenOf (trieNodes keys) p).map (·.2)).Nodup :=
      List.pairwise_map.2 ((childrenOf_pairwise p hnd).imp fun h => h.2)
    exact ((sortGotos_perm _).map _).nodup_iff.2 h1
  · intro i st hst g hg
    obtain ⟨p, hp, rfl⟩ := trieStates_getElem? hst
    obtain ⟨hm, hi⟩ := mem_trieState_gotos.1 hg
    rw [trieStates_length, hi]
    refine ⟨List.idxOf_lt_length_of_mem hm, ?_⟩
    intro h0
    exact List.append_ne_nil_of_right_ne_nil _ (List.cons_ne_nil _ _)
      (idxOf_inj hm (mem_trieNodes.2 (Or.inl rfl)) (h0.trans (idxOf_nil_trieNodes keys).symm))
  · intro i st hst hb
    obtain ⟨p, hp, rfl⟩ := trieStates_getElem? hst
    simp only [trieState] at hb ⊢
    obtain ⟨e, he⟩ := Option.isSome_iff_exists.1 hb
    have hk := lastIdx_some he
    have hlt : e < entries.length := by
      rw [hlen]; exact (List.getElem?_eq_some_iff.1 hk).1
    exact ⟨e, [], entries[e], by simp [he], List.getElem?_eq_getElem hlt⟩

theorem enc_trie_sound {τ : Type} (keys : List (List Char)) (entries : List τ) :
    ∀ (i : Nat) (w : List Char) (x : List Char × τ), Enc (trieStates keys) entries i w x →
      (trieNodes keys)[i]? = some w → ∃ e, lastIdx x.1 keys = some e ∧ entries[e]? = some x.2 ∧ w <+: x.1 := by
  intro i w x h
  induction h with
  | @here i w st o os e hst hb ho he =>
    intro hw
    obtain ⟨p, hp, rfl⟩ := trieStates_getElem? hst
    rw [hw] at hp; cases hp
    simp only [trieState] at ho
    cases hl : lastIdx w keys with
    | none => simp [hl] at ho
    | some e' =>
      simp only [hl, List.cons.injEq] at ho
      obtain ⟨rfl, _⟩ := ho
      exact ⟨e', rfl, he, List.prefix_refl _⟩
  | @child i w st g x hst hg _ ih =>
    intro hw
    obtain ⟨p, hp, rfl⟩ := trieStates_getElem? hst
    rw [hw] at hp; cases hp
    obtain ⟨hm, hi⟩ := mem_trieState_gotos.1 hg
    have e1 := getElem?_idxOf_of_mem hm
    rw [← hi] at e1
    obtain ⟨e, h1, h2, h3⟩ := ih e1
    exact ⟨e, h1, h2, (List.prefix_append _ _).trans h3⟩

theorem enc_trie_complete {τ : Type} (keys : List (List Char)) (entries : List τ) {w : List Char} {e : Nat} {v : τ}
    (hl : lastIdx w keys = some e) (hv : entries[e]? = some v) :
    ∀ (t p : List Char), p ++ t = w → Enc (trieStates keys) entries ((trieNodes keys).idxOf p) p (w, v)
  | [], p, h => by
    rw [List.append_nil] at h
    subst h
    have hpm := mem_trieNodes.2 (Or.inr ⟨p, List.mem_of_getElem? (lastIdx_some hl), List.prefix_refl _⟩)
    refine Enc.here (trieStates_of_node (getElem?_idxOf_of_mem hpm)) (o := e) (os := []) ?_ ?_ hv
    · simp [trieState, hl]
    · simp [trieState, hl]
  | c :: t, p, h => by
    have hwk : w ∈ keys := List.mem_of_getElem? (lastIdx_some hl)
    have h' : (p ++ [c]) ++ t = w := (List.append_assoc p [c] t).trans h
    have hpm : p ∈ trieNodes keys := mem_trieNodes.2 (Or.inr ⟨w, hwk, c :: t, h⟩)
    have hcm : (p ++ [c]) ∈ trieNodes keys := mem_trieNodes.2 (Or.inr ⟨w, hwk, t, h'⟩)
    exact Enc.child (g := (c, (trieNodes keys).idxOf (p ++ [c]))) (trieStates_of_node (getElem?_idxOf_of_mem hpm))
      (mem_trieState_gotos.2 ⟨hcm, rfl⟩) (enc_trie_complete keys entries hl hv t (p ++ [c]) h')

theorem enc_trie_root {τ : Type} (keys : List (List Char)) (entries : List τ) (x : List Char × τ) :
    Enc (trieStates keys) entries 0 [] x ↔ ∃ e, lastIdx x.1 keys = some e ∧ entries[e]? = some x.2 := by
  constructor
  · intro h
    obtain ⟨e, h1, h2, _⟩ := enc_trie_sound keys entries 0 [] x h (trieNodes_getElem?_zero keys)
    exact ⟨e, h1, h2⟩
  · rintro ⟨e, h1, h2⟩
    have := enc_trie_complete keys entries h1 h2 _ [] rfl
    rwa [idxOf_nil_trieNodes] at this

theorem enc_trie_items {α τ : Type} (l : List α) (key : α → List Char) (f : α → τ) (hnd : (l.map key).Nodup)
    (x : List Char × τ) :
    Enc (trieStates (l.map key)) (l.map f) 0 [] x ↔ x ∈ l.map fun y => (key y, f y) := by
  rw [enc_trie_root]
  constructor
  · rintro ⟨e, h1, h2⟩
    have h3 := lastIdx_some h1
    simp only [List.getElem?_map, Option.map_eq_some_iff] at h2 h3
    obtain ⟨y, hy, hf⟩ := h2
    obtain ⟨y', hy', hk⟩ := h3
    rw [hy] at hy'; cases hy'
    exact List.mem_map.2 ⟨y, List.mem_of_getElem? hy, by rw [hk, hf]⟩
  · intro h
    obtain ⟨y, hy, rfl⟩ := List.mem_map.1 h
    obtain ⟨e, he⟩ := List.mem_iff_getElem?.1 hy
    refine ⟨e, lastIdx_eq_of_nodup hnd (by simp [he]), by simp [he]⟩

theorem encDict_nil {τ : Type} (cm : List Char) (nD : Nat) (e : τ → Bytes) (es : List τ) :
    encDict cm nD [] e es = encU8 nD ++ encU32 0 := rfl

theorem encDict_ne_nil {τ : Type} (cm : List Char) (nD : Nat) {keys : List (List Char)} (h : keys ≠ []) (e : τ → Bytes)
    (es : List τ) : encDict cm nD keys e es = encU8 nD ++ encU32 (trieStates keys).length
      ++ (trieStates keys).flatMap (encState cm) ++ encVecOf e es := by
  rw [encDict, if_neg (by rwa [List.isEmpty_iff])]

theorem reprDict_ne_nil {τ : Type} (nD : Nat) {keys : List (List Char)} (h : keys ≠ []) (es : List τ) :
    reprDict nD keys es = some ⟨nD, trieStates keys, es⟩ := by
  rw [reprDict, if_neg (by rwa [List.isEmpty_iff])]

end V.C17L
