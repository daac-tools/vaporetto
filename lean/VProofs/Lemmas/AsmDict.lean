import VProofs.Lemmas.AsmNgram
import VProofs.Lemmas.FeatDict
import VProofs.Lemmas.MapRes
/-!
# C09: the dictionary part of the score
-/
namespace V.C09L
open V V.C01L V.C10L

/-- `first = l; [1..n].fill(i); last = r` on `n + 1` zeros, as `dictRecord` computes it -/
def tripleVec (n : Nat) (t : Int × Int × Int) : List Int :=
  ((List.range (n + 1)).map fun k =>
    if 1 ≤ k ∧ k < n then t.2.1 else ((List.replicate (n + 1) (0 : Int)).set 0 t.1).getD k 0).set n t.2.2

theorem tripleVec_length (n : Nat) (t : Int × Int × Int) : (tripleVec n t).length = n + 1 := by
  simp only [tripleVec, List.length_set, List.length_map, List.length_range]

theorem tripleVec_getD (n : Nat) (t : Int × Int × Int) (k : Nat) :
    (tripleVec n t).getD k 0 =
      if k = n then t.2.2 else if k = 0 then t.1 else if k < n then t.2.1 else 0 := by
  rw [tripleVec, List.getD_eq_getElem?_getD, List.getElem?_set, List.length_map, List.length_range]
  by_cases h1 : n = k
  · subst h1
    simp
  · rw [if_neg h1, if_neg (fun h => h1 h.symm), List.getElem?_map]
    by_cases h2 : k < n + 1
    · rw [List.getElem?_range h2]
      by_cases h3 : k = 0
      · subst h3
        simp
      · have h4 : 1 ≤ k ∧ k < n := by omega
        simp [h3, h4]
    · rw [List.getElem?_eq_none (by simp; omega), if_neg (by omega), if_neg (by omega)]
      rfl

/-- for `n ≥ 1` the three positions are distinct, so the entry at `idx` is a sum of three exclusive cases -/
theorem getZ_tripleVec (n : Nat) (hn : 1 ≤ n) (t : Int × Int × Int) (idx : Int) :
    getZ (tripleVec n t) idx =
      (if idx = 0 then t.1 else 0) + (if 0 < idx ∧ idx < (n : Int) then t.2.1 else 0)
        + (if idx = (n : Int) then t.2.2 else 0) := by
  by_cases h0 : idx < 0
  · rw [getZ_neg _ _ h0, if_neg (by omega), if_neg (by omega), if_neg (by omega)]
    rfl
  · obtain ⟨k, rfl⟩ := Int.eq_ofNat_of_zero_le (Int.not_lt.mp h0)
    rw [getZ_nat, tripleVec_getD]
    simp only [Int.natCast_eq_zero, Int.natCast_pos, Int.ofNat_lt, Int.natCast_inj]
    by_cases h1 : k = n
    · rw [if_pos h1, if_neg (by omega), if_neg (by omega), if_pos h1]
      omega
    · rw [if_neg h1, if_neg h1, Int.add_zero]
      by_cases h2 : k = 0
      · rw [if_pos h2, if_pos h2, if_neg (by omega)]
        omega
      · rw [if_neg h2, if_neg h2, Int.zero_add]
        exact ite_cond_congr (propext (by omega))

/-- the record `dictRecord` returns when it does not panic -/
def recOf (dW : List (Int × Int × Int)) (word : List Char) : DictWord :=
  { word := word, weights := tripleVec word.length (dW.getD (min word.length dW.length - 1) (0, 0, 0)), comment := [] }

theorem dictRecord_eq (dW : List (Int × Int × Int)) (word : List Char) (h : min word.length dW.length ≠ 0) :
    dictRecord dW word = .ok (recOf dW word) := by
  simp only [dictRecord, h, if_false, recOf, tripleVec]

theorem dictRecord_shape (dW : List (Int × Int × Int)) (word : List Char) (d : DictWord)
    (h : dictRecord dW word = .ok d) : d.word = word ∧ d.weights.length = word.length + 1 := by
  by_cases hz : min word.length dW.length = 0
  · simp [dictRecord, hz] at h
  · rw [dictRecord_eq dW word hz] at h
    cases h
    exact ⟨rfl, tripleVec_length _ _⟩


theorem mapRes_map_inv {β γ : Type} (f : β → Res γ) (g : γ → β) (hg : ∀ x y, f x = .ok y → g y = x) :
    ∀ (l : List β) (ys : List γ), mapRes f l = .ok ys → ys.map g = l
  | [], ys, h => by
    simp only [mapRes, Res.ok.injEq] at h
    subst h
    rfl
  | x :: xs, ys, h => by
    obtain ⟨y0, r, h1, h2, h3⟩ := mapRes_cons_ok h
    subst h3
    rw [List.map_cons, hg x y0 h1, mapRes_map_inv f g hg xs r h2]

/-- index 0 of a word's vector is the boundary just before it, index `l` the one just after, those between are inside -/
theorem dict_case (b k l n : Nat) (h2 : l ≤ k + 1) (h4 : b + 1 < n) (L I R : Int) :
    (if (b : Int) + 1 + (l : Int) - ((k + 1 : Nat) : Int) = 0 then L else 0)
      + (if 0 < (b : Int) + 1 + (l : Int) - ((k + 1 : Nat) : Int) ∧
          (b : Int) + 1 + (l : Int) - ((k + 1 : Nat) : Int) < (l : Int) then I else 0)
      + (if (b : Int) + 1 + (l : Int) - ((k + 1 : Nat) : Int) = (l : Int) then R else 0)
    = (if k + 1 - l ≠ 0 ∧ b = k + 1 - l - 1 then L else 0)
      + (if k + 1 - l ≤ b ∧ b + 1 < k + 1 then I else 0)
      + (if k + 1 ≠ n ∧ b = k + 1 - 1 then R else 0) := by
  congr 1
  · congr 1
    · exact ite_cond_congr (propext (by omega))
    · exact ite_cond_congr (propext (by omega))
  · exact ite_cond_congr (propext (by omega))

theorem dictOne_sum (cfg : TrainCfg) (text : List Char) (i : Nat) (se : Nat × Nat) (F : Feature → Int) :
    ((dictOne cfg text i se).map F).sum =
      (if se.1 ≠ 0 ∧ i = se.1 - 1 then F (.dictWord (min (se.2 - se.1) cfg.dictMaxLen) .left) else 0)
      + (if se.1 ≤ i ∧ i + 1 < se.2 then F (.dictWord (min (se.2 - se.1) cfg.dictMaxLen) .inside) else 0)
      + (if se.2 ≠ text.length ∧ i = se.2 - 1 then F (.dictWord (min (se.2 - se.1) cfg.dictMaxLen) .right) else 0) := by
  simp only [dictOne, List.map_append, isum_append, isum_ite_single]

theorem dict_sum (cfg : TrainCfg) (F : Feature → Int) (dW : List (Int × Int × Int))
    (hdl : dW.length = cfg.dictMaxLen)
    (hdv : ∀ c, 1 ≤ c → c ≤ cfg.dictMaxLen →
      dW.getD (c - 1) (0, 0, 0) = (F (.dictWord c .left), F (.dictWord c .inside), F (.dictWord c .right)))
    (hD : 1 ≤ cfg.dictMaxLen) (hne : ∀ w ∈ cfg.dictWords, w ≠ [])
    (text : List Char) (b : Nat) (hb : b + 1 < text.length) :
    dictScore (cfg.dictWords.map (recOf dW)) text b = ((dictFeats cfg text b).map F).sum := by
  rw [dictFeats_eq, dictMatches_eq, dictScore, List.map_map, isum_flatMap, isum_flatMap]
  simp only [matchesAt, isum_filterMap]
  rw [isum_comm]
  apply isum_map_congr
  intro w hw
  have hwl : 1 ≤ w.length := List.length_pos_iff.mpr (hne w hw)
  show ((occEnds w text).map fun (e : Nat) =>
    getZ (tripleVec w.length _) ((b : Int) + 1 + (w.length : Int) - (e : Int))).sum = _
  rw [occ_sum]
  apply isum_map_congr
  intro k hk
  split
  · rename_i hs
    obtain ⟨s1, _⟩ := (suffix_take_iff w text (k + 1) (List.mem_range.mp hk)).mp hs
    have e2 : k + 1 - (k + 1 - w.length) = w.length := by omega
    dsimp only
    rw [getZ_tripleVec _ hwl, dictOne_sum, hdl, hdv (min w.length cfg.dictMaxLen) (by omega) (by omega)]
    simp only [e2]
    exact dict_case b k w.length text.length s1 hb _ _ _
  · rfl

end V.C09L
