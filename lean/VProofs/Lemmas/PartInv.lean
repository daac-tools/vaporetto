import VProofs.Lemmas.ParserTotal
/-!
The invariant of every run of the `parse_partial_annotation` state machine, and what it gives for an accepted input:
the parser does not panic and the result is well shaped with NUL-free text.
-/
namespace V

/-- NUL-free text, one tag list per character, and one label between any two characters -/
structure PartInv (s : PartSt) : Prop where
  text_nul : NulFree s.text
  tmp_len : s.tagsTmp.length = s.text.length
  bounds_len : s.bounds.length + (if s.isChar then 0 else 1) = s.text.length

theorem partInv_init : PartInv {} := ⟨fun _ h => absurd h List.not_mem_nil, rfl, rfl⟩

theorem PartInv.tmp_ne {s : PartSt} (h : PartInv s) (hc : s.isChar = false) : s.tagsTmp ≠ [] := by
  have := h.bounds_len
  rw [hc, ← h.tmp_len] at this
  exact fun e => by rw [e] at this; cases this

theorem PartStep.inv {s s' : PartSt} {c : Char} (hs : PartStep s c s') (h : PartInv s) : PartInv s' := by
  obtain ⟨h1, h2, h3⟩ := h
  cases hs with
  | char hc h0 =>
    rw [hc] at h3
    refine ⟨fun d hd => ?_, ?_, ?_⟩
    · rcases List.mem_append.mp hd with hd | hd
      · exact h1 d hd
      · rw [List.mem_singleton] at hd
        exact hd ▸ h0
    · simp only [List.length_append, List.length_singleton, h2]
    · simp only [List.length_append, List.length_singleton, Bool.false_eq_true, if_false, ← h3, if_true, Nat.add_zero]
  | esc hc => exact ⟨h1, h2, h3⟩
  | boundary b tt hc e =>
    rw [hc] at h3
    refine ⟨h1, (flushTags_length e).trans h2, ?_⟩
    simp only [List.length_append, List.length_singleton, if_true, Nat.add_zero]
    exact h3
  | slash tt hc e => exact ⟨h1, (flushTags_length e).trans h2, h3⟩
  | tagChar t hc ht => exact ⟨h1, h2, h3⟩

theorem partRun_inv (cs : List Char) (s : PartSt) (h : PartInv s) : (partRun s cs).All PartInv := by
  induction cs generalizing s with
  | nil => exact h
  | cons c cs ih =>
    rw [partRun_cons]
    exact (partStep_cases s c h.tmp_ne).bind fun s' hs => ih s' (hs.inv h)

theorem parsePartial_parsedOK (x : List Char) : (parsePartial x).All fun p => ∃ tt, ParsedOK p tt := by
  rw [parsePartial_eq]
  split
  · trivial
  · refine (partRun_inv x {} partInv_init).bind fun s hs => ?_
    rw [partFinish]
    split
    · trivial
    · next hc =>
      have hc : s.isChar = false := Bool.eq_false_iff.mpr hc
      refine (finishTags_all _ _ _ (hs.tmp_ne hc) _).mono fun p ⟨tt, e, hp⟩ => ?_
      subst hp
      have := hs.bounds_len
      rw [hc] at this
      exact ⟨tt, rfl, (flushTags_length e).trans hs.tmp_len, this, hs.text_nul⟩

theorem parsePartial_all (x : List Char) : (parsePartial x).All GoodParsed :=
  (parsePartial_parsedOK x).mono fun _ ⟨_, h⟩ => h.good

namespace C04L

theorem parsePartial_ok {x : List Char} {p : Parsed} (h : parsePartial x = .ok p) :
    ∃ tt : List (List (List Char)), p.tags = padTags (maxLen tt) tt ∧ tt.length = p.text.length ∧
      (∀ c ∈ p.text, c ≠ '\x00') ∧ p.bounds.length + 1 = p.text.length := by
  obtain ⟨tt, h⟩ := (parsePartial_parsedOK x).of_ok h
  exact ⟨tt, h.tags_eq, h.tt_len, h.text_nul, h.bounds_len⟩

end C04L
end V
