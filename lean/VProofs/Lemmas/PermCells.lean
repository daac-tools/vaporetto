import VModel.Scorer
import VProofs.Lemmas.PermPredictor
import VProofs.Lemmas.ScorePredict
/-!
# C06 helpers: the cells `tag_weight[token_id][rel_position]` are `HashMap<u32, WeightVector>`s

The model lists a cell in insertion order and looks a pattern id up with `m.reverse.find?`; the real code does a keyed `get`.
With distinct pattern ids in a cell any listing order gives the same lookups.  The cells of a predictor built by `Predictor.new`
hold distinct ids: `fillTagWeights` visits the patterns in id order and a pattern contributes at most one entry to a cell.
-/
namespace V.C06L
open V V.PermL

/-- the same cell listed in two orders -/
def CellEq (c c' : List (Nat × WV)) : Prop := c.Perm c' ∧ (c.map Prod.fst).Nodup

/-- tables of the same shape whose cells are the same maps -/
abbrev TableEq (tw tw' : TW) : Prop := ListRel (ListRel CellEq) tw tw'

/-- both absent, or both present and related -/
def OptRel {β γ : Type} (R : β → γ → Prop) : Option β → Option γ → Prop
  | none, none => True
  | some a, some b => R a b
  | _, _ => False

theorem OptRel.inv {β γ : Type} {R : β → γ → Prop} {o : Option β} {o' : Option γ} (h : OptRel R o o') :
    (o = none ∧ o' = none) ∨ ∃ a b, o = some a ∧ o' = some b ∧ R a b := by
  cases o <;> cases o'
  · exact Or.inl ⟨rfl, rfl⟩
  · exact h.elim
  · exact h.elim
  · exact Or.inr ⟨_, _, rfl, rfl, h⟩

theorem OptRel.imp_of {β γ : Type} {R S : β → γ → Prop} {P : β → Prop} {o : Option β} {o' : Option γ} (h : OptRel R o o')
    (hRS : ∀ a b, P a → R a b → S a b) (hP : ∀ a, o = some a → P a) : OptRel S o o' := by
  obtain ⟨rfl, rfl⟩ | ⟨a, b, rfl, rfl, hab⟩ := h.inv
  · trivial
  · exact hRS a b (hP a rfl) hab

theorem ListRel.getElemOpt {β γ : Type} {R : β → γ → Prop} {l : List β} {l' : List γ} (h : ListRel R l l') :
    ∀ i : Nat, OptRel R l[i]? l'[i]? := by
  induction h with
  | nil => exact fun _ => trivial
  | cons hab _ ih =>
    intro i
    cases i with
    | zero => exact hab
    | succ i =>
      rw [List.getElem?_cons_succ, List.getElem?_cons_succ]
      exact ih i

theorem tagGo_cell {row row' : List (List (Nat × WV))} (h : ListRel CellEq row row') :
    ∀ (sts : List (Option Nat)) (sc : List Int), pmaAddTagScores.go sts row sc = pmaAddTagScores.go sts row' sc := by
  induction h with
  | nil => intro sts sc; cases sts <;> simp only [pmaAddTagScores.go]
  | @cons m m' _ _ hab _ ih =>
    have hm : ∀ id, (m.reverse.find? (fun e => e.1 = id)).map Prod.snd = (m'.reverse.find? (fun e => e.1 = id)).map Prod.snd :=
      lookupK_reverse_perm hab.1 hab.2
    intro sts sc
    cases sts <;> simp only [pmaAddTagScores.go, hm, ih]

section
variable {α : Type} [DecidableEq α]

/-- the same scorer, its cells listed in two orders -/
def ScorerCellEq (sc sc' : PmaScorer α) : Prop :=
  sc.pats = sc'.pats ∧ sc.weights = sc'.weights ∧ OptRel TableEq sc.tagWeight sc'.tagWeight

omit [DecidableEq α] in
theorem pmaAddTagScores_cell {sc sc' : PmaScorer α} (h : ScorerCellEq sc sc') (tid pos : Nat) (states : List (Option Nat))
    (scores : List Int) : pmaAddTagScores sc tid pos states scores = pmaAddTagScores sc' tid pos states scores := by
  unfold pmaAddTagScores
  rcases h.2.2.inv with ⟨h₁, h₂⟩ | ⟨tw, tw', h₁, h₂, ht⟩
  · rw [h₁, h₂]
  · rw [h₁, h₂]
    simp only
    rcases (ListRel.getElemOpt ht tid).inv with ⟨g₁, g₂⟩ | ⟨row, row', g₁, g₂, hrow⟩
    · rw [g₁, g₂]
    · rw [g₁, g₂]
      simp only
      split
      · rfl
      · exact tagGo_cell hrow _ _

theorem pmaAddScores_cell {sc sc' : PmaScorer α} (h : ScorerCellEq sc sc') (seq : List α) (buf : List Int)
    (states : List (Option Nat)) : pmaAddScores sc seq buf states = pmaAddScores sc' seq buf states := by
  obtain ⟨hp, hw, ht⟩ := h
  have hsome : sc.tagWeight.isSome = sc'.tagWeight.isSome := by
    rcases ht.inv with ⟨h₁, h₂⟩ | ⟨_, _, h₁, h₂, _⟩ <;> rw [h₁, h₂] <;> rfl
  have hgo : ∀ (ms : List (Nat × Nat)) (buf : List Int) (st : List (Option Nat)),
      pmaAddScores.go sc ms buf st = pmaAddScores.go sc' ms buf st := by
    intro ms
    induction ms with
    | nil => intro buf st; simp only [pmaAddScores.go]
    | cons x r ih =>
      intro buf st
      obtain ⟨e, id⟩ := x
      simp only [pmaAddScores.go, hw, hsome, ih]
  unfold pmaAddScores
  simp only [hp, hsome, hgo]

end

/-- the same token map (`tag_predictor`), listed in any way: every token looks up the same entry -/
def SameLookup (l l' : List (List Char × Nat × TagPredictor)) : Prop := ∀ k, lookupLast k l = lookupLast k l'

/-- the character phase of `tagToken` as a function of the scorer alone (`tagCharPhase p` is `charTagOf p.charScorer`); likewise
`typeTagOf` -/
def charTagOf (cs : Option (PmaScorer Char)) (tid i : Nat) (st : List (Option Nat)) (sc : List Int) : Res (List Int) :=
  match cs with
  | some sc' => pmaAddTagScores sc' tid i st sc
  | none => .ok sc

def typeTagOf (ts : Option TypeScorer) (tid i : Nat) (st : List (Option Nat)) (sc : List Int) : Res (List Int) :=
  match ts with
  | some ts => typeAddTagScores ts tid i st sc
  | none => .ok sc

/-- `tagToken` with the two scorer calls and `n_tags` as parameters -/
def tagTokenF (cf tf : Nat → Nat → List (Option Nat) → List Int → Res (List Int)) (nTags : Nat)
    (look : List Char → Option (Nat × TagPredictor)) (s : Sentence) (st i : Nat) : Res Sentence :=
  match s.substring st (i + 1) with
  | .ok token =>
    match look token with
    | none => .ok s
    | some (tid, tp) =>
      let scores0 := List.replicate tp.bias.len (0 : Int)
      match tp.bias.addScores scores0 with
      | .ok sc1 =>
        match cf tid i s.cstates sc1 with
        | .ok sc2 =>
          match tf tid i s.tstates sc2 with
          | .ok sc3 =>
            if (i + 1) * nTags ≤ s.tags.length then
              match tp.predict sc3 tp.tags 0 ((s.tags.drop (i * nTags)).take nTags) with
              | .ok slots =>
                let tags := s.tags.take (i * nTags) ++ slots ++ s.tags.drop ((i + 1) * nTags)
                let ts := if s.tagScores.isEmpty then s.tagScores
                          else s.tagScores.set i (some (tp.tags, sc3))
                .ok { s with tags := tags, tagScores := ts }
              | .err e => .err e
              | .panic q => .panic q
              | .ub q => .ub q
            else .panic "sentence.tags[i * n_tags..(i + 1) * n_tags]"
          | .err e => .err e
          | .panic q => .panic q
          | .ub q => .ub q
        | .err e => .err e
        | .panic q => .panic q
        | .ub q => .ub q
      | .err e => .err e
      | .panic q => .panic q
      | .ub q => .ub q
  | .err e => .err e
  | .panic q => .panic q
  | .ub q => .ub q

theorem tagToken_eq_F (p : Predictor) (tpm : List (List Char × Nat × TagPredictor)) (s : Sentence) (st i : Nat) :
    tagToken p tpm s st i
      = tagTokenF (charTagOf p.charScorer) (typeTagOf p.typeScorer) p.nTags (fun k => lookupLast k tpm) s st i := rfl

/-- `predict_tags` and `predict` cannot tell `p` and `p'` apart: they read a predictor only through the scorer calls
`charTagOf`, `typeTagOf`, `C01L.charPhase`, `C01L.typePhase`, the bias, the token lookups, `n_tags` and the flag -/
structure PredCellEq (p p' : Predictor) : Prop where
  charTag : charTagOf p.charScorer = charTagOf p'.charScorer
  typeTag : typeTagOf p.typeScorer = typeTagOf p'.typeScorer
  char : C01L.charPhase p.charScorer = C01L.charPhase p'.charScorer
  type : C01L.typePhase p.typeScorer = C01L.typePhase p'.typeScorer
  bias : p.bias = p'.bias
  tagPredictor : OptRel SameLookup p.tagPredictor p'.tagPredictor
  nTags : p.nTags = p'.nTags
  store : p.storeTagScores = p'.storeTagScores

section
variable {p p' : Predictor} (h : PredCellEq p p') {tpm tpm' : List (List Char × Nat × TagPredictor)} (ht : SameLookup tpm tpm')
include h ht

theorem tagToken_cell (s : Sentence) (st i : Nat) : tagToken p tpm s st i = tagToken p' tpm' s st i := by
  have : (fun k => lookupLast k tpm) = fun k => lookupLast k tpm' := funext ht
  rw [tagToken_eq_F, tagToken_eq_F, h.charTag, h.typeTag, h.nTags, this]

theorem predictTags_go_cell (bs : List B) : ∀ (i : Nat) (rs : Option Nat) (s : Sentence),
      Predictor.predictTags.go p tpm bs i rs s = Predictor.predictTags.go p' tpm' bs i rs s := by
  induction bs with
  | nil => intro i rs s; simp only [Predictor.predictTags.go]
  | cons b r ih =>
    intro i rs s
    cases b with
    | U => simp only [Predictor.predictTags.go, ih]
    | N => simp only [Predictor.predictTags.go, ih]
    | W => cases rs <;> simp only [Predictor.predictTags.go, tagToken_cell h ht, ih]

end

theorem predictTags_cell {p p' : Predictor} (h : PredCellEq p p') (s : Sentence) : p.predictTags s = p'.predictTags s := by
  unfold Predictor.predictTags
  rcases h.tagPredictor.inv with ⟨h₁, h₂⟩ | ⟨tpm, tpm', h₁, h₂, ht⟩
  · rw [h₁, h₂]
  · rw [h₁, h₂]
    simp only [h.store, h.nTags, predictTags_go_cell h ht, tagToken_cell h ht]

theorem predict_cell {p p' : Predictor} (h : PredCellEq p p') (pid : Nat) (s : Sentence) : p.predict pid s = p'.predict pid s := by
  rw [C01L.predict_eq, C01L.predict_eq, h.char, h.bias]
  unfold C01L.predictK
  rw [h.type]

theorem lookupLast_eq_lookupK {β : Type} (k : List Char) : ∀ (l : List (List Char × β)), lookupLast k l = lookupK l.reverse k
  | [] => rfl
  | (k', v) :: r => by
    rw [lookupLast, List.reverse_cons, lookupK_append, ← lookupLast_eq_lookupK k r, lookupK_cons, lookupK_nil]
    cases lookupLast k r <;> rfl

theorem lookupLast_perm {β : Type} {l l' : List (List Char × β)} (p : l.Perm l') (hnd : (l.map Prod.fst).Nodup)
    (k : List Char) : lookupLast k l = lookupLast k l' := by
  rw [lookupLast_eq_lookupK, lookupLast_eq_lookupK, lookupK_reverse_perm p hnd]

theorem sameLookup_of_perm {l l' : List (List Char × Nat × TagPredictor)} (p : l.Perm l') (hnd : (l.map Prod.fst).Nodup) :
    SameLookup l l' := fun k => lookupLast_perm p hnd k

theorem sameLookup_refl (l : List (List Char × Nat × TagPredictor)) : SameLookup l l := fun _ => rfl

/-- no cell of the table lists a pattern id twice -/
def CellsNodup (tw : TW) : Prop := ∀ row ∈ tw, ∀ c ∈ row, (c.map Prod.fst).Nodup

def ScorerCellsNodup {α : Type} (sc : PmaScorer α) : Prop := ∀ tw, sc.tagWeight = some tw → CellsNodup tw

section
variable {α : Type}

theorem chunks_ids (cfg : Cfg) (t r : Nat) (es : List (List α × PWT)) : ∀ id0 : Nat,
    (∀ e ∈ es, (e.2.tagInfo.map Prod.fst).Nodup) →
    ((chunks cfg t r es id0).map Prod.fst).Sublist (List.range' id0 es.length) := by
  induction es with
  | nil => exact fun _ _ => List.Sublist.slnil
  | cons e es ih =>
    intro id0 hnd
    have ih := ih (id0 + 1) (fun x hx => hnd x (List.mem_cons_of_mem _ hx))
    have hch : chunkOf cfg t r e.2.tagInfo id0
        = ((lookupK e.2.tagInfo (t, r)).map fun v => (id0, WV.ofList cfg v)).toList := by
      unfold chunkOf
      rw [filter_key _ (hnd e List.mem_cons_self)]
      cases lookupK e.2.tagInfo (t, r) <;> rfl
    rw [chunks, hch, List.length_cons, List.range'_succ]
    cases lookupK e.2.tagInfo (t, r) with
    | none => exact ih.cons _
    | some v => exact ih.cons_cons _

variable [DecidableEq α]

theorem TagShaped.cellsNodup {σ : Type} {cfg : Cfg} {wrap : PmaScorer α → σ} {rG : (PWT → PWT → PWT) → (PWT → PWT) → Res σ}
    (h : TagShaped cfg wrap rG) (hw : ∀ a b, wrap a = wrap b → a = b) {sc : PmaScorer α}
    (hsc : rG PWT.add id = .ok (wrap sc)) : ScorerCellsNodup sc := by
  rcases h with ⟨w, n, es, hes, h⟩ | ⟨r, h, hr⟩
  · rw [h] at hsc
    obtain ⟨sc', h', e⟩ := Res.map_eq_ok hsc
    cases hw _ _ e
    have hrel := mergeEntries_rel PWT.equiv PWT.add PWT.add (hadd_of_addLike addLike_add) PWT.empty PWT.empty equiv_empty
      (addAll_sim addLike_add es hes)
    unfold buildBoundaryTagG at h'
    simp only [id_eq, Prod.eta, List.map_id'] at h'
    obtain ⟨tw, hf, h'⟩ := Res.bind_eq_ok h'
    split at h'
    · cases h'
      intro tw' htw' row hrow c hc
      cases htw'
      obtain ⟨_, _, h3⟩ := fill_spec cfg _ 0 _ tw hf
      obtain ⟨t, ht, rfl⟩ := List.getElem_of_mem hrow
      obtain ⟨r, hr, rfl⟩ := List.getElem_of_mem hc
      have hcell : cell tw t r = tw[t][r] := by
        simp only [cell, List.getElem?_eq_getElem, ht, hr, Option.getD_some]
      rw [← hcell, h3, cell_replicate, List.nil_append]
      exact (chunks_ids cfg t r _ 0 (hrel.forall_left fun _ _ hab => hab.2.2.2)).nodup (List.nodup_range' 1)
    · cases h'
  · intro tw htw
    rw [hr sc ((h PWT.add id).symm.trans hsc)] at htw
    cases htw

end

/-- tables of the same shape whose cells are listed in another order (no hypothesis on the ids) -/
abbrev TablePerm (tw tw' : TW) : Prop := ListRel (ListRel List.Perm) tw tw'

def ScorerCellPerm {α : Type} (sc sc' : PmaScorer α) : Prop :=
  sc.pats = sc'.pats ∧ sc.weights = sc'.weights ∧ OptRel TablePerm sc.tagWeight sc'.tagWeight

def TypeScorerCellPerm : TypeScorer → TypeScorer → Prop
  | .pma sc, .pma sc' => ScorerCellPerm sc sc'
  | .cache ng w, .cache ng' w' => ng = ng' ∧ w = w'
  | _, _ => False

/-- `p'` is `p` with the entries of every cell `tag_weight[token_id][rel_position]` listed in another order, and with its token
map `tag_predictor` listed in any way that preserves the lookups -/
structure PredCellPerm (p p' : Predictor) : Prop where
  char : OptRel ScorerCellPerm p.charScorer p'.charScorer
  type : OptRel TypeScorerCellPerm p.typeScorer p'.typeScorer
  bias : p.bias = p'.bias
  tagPredictor : OptRel SameLookup p.tagPredictor p'.tagPredictor
  nTags : p.nTags = p'.nTags
  store : p.storeTagScores = p'.storeTagScores

theorem scorerCellEq_of_perm {α : Type} {sc sc' : PmaScorer α} (hnd : ScorerCellsNodup sc) (h : ScorerCellPerm sc sc') :
    ScorerCellEq sc sc' :=
  ⟨h.1, h.2.1, h.2.2.imp_of (fun _ _ hn ht => ht.imp_of_mem (fun _ _ hr hrow =>
    hrow.imp_of_mem (fun _ _ hc hcd => ⟨hcd, hc⟩) hr) hn) hnd⟩

theorem scorer_calls_of_perm {cs cs' : Option (PmaScorer Char)} (h : OptRel ScorerCellPerm cs cs')
    (hnd : ∀ sc, cs = some sc → ScorerCellsNodup sc) : charTagOf cs = charTagOf cs' ∧ C01L.charPhase cs = C01L.charPhase cs' := by
  obtain ⟨rfl, rfl⟩ | ⟨a, b, rfl, rfl, hab⟩ := h.inv
  · exact ⟨rfl, rfl⟩
  · have hab := scorerCellEq_of_perm (hnd a rfl) hab
    constructor
    · funext tid i st sc
      exact pmaAddTagScores_cell hab tid i st sc
    · funext text cstates buf0
      exact pmaAddScores_cell hab _ _ _

theorem typeScorer_calls_of_perm {ts ts' : Option TypeScorer} (h : OptRel TypeScorerCellPerm ts ts')
    (hnd : ∀ sc, ts = some (.pma sc) → ScorerCellsNodup sc) : typeTagOf ts = typeTagOf ts' ∧ C01L.typePhase ts = C01L.typePhase ts' := by
  obtain ⟨rfl, rfl⟩ | ⟨a, b, rfl, rfl, hab⟩ := h.inv
  · exact ⟨rfl, rfl⟩
  · cases a <;> cases b
    · have hab := scorerCellEq_of_perm (hnd _ rfl) hab
      constructor
      · funext tid i st sc
        exact pmaAddTagScores_cell hab tid i st sc
      · funext types nB tstates buf1
        exact pmaAddScores_cell hab _ _ _
    · exact hab.elim
    · exact hab.elim
    · obtain ⟨rfl, rfl⟩ := hab
      exact ⟨rfl, rfl⟩

theorem predCellEq_of_perm (cfg : Cfg) (m : WModel) (pt : Bool) (p p' : Predictor) (hp : Predictor.new cfg m pt = .ok p)
    (h : PredCellPerm p p') : PredCellEq p p' := by
  obtain ⟨_, hc, ht, _⟩ := C01L.new_inv cfg m pt p hp
  rw [← charScorerNewG_id] at hc
  rw [← typeScorerNewG_id] at ht
  obtain ⟨c₁, c₂⟩ := scorer_calls_of_perm h.char fun sc hsc =>
    (charScorerNewG_shaped cfg m _).cellsNodup (fun _ _ => Option.some.inj) (hc.trans (congrArg Res.ok hsc))
  obtain ⟨t₁, t₂⟩ := typeScorer_calls_of_perm h.type fun sc hsc =>
    (typeScorerNewG_shaped cfg m _).cellsNodup (fun _ _ e => TypeScorer.pma.inj (Option.some.inj e))
      (ht.trans (congrArg Res.ok hsc))
  exact ⟨c₁, t₁, c₂, t₂, h.bias, h.tagPredictor, h.nTags, h.store⟩

end V.C06L
