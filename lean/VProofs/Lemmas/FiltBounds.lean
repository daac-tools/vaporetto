import VModel.Filters
import VProofs.C05
/-! Helper lemmas for C15: the three boundary filters (`KyteaWsConstFilter`, `SplitLinebreaksFilter`,
`ConcatGraphemeClustersFilter`) rewrite the boundary list position by position: each is `List.mapIdx` of a rule that
looks at the position and the old label only.  Idempotence, commutation and "no unknown label appears" are facts
about the rules. -/
namespace V

/-- character positions at which a grapheme cluster ends: the running sums of the cluster lengths -/
def clusterEdges : List Nat → Nat → List Nat
  | [], _ => []
  | l :: r, start => (start + l) :: clusterEdges r (start + l)

namespace C15L

theorem getElem?_mapIdx_getD (g : Nat → B → B) (l : List B) {i : Nat} (h : i < l.length) :
    (l.mapIdx g)[i]? = some (g i (l.getD i B.U)) := by
  rw [List.getElem?_mapIdx, List.getD_eq_getElem?_getD, List.getElem?_eq_getElem h]
  rfl

theorem mapIdx_idem {g : Nat → B → B} (hg : ∀ i x, g i (g i x) = g i x) (l : List B) :
    (l.mapIdx g).mapIdx g = l.mapIdx g := by
  rw [List.mapIdx_mapIdx]
  congr 1
  funext i x
  exact hg i x

theorem mapIdx_comm {g1 g2 : Nat → B → B} (hg : ∀ i x, g2 i (g1 i x) = g1 i (g2 i x)) (l : List B) :
    (l.mapIdx g1).mapIdx g2 = (l.mapIdx g2).mapIdx g1 := by
  rw [List.mapIdx_mapIdx, List.mapIdx_mapIdx]
  congr 1
  funext i x
  exact hg i x

theorem noU_mapIdx {g : Nat → B → B} (hg : ∀ i x, x ≠ B.U → g i x ≠ B.U) {l : List B} (h : ∀ b ∈ l, b ≠ B.U) :
    ∀ b ∈ l.mapIdx g, b ≠ B.U := by
  intro b hb
  obtain ⟨i, hi, rfl⟩ := List.mem_mapIdx.mp hb
  exact hg i _ (h _ (List.getElem_mem hi))

/-- `KyteaWsConstFilter`: no boundary between two characters of type `t` -/
def wsRule (t : Nat) (types : List Nat) (i : Nat) (x : B) : B :=
  if types[i]? = some t ∧ types[i + 1]? = some t then B.N else x

/-- `SplitLinebreaksFilter`: a boundary next to CR or LF -/
def lbRule (text : List Char) (i : Nat) (x : B) : B :=
  if (text[i]?.any isLinebreak) || (text[i + 1]?.any isLinebreak) then B.W else x

/-- boundary `i` lies inside one of the clusters of lengths `ls` laid out from character `start` on -/
def inside : List Nat → Nat → Nat → Prop
  | [], _, _ => False
  | l :: r, start, i => (start ≤ i ∧ i + 1 < start + l) ∨ inside r (start + l) i

instance : ∀ ls start i, Decidable (inside ls start i)
  | [], _, _ => isFalse id
  | l :: r, start, i => @instDecidableOr _ _ _ (instDecidableInside r (start + l) i)

/-- `ConcatGraphemeClustersFilter`: no boundary inside a cluster -/
def grRule (ls : List Nat) (i : Nat) (x : B) : B := if inside ls 0 i then B.N else x

theorem ite_idem (p : Prop) [Decidable p] (v x : B) : (if p then v else if p then v else x) = if p then v else x := by
  split <;> rfl

theorem clear_clear_comm (p q : Prop) [Decidable p] [Decidable q] (x : B) :
    (if q then B.N else (if p then B.N else x)) = (if p then B.N else (if q then B.N else x)) := by
  by_cases hp : p <;> by_cases hq : q <;> simp only [if_pos, if_neg, hp, hq, not_false_eq_true]

theorem ite_ne_U (p : Prop) [Decidable p] {v x : B} (hv : v ≠ B.U) (hx : x ≠ B.U) : (if p then v else x) ≠ B.U := by
  split
  · exact hv
  · exact hx

/-- a walk over the adjacent pairs of `xs`, one label per pair, that sets the label to `v` where `c` holds of the pair
(`c` is given on optional elements so that the rule can be written with `xs[i]?`) -/
theorem pairWalk_eq {α : Type} (go : List α → List B → Res (List B)) (c : Option α → Option α → Prop)
    [∀ x y, Decidable (c x y)] (v : B) (h1 : ∀ a, go [a] [] = .ok [])
    (h2 : ∀ a b r x xs, go (a :: b :: r) (x :: xs) =
      (go (b :: r) xs).map ((if c (some a) (some b) then v else x) :: ·)) :
    ∀ (xs : List α) (bs : List B), bs.length + 1 = xs.length →
      go xs bs = .ok (bs.mapIdx fun i x => if c xs[i]? xs[i + 1]? then v else x) := by
  intro xs
  induction xs with
  | nil => intro bs h; cases h
  | cons a r ih =>
    intro bs h
    cases r with
    | nil =>
      cases bs with
      | nil => exact h1 a
      | cons x xs => simp at h
    | cons b r' =>
      cases bs with
      | nil => simp at h
      | cons x xs' =>
        rw [h2, ih xs' (by simpa using h), List.mapIdx_cons]
        rfl

theorem wsconst_eq (t : Nat) (s : Sentence) (hi : Inv s) :
    filterWsConst t s = .ok { s with bounds := s.bounds.mapIdx (wsRule t s.types) } := by
  have h : s.bounds.length + 1 = s.types.length := by rw [hi.types_eq, typesOf_length]; exact hi.bounds_len
  unfold filterWsConst
  rw [if_neg (by omega), pairWalk_eq (filterWsConst.go t) (fun x y => x = some t ∧ y = some t) B.N (fun _ => rfl)
    (fun a b r x xs => by
      simp only [filterWsConst.go, Option.some.injEq]
      cases filterWsConst.go t (b :: r) xs <;> rfl) _ _ h]
  rfl

theorem linebreaks_eq (s : Sentence) (hi : Inv s) :
    filterLinebreaks s = .ok { s with bounds := s.bounds.mapIdx (lbRule s.text) } := by
  have h := hi.bounds_len
  unfold filterLinebreaks
  split
  · next he => exact absurd he hi.text_ne
  · rw [pairWalk_eq filterLinebreaks.go (fun x y => (x.any isLinebreak || y.any isLinebreak) = true) B.W (fun _ => rfl)
      (fun a b r x xs => by
        simp only [filterLinebreaks.go, Option.any_some]
        cases filterLinebreaks.go (b :: r) xs <;> rfl) _ _ h]
    rfl

theorem fillN_eq (bs : List B) (a b : Nat) (h1 : a ≤ b) (h2 : b ≤ bs.length) :
    fillN bs a b = .ok (bs.mapIdx fun i x => if a ≤ i ∧ i < b then B.N else x) := by
  unfold fillN
  rw [if_pos ⟨h1, h2⟩]
  congr 1
  symm
  rw [List.mapIdx_eq_iff]
  intro i
  have hl : (bs.take a).length = a := by rw [List.length_take]; exact Nat.min_eq_left (Nat.le_trans h1 h2)
  rw [List.append_assoc, List.getElem?_append, hl, List.getElem?_take, List.getElem?_append, List.length_replicate,
    List.getElem?_replicate, List.getElem?_drop]
  by_cases c1 : i < a
  · have c : ¬ (a ≤ i ∧ i < b) := fun h => Nat.not_le_of_gt c1 h.1
    simp only [if_pos c1, if_neg c]
    cases bs[i]? <;> rfl
  · have ha : a ≤ i := Nat.le_of_not_lt c1
    by_cases c2 : i < b
    · simp only [if_neg c1, if_pos (Nat.sub_lt_sub_right ha c2), if_pos (And.intro ha c2),
        List.getElem?_eq_getElem (Nat.lt_of_lt_of_le c2 h2), Option.map_some]
    · have hb : b ≤ i := Nat.le_of_not_lt c2
      have e : b + (i - a - (b - a)) = i := by omega
      simp only [if_neg c1, if_neg (Nat.not_lt.mpr (Nat.sub_le_sub_right hb a)), if_neg (fun h : a ≤ i ∧ i < b => c2 h.2), e]
      cases bs[i]? <;> rfl

/-- the loop of `ConcatGraphemeClustersFilter` from character position `start` on, for ANY cluster lengths: whenever it
returns, it has cleared exactly the boundaries inside the clusters -/
theorem grGo_eq (ls : List Nat) : ∀ (start : Nat) (bs out : List B), filterGraphemes.go ls start bs = .ok out →
    out = bs.mapIdx fun i x => if inside ls start i then B.N else x := by
  induction ls with
  | nil =>
    intro start bs out h
    injection h with h
    rw [← h]
    symm
    rw [List.mapIdx_eq_iff]
    intro i
    cases bs[i]? <;> rfl
  | cons l r ih =>
    intro start bs out h
    unfold filterGraphemes.go at h
    split at h
    · cases h
    · by_cases hc : start ≤ start + l - 1 ∧ start + l - 1 ≤ bs.length
      · rw [fillN_eq bs _ _ hc.1 hc.2] at h
        rw [ih _ _ _ h, List.mapIdx_mapIdx]
        congr 1
        funext i x
        by_cases c1 : start ≤ i ∧ i + 1 < start + l
        · have c2 : start ≤ i ∧ i < start + l - 1 := by omega
          simp only [Function.comp, inside, c1, c2, and_self, true_or, if_true]
          split <;> rfl
        · have c2 : ¬ (start ≤ i ∧ i < start + l - 1) := by omega
          simp only [Function.comp, inside, c1, c2, false_or, if_false]
      · unfold fillN at h
        rw [if_neg hc] at h
        cases h

theorem inside_ge : ∀ (ls : List Nat) (start i : Nat), inside ls start i → start ≤ i
  | [], _, _, h => h.elim
  | l :: r, start, i, h => by
    rcases h with h | h
    · exact h.1
    · have := inside_ge r _ _ h
      omega

theorem clusterEdges_ge : ∀ (ls : List Nat) (start e : Nat), e ∈ clusterEdges ls start → start ≤ e
  | [], _, _, h => by cases h
  | l :: r, start, e, h => by
    rcases List.mem_cons.mp h with h | h
    · omega
    · have := clusterEdges_ge r _ _ h
      omega

theorem inside_iff (ls : List Nat) (hpos : ∀ l ∈ ls, 1 ≤ l) : ∀ (start i : Nat), start ≤ i → i + 1 < start + ls.sum →
    (inside ls start i ↔ i + 1 ∉ clusterEdges ls start) := by
  induction ls with
  | nil => intro start i h1 h2; simp only [List.sum_nil] at h2; omega
  | cons l r ih =>
    intro start i h1 h2
    rw [List.sum_cons] at h2
    simp only [inside, clusterEdges, List.mem_cons, not_or]
    by_cases c : i + 1 < start + l
    · refine ⟨fun _ => ⟨by omega, fun hm => ?_⟩, fun _ => Or.inl ⟨h1, c⟩⟩
      have := clusterEdges_ge r _ _ hm
      omega
    · by_cases c' : i + 1 = start + l
      · refine ⟨fun h => ?_, fun h => absurd c' h.1⟩
        rcases h with h | h
        · omega
        · have := inside_ge r _ _ h
          omega
      · have := ih (fun x hx => hpos x (List.mem_cons_of_mem _ hx)) (start + l) i (by omega) (by omega)
        rw [← this]
        exact ⟨fun h => ⟨c', h.resolve_left (fun h => c h.2)⟩, fun h => Or.inr h.2⟩

theorem grGo_ok (ls : List Nat) (hpos : ∀ l ∈ ls, 1 ≤ l) : ∀ (start : Nat) (bs : List B),
    start + ls.sum = bs.length + 1 → ∃ out, filterGraphemes.go ls start bs = .ok out := by
  induction ls with
  | nil => exact fun _ bs _ => ⟨bs, rfl⟩
  | cons l r ih =>
    intro start bs hs
    have hl : 1 ≤ l := hpos l List.mem_cons_self
    rw [List.sum_cons] at hs
    unfold filterGraphemes.go
    rw [if_neg (by omega), fillN_eq bs _ _ (by omega) (by omega)]
    exact ih (fun x hx => hpos x (List.mem_cons_of_mem _ hx)) _ _ (by rw [List.length_mapIdx]; omega)

theorem graphemes_frame (ls : List Nat) (s s' : Sentence) (h : filterGraphemes ls s = .ok s') :
    s' = { s with bounds := s.bounds.mapIdx (grRule ls) } := by
  unfold filterGraphemes at h
  cases hg : filterGraphemes.go ls 0 s.bounds with
  | ok out =>
    rw [hg] at h
    injection h with h
    rw [← h, grGo_eq ls 0 _ _ hg]
    rfl
  | err e => rw [hg] at h; cases h
  | panic q => rw [hg] at h; cases h
  | ub q => rw [hg] at h; cases h

theorem graphemes_eq (ls : List Nat) (s : Sentence) (hi : Inv s) (hpos : ∀ l ∈ ls, 1 ≤ l)
    (hsum : ls.sum = s.text.length) :
    filterGraphemes ls s = .ok { s with bounds := s.bounds.mapIdx (grRule ls) } := by
  obtain ⟨out, hg⟩ := grGo_ok ls hpos 0 s.bounds (by rw [hsum, Nat.zero_add]; exact hi.bounds_len.symm)
  have hf : filterGraphemes ls s = .ok { s with bounds := out } := by
    unfold filterGraphemes
    rw [hg]
  rw [hf, graphemes_frame ls s _ hf]

theorem invC_bounds {s : Sentence} (h : InvC s) {bs : List B} (hl : bs.length = s.bounds.length) :
    InvC { s with bounds := bs } := by
  obtain ⟨h1, h2, h3, h4, h5⟩ := h
  refine ⟨h1, h2, ?_, h4, ?_⟩
  · show bs.length + 1 = s.text.length
    rw [hl]; exact h3
  · show s.scores = [] ∨ s.padding + bs.length ≤ s.scores.length
    rw [hl]; exact h5

theorem invC_tags {s : Sentence} (h : InvC s) {ts : List Tag} (hl : ts.length = s.tags.length) :
    InvC { s with tags := ts } := by
  obtain ⟨h1, h2, h3, h4, h5⟩ := h
  refine ⟨h1, h2, h3, ?_, h5⟩
  show ts.length = s.text.length * s.nTags
  rw [hl]; exact h4

theorem _root_.V.Inv.bounds {s : Sentence} (h : Inv s) {bs : List B} (hl : bs.length = s.bounds.length) :
    Inv { s with bounds := bs } := Inv.ofC (invC_bounds h.toC hl)

theorem _root_.V.Inv.mapIdx {s : Sentence} (h : Inv s) (g : Nat → B → B) : Inv { s with bounds := s.bounds.mapIdx g } :=
  h.bounds List.length_mapIdx

end C15L
end V
