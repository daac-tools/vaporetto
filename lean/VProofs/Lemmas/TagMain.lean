import VModel.Spec
import VProofs.Lemmas.TagToken
import VProofs.Lemmas.Iter
/-!
# `predict_tags` as a whole: the loop over the boundary labels visits exactly `specTokens`, and every token gets its row and
its score vector (for C06)
-/
namespace V

/-- all tag rows, one per character: the row of the unknown-free token ending at that character, else absent tags -/
def specAllTags (m : WModel) (text : List Char) (bs : List B) : List Tag :=
  (List.range text.length).flatMap fun i =>
    match (specTokens bs).find? (fun se => se.2 = i + 1) with
    | some (st, en) => specTokenTags m text st en
    | none => List.replicate (specNTags m) none

namespace C06L
open V.C01L

/-- the token block applied to a list of tokens `(start, end)` in turn -/
def runToks (f : Sentence → Nat → Nat → Res Sentence) : List (Nat × Nat) → Sentence → Res Sentence
  | [], s => .ok s
  | t :: r, s =>
    match f s t.1 (t.2 - 1) with
    | .ok s' => runToks f r s'
    | .err e => .err e
    | .panic q => .panic q
    | .ub q => .ub q

/-- the code after the loop: the last token -/
def finishGo (p : Predictor) (tpm : List (List Char × Nat × TagPredictor)) (n : Nat) :
    Res (Sentence × Option Nat) → Res Sentence
  | .ok (s2, some st) => if n = 0 then .panic "sentence.len() - 1" else tagToken p tpm s2 st (n - 1)
  | .ok (s2, none) => .ok s2
  | .err e => .err e
  | .panic q => .panic q
  | .ub q => .ub q

theorem predictTags_eq (p : Predictor) (tpm : List (List Char × Nat × TagPredictor)) (s : Sentence)
    (h : p.tagPredictor = some tpm) (hn : p.nTags ≠ 0) :
    p.predictTags s = finishGo p tpm s.types.length
      (Predictor.predictTags.go p tpm s.bounds 0 (some 0)
        { s with nTags := p.nTags, tags := List.replicate (s.types.length * p.nTags) none,
                 tagScores := if p.storeTagScores then List.replicate s.types.length none else [] }) := by
  unfold Predictor.predictTags
  rw [h]
  simp only [hn, if_false]
  rfl

theorem res_match_id (r : Res Sentence) :
    (match r with
      | .ok s' => Res.ok s'
      | .err e => .err e
      | .panic q => .panic q
      | .ub q => .ub q) = r := by
  cases r <;> rfl

theorem go_runToks (p : Predictor) (tpm : List (List Char × Nat × TagPredictor)) (n : Nat) :
    ∀ (bs' : List B) (i : Nat) (rs : Option Nat) (s : Sentence) (start : Nat) (dirty : Bool),
      rs = (if dirty = true then none else some start) → n = i + bs'.length + 1 →
      finishGo p tpm n (Predictor.predictTags.go p tpm bs' i rs s)
        = runToks (tagToken p tpm) (specSeg bs' start i dirty) s := by
  intro bs'
  induction bs' with
  | nil =>
    intro i rs s start dirty hrs hn
    rw [Predictor.predictTags.go]
    cases dirty with
    | true =>
      simp only [if_true] at hrs
      subst hrs
      rfl
    | false =>
      simp only [Bool.false_eq_true, if_false] at hrs
      subst hrs
      simp only [List.length_nil, Nat.add_zero] at hn
      subst hn
      simp only [finishGo, specSeg, Bool.false_eq_true, if_false, runToks, Nat.add_sub_cancel]
      rw [if_neg (by omega), res_match_id]
  | cons b r ih =>
    intro i rs s start dirty hrs hn
    have hn' : n = i + 1 + r.length + 1 := by rw [hn, List.length_cons]; omega
    cases b with
    | U =>
      rw [Predictor.predictTags.go]
      simp only [specSeg]
      exact ih (i + 1) none s start true rfl hn'
    | N =>
      rw [Predictor.predictTags.go]
      simp only [specSeg]
      exact ih (i + 1) rs s start dirty hrs hn'
    | W =>
      simp only [specSeg]
      cases dirty with
      | true =>
        simp only [if_true] at hrs
        subst hrs
        rw [Predictor.predictTags.go]
        simp only [if_true, List.nil_append]
        exact ih (i + 1) (some (i + 1)) s (i + 1) false rfl hn'
      | false =>
        simp only [Bool.false_eq_true, if_false] at hrs
        subst hrs
        rw [Predictor.predictTags.go]
        simp only [Bool.false_eq_true, if_false, List.singleton_append, runToks, Nat.add_sub_cancel]
        cases htt : tagToken p tpm s start i with
        | ok s' =>
          simp only
          exact ih (i + 1) (some (i + 1)) s' (i + 1) false rfl hn'
        | err e => rfl
        | panic q => rfl
        | ub q => rfl

theorem flatten_length_rows {β : Type} (k : Nat) (R : List (List β)) (hR : ∀ r ∈ R, r.length = k) :
    R.flatten.length = R.length * k := by
  induction R with
  | nil => simp
  | cons r R ih =>
    rw [List.flatten_cons, List.length_append, ih (fun x hx => hR x (List.mem_cons_of_mem _ hx)),
      hR r List.mem_cons_self, List.length_cons, Nat.succ_mul]
    omega

theorem flatten_row_get {β : Type} (k : Nat) (R : List (List β)) (hR : ∀ r ∈ R, r.length = k) :
    ∀ (i : Nat) (r : List β), R[i]? = some r → (R.flatten.drop (i * k)).take k = r := by
  induction R with
  | nil => intro i r h; simp at h
  | cons r0 R ih =>
    intro i r h
    have h0 : r0.length = k := hR r0 List.mem_cons_self
    cases i with
    | zero =>
      simp only [List.getElem?_cons_zero, Option.some.injEq] at h
      subst h
      rw [Nat.zero_mul, List.drop_zero, List.flatten_cons, List.take_left' h0]
    | succ i =>
      simp only [List.getElem?_cons_succ] at h
      rw [List.flatten_cons, Nat.succ_mul, Nat.add_comm (i * k) k, ← h0, List.drop_length_add_append, h0]
      exact ih (fun x hx => hR x (List.mem_cons_of_mem _ hx)) i r h

theorem flatten_row_set {β : Type} (k : Nat) (R : List (List β)) (hR : ∀ r ∈ R, r.length = k) (x : List β) :
    ∀ (i : Nat), i < R.length →
      R.flatten.take (i * k) ++ x ++ R.flatten.drop ((i + 1) * k) = (R.set i x).flatten := by
  induction R with
  | nil => intro i h; simp at h
  | cons r0 R ih =>
    intro i h
    have h0 : r0.length = k := hR r0 List.mem_cons_self
    cases i with
    | zero =>
      rw [Nat.zero_mul, List.take_zero, List.nil_append, Nat.zero_add, Nat.one_mul, List.flatten_cons,
        List.drop_left' h0, List.set_cons_zero, List.flatten_cons]
    | succ i =>
      simp only [List.length_cons] at h
      have e1 : (i + 1) * k = r0.length + i * k := by rw [Nat.succ_mul, h0]; omega
      have e2 : (i + 1 + 1) * k = r0.length + (i + 1) * k := by rw [Nat.succ_mul (i + 1), h0]; omega
      rw [List.flatten_cons, e1, e2, List.take_length_add_append, List.drop_length_add_append,
        List.set_cons_succ, List.flatten_cons, ← ih (fun x hx => hR x (List.mem_cons_of_mem _ hx)) i (by omega)]
      simp only [List.append_assoc]

theorem foldl_set_length {β : Type} (toks : List (Nat × Nat)) (val : Nat × Nat → β) :
    ∀ (R0 : List β), (toks.foldl (fun R t => R.set (t.2 - 1) (val t)) R0).length = R0.length := by
  induction toks with
  | nil => intro R0; rfl
  | cons t ts ih => intro R0; rw [List.foldl_cons, ih, List.length_set]

theorem foldl_set_get {β : Type} (toks : List (Nat × Nat)) (val : Nat × Nat → β)
    (hnd : (toks.map fun t => t.2 - 1).Nodup) :
    ∀ (R0 : List β) (j : Nat),
      (toks.foldl (fun R t => R.set (t.2 - 1) (val t)) R0)[j]?
        = match toks.find? (fun t => decide (t.2 - 1 = j)) with
          | some t => if j < R0.length then some (val t) else none
          | none => R0[j]? := by
  induction toks with
  | nil => intro R0 j; rfl
  | cons t ts ih =>
    intro R0 j
    simp only [List.map_cons, List.nodup_cons] at hnd
    rw [List.foldl_cons, ih hnd.2, List.length_set]
    by_cases hk : t.2 - 1 = j
    · have hno : ts.find? (fun t => decide (t.2 - 1 = j)) = none := by
        apply List.find?_eq_none.mpr
        intro x hx
        simp only [decide_eq_true_eq]
        intro hxj
        exact hnd.1 (List.mem_map.mpr ⟨x, hx, by omega⟩)
      rw [hno, List.find?_cons_of_pos (by simpa using hk)]
      simp only
      rw [List.getElem?_set, if_pos hk, hk]
    · rw [List.find?_cons_of_neg (by simpa using hk)]
      cases ts.find? (fun t => decide (t.2 - 1 = j)) with
      | some x => rfl
      | none =>
        simp only
        rw [List.getElem?_set, if_neg hk]

theorem find?_key_self (toks : List (Nat × Nat)) (hnd : (toks.map fun t => t.2 - 1).Nodup) (t : Nat × Nat)
    (ht : t ∈ toks) : toks.find? (fun x => decide (x.2 - 1 = t.2 - 1)) = some t := by
  induction toks with
  | nil => cases ht
  | cons a r ih =>
    simp only [List.map_cons, List.nodup_cons] at hnd
    rcases List.mem_cons.mp ht with e | e
    · subst e
      rw [List.find?_cons_of_pos (by simp)]
    · have hne : ¬ a.2 - 1 = t.2 - 1 := by
        intro h
        exact hnd.1 (List.mem_map.mpr ⟨t, e, h.symm⟩)
      rw [List.find?_cons_of_neg (by simpa using hne)]
      exact ih hnd.2 e

theorem specSeg_ends (rest : List B) :
    ∀ (start pos : Nat) (dirty : Bool),
      (∀ se ∈ specSeg rest start pos dirty, pos < se.2) ∧
      (specSeg rest start pos dirty).Pairwise (fun a b => a.2 < b.2) := by
  induction rest with
  | nil =>
    intro start pos dirty
    cases dirty <;> simp [specSeg]
  | cons b r ih =>
    intro start pos dirty
    cases b with
    | N =>
      simp only [specSeg]
      obtain ⟨h1, h2⟩ := ih start (pos + 1) dirty
      exact ⟨fun se hse => by have := h1 se hse; omega, h2⟩
    | U =>
      simp only [specSeg]
      obtain ⟨h1, h2⟩ := ih start (pos + 1) true
      exact ⟨fun se hse => by have := h1 se hse; omega, h2⟩
    | W =>
      simp only [specSeg]
      obtain ⟨h1, h2⟩ := ih (pos + 1) (pos + 1) false
      cases dirty with
      | true =>
        simp only [if_true, List.nil_append]
        exact ⟨fun se hse => by have := h1 se hse; omega, h2⟩
      | false =>
        simp only [Bool.false_eq_true, if_false, List.singleton_append]
        refine ⟨?_, ?_⟩
        · intro se hse
          rcases List.mem_cons.mp hse with e | e
          · subst e; simp
          · have := h1 se e; omega
        · rw [List.pairwise_cons]
          exact ⟨fun se hse => by have := h1 se hse; simp only; omega, h2⟩

theorem specTokens_keys_nodup (bs : List B) : ((specTokens bs).map fun t => t.2 - 1).Nodup := by
  obtain ⟨h1, h2⟩ := specSeg_ends bs 0 0 false
  rw [List.nodup_iff_pairwise_ne, List.pairwise_map]
  unfold specTokens
  have h3 : (specSeg bs 0 0 false).Pairwise (fun a b => a.2 < b.2 ∧ 0 < a.2) := by
    rw [List.pairwise_iff_forall_sublist] at h2 ⊢
    intro a b hab
    refine ⟨h2 hab, ?_⟩
    have : a ∈ specSeg bs 0 0 false := by
      have := hab.subset (List.mem_cons_self (a := a) (l := [b]))
      exact this
    have := h1 a this
    omega
  exact h3.imp (fun {a b} h => by omega)

theorem specTokens_range (bs : List B) (se : Nat × Nat) (h : se ∈ specTokens bs) :
    se.1 < se.2 ∧ se.2 ≤ bs.length + 1 := by
  have := specSeg_range bs 0 0 false (Nat.le_refl _) se h
  omega


abbrev TSc := Option (List (List (List Char)) × List Int)

def noneRow (m : WModel) : List Tag := List.replicate (specNTags m) none

/-- what `tag_scores` holds for a token -/
def scoreVal (cfg : Cfg) (m : WModel) (text : List Char) (t : Nat × Nat) : TSc :=
  (tagModelOf m ((text.drop t.1).take (t.2 - t.1))).map fun tm => (tm.tags, scoreVec cfg tm text (t.2 - 1))

def rowVal (m : WModel) (text : List Char) (t : Nat × Nat) : List Tag := specTokenTags m text t.1 t.2

theorem tagModelOf_mem (m : WModel) (tok : List Char) (tm : TagModel) (h : tagModelOf m tok = some tm) :
    tm ∈ m.tagModels := by
  unfold tagModelOf at h
  exact List.mem_reverse.mp (List.mem_of_find?_eq_some h)

theorem rowVal_length (m : WModel) (text : List Char) (t : Nat × Nat) : (rowVal m text t).length = specNTags m := by
  unfold rowVal specTokenTags
  split
  · simp
  · rename_i tm h
    have := tags_le_nTags m tm (tagModelOf_mem m _ tm h)
    simp only [List.length_append, List.length_replicate, specPickTags_length]
    omega

theorem specAllTags_length (m : WModel) (text : List Char) (bs : List B) :
    (specAllTags m text bs).length = text.length * specNTags m := by
  unfold specAllTags
  rw [List.flatMap_def, flatten_length_rows (specNTags m), List.length_map, List.length_range]
  intro r hr
  obtain ⟨i, _, rfl⟩ := List.mem_map.mp hr
  split
  · next st en _ => exact rowVal_length m text (st, en)
  · exact List.length_replicate

theorem sent_upd_eq (s : Sentence) (a : List Tag) (b : List TSc) (ha : s.tags = a) (hb : s.tagScores = b) :
    s = { s with tags := a, tagScores := b } := by
  subst ha; subst hb; rfl

theorem set_self {β : Type} (l : List β) (i : Nat) (x : β) (h : l[i]? = some x) : l.set i x = l := by
  obtain ⟨hlt, rfl⟩ := List.getElem?_eq_some_iff.mp h
  exact List.set_getElem_self hlt

theorem runToks_spec (cfg : Cfg) (m : WModel) (p : Predictor) (hP : PredOK cfg m p) (hW : WFT m)
    (text : List Char) (store : Bool) (toks : List (Nat × Nat)) :
    (∀ t ∈ toks, t.1 < t.2 ∧ t.2 ≤ text.length) → (toks.map fun t => t.2 - 1).Nodup →
    ∀ (s : Sentence) (R : List (List Tag)) (TS : List TSc),
      StOK p text s → s.tags = R.flatten → R.length = text.length → (∀ r ∈ R, r.length = specNTags m) →
      (∀ t ∈ toks, R[t.2 - 1]? = some (noneRow m)) →
      s.tagScores = (if store = true then TS else []) → TS.length = text.length →
      (∀ t ∈ toks, TS[t.2 - 1]? = some none) →
      runToks (tagToken p (tpmOf cfg m)) toks s
        = .ok { s with
            tags := (toks.foldl (fun R t => R.set (t.2 - 1) (rowVal m text t)) R).flatten,
            tagScores := if store = true then toks.foldl (fun TS t => TS.set (t.2 - 1) (scoreVal cfg m text t)) TS
                         else [] } := by
  induction toks with
  | nil =>
    intro _ _ s R TS _ h1 _ _ _ h2 _ _
    simp only [runToks, List.foldl_nil]
    rw [← sent_upd_eq s _ _ h1 h2]
  | cons t ts ih =>
    intro hrange hnd s R TS hs hR hRl hRr hRp hT hTl hTp
    simp only [List.map_cons, List.nodup_cons] at hnd
    obtain ⟨ht1, ht2⟩ := hrange t List.mem_cons_self
    have hkey : ∀ t' ∈ ts, ¬ t.2 - 1 = t'.2 - 1 := by
      intro t' ht' e
      exact hnd.1 (List.mem_map.mpr ⟨t', ht', e.symm⟩)
    have hRi := hRp t List.mem_cons_self
    have hTi := hTp t List.mem_cons_self
    have hi1 : t.2 - 1 + 1 = t.2 := by omega
    have hstep : tagToken p (tpmOf cfg m) s t.1 (t.2 - 1)
        = .ok { s with tags := (R.set (t.2 - 1) (rowVal m text t)).flatten,
                       tagScores := if store = true then TS.set (t.2 - 1) (scoreVal cfg m text t) else [] } := by
      rw [tagToken_spec cfg m p hP hW text s hs t.1 (t.2 - 1) (by omega) (by omega)
        (by rw [hR, flatten_length_rows _ R hRr, hRl, hi1]; exact Nat.mul_le_mul_right _ ht2)
        (by rw [hR]; exact flatten_row_get _ R hRr _ _ hRi)]
      congr 1
      unfold tokStep rowVal scoreVal specTokenTags
      rw [hi1]
      cases hmo : tagModelOf m ((text.drop t.1).take (t.2 - t.1)) with
      | none =>
        simp only [Option.map_none]
        have hRi' : R[t.2 - 1]? = some (List.replicate (specNTags m) none) := hRi
        apply sent_upd_eq
        · rw [set_self R _ _ hRi', hR]
        · rw [hT, set_self TS _ _ hTi]
      | some tm =>
        simp only [Option.map_some]
        have hset : s.tags.take ((t.2 - 1) * specNTags m) ++ rowOf m tm text (t.2 - 1)
              ++ s.tags.drop (t.2 * specNTags m)
            = (R.set (t.2 - 1) (specPickTags tm.tags (specTagScores tm text (t.2 - 1)) ++
                List.replicate (specNTags m - (specPickTags tm.tags (specTagScores tm text (t.2 - 1))).length) none)).flatten := by
          rw [hR, specPickTags_length]
          have := flatten_row_set (specNTags m) R hRr (rowOf m tm text (t.2 - 1)) (t.2 - 1) (by omega)
          rw [hi1] at this
          exact this
        have hsc : (if s.tagScores.isEmpty = true then s.tagScores
              else s.tagScores.set (t.2 - 1) (some (tm.tags, scoreVec cfg tm text (t.2 - 1))))
            = (if store = true then TS.set (t.2 - 1) (some (tm.tags, scoreVec cfg tm text (t.2 - 1))) else []) := by
          rw [hT]
          cases store with
          | true =>
            simp only [if_true]
            have : TS.isEmpty = false := by
              cases TS with
              | nil => simp only [List.length_nil] at hTl; omega
              | cons _ _ => rfl
            rw [this]; rfl
          | false => rfl
        rw [hset, hsc]
    rw [runToks, hstep]
    simp only
    have hih := ih (fun t' ht' => hrange t' (List.mem_cons_of_mem _ ht')) hnd.2
      { s with tags := (R.set (t.2 - 1) (rowVal m text t)).flatten,
               tagScores := if store = true then TS.set (t.2 - 1) (scoreVal cfg m text t) else [] }
      (R.set (t.2 - 1) (rowVal m text t)) (TS.set (t.2 - 1) (scoreVal cfg m text t))
      ⟨hs.text_eq, hs.cst, hs.tst⟩ rfl (by rw [List.length_set]; exact hRl)
      (by
        intro r hr
        rcases List.mem_or_eq_of_mem_set hr with h | h
        · exact hRr r h
        · rw [h]; exact rowVal_length m text t)
      (by
        intro t' ht'
        rw [List.getElem?_set, if_neg (hkey t' ht')]
        exact hRp t' (List.mem_cons_of_mem _ ht'))
      rfl (by rw [List.length_set]; exact hTl)
      (by
        intro t' ht'
        rw [List.getElem?_set, if_neg (hkey t' ht')]
        exact hTp t' (List.mem_cons_of_mem _ ht'))
    rw [hih]
    rfl

def allScores (cfg : Cfg) (m : WModel) (text : List Char) (bs : List B) : List TSc :=
  (specTokens bs).foldl (fun TS t => TS.set (t.2 - 1) (scoreVal cfg m text t)) (List.replicate text.length none)

theorem find?_key_congr (toks : List (Nat × Nat)) (h : ∀ t ∈ toks, 0 < t.2) (j : Nat) :
    toks.find? (fun t => decide (t.2 - 1 = j)) = toks.find? (fun se => decide (se.2 = j + 1)) := by
  induction toks with
  | nil => rfl
  | cons a r ih =>
    have e : decide (a.2 - 1 = j) = decide (a.2 = j + 1) := by
      have ha := h a List.mem_cons_self
      exact decide_eq_decide.mpr ⟨fun _ => by omega, fun _ => by omega⟩
    rw [List.find?_cons, List.find?_cons, e, ih (fun t ht => h t (List.mem_cons_of_mem _ ht))]

theorem rows_eq_allTags (m : WModel) (text : List Char) (bs : List B) :
    ((specTokens bs).foldl (fun R t => R.set (t.2 - 1) (rowVal m text t))
      (List.replicate text.length (noneRow m))).flatten = specAllTags m text bs := by
  unfold specAllTags
  rw [List.flatMap_def]
  congr 1
  apply List.ext_getElem?
  intro j
  rw [foldl_set_get _ _ (specTokens_keys_nodup bs), List.length_replicate, List.getElem?_map,
    find?_key_congr _ (fun t ht => by have := specTokens_range bs t ht; omega) j]
  by_cases hj : j < text.length
  · rw [List.getElem?_range hj]
    simp only [Option.map_some]
    cases (specTokens bs).find? (fun se => decide (se.2 = j + 1)) with
    | none =>
      simp only
      rw [List.getElem?_replicate, if_pos hj]; rfl
    | some t =>
      obtain ⟨st, en⟩ := t
      simp only
      rw [if_pos hj]; rfl
  · have hr : (List.range text.length)[j]? = none := List.getElem?_eq_none (by simpa using hj)
    rw [hr]
    cases (specTokens bs).find? (fun se => decide (se.2 = j + 1)) with
    | none =>
      simp only
      rw [List.getElem?_replicate, if_neg hj]; rfl
    | some t =>
      simp only
      rw [if_neg hj]; rfl

theorem predictTags_spec (cfg : Cfg) (m : WModel) (p : Predictor) (hP : PredOK cfg m p) (hW : WFT m)
    (text : List Char) (s1 : Sentence) (hs : StOK p text s1)
    (htypes : s1.types.length = text.length) (bs : List B) (hbs : bs.length + 1 = text.length)
    (hn : 0 < specNTags m) (store : Bool) :
    ({ p with storeTagScores := store } : Predictor).predictTags { s1 with bounds := bs }
      = .ok { s1 with bounds := bs, nTags := specNTags m, tags := specAllTags m text bs,
                      tagScores := if store = true then allScores cfg m text bs else [] } := by
  have hP0 : PredOK cfg m { p with storeTagScores := store } := ⟨hP.tpm, hP.nTags, hP.cs, hP.ts⟩
  have hs0 : StOK { p with storeTagScores := store } text s1 := ⟨hs.text_eq, hs.cst, hs.tst⟩
  have hst0 : ({ p with storeTagScores := store } : Predictor).storeTagScores = store := rfl
  generalize ({ p with storeTagScores := store } : Predictor) = p' at hP0 hs0 hst0 ⊢
  rw [predictTags_eq _ (tpmOf cfg m) _ hP0.tpm (by rw [hP0.nTags]; omega)]
  rw [go_runToks _ _ _ bs 0 (some 0) _ 0 false rfl (by simp only [htypes]; omega)]
  have hrun := runToks_spec cfg m p' hP0 hW text store (specTokens bs)
    (fun t ht => by have := specTokens_range bs t ht; omega) (specTokens_keys_nodup bs)
    { s1 with bounds := bs, nTags := specNTags m, tags := List.replicate (text.length * specNTags m) none,
              tagScores := if store = true then List.replicate text.length none else [] }
    (List.replicate text.length (noneRow m)) (List.replicate text.length none)
    ⟨hs0.text_eq, hs0.cst, hs0.tst⟩
    (by unfold noneRow; rw [List.flatten_replicate_replicate])
    (List.length_replicate) (fun r hr => by rw [List.eq_of_mem_replicate hr]; simp [noneRow])
    (fun t ht => by
      have := specTokens_range bs t ht
      rw [List.getElem?_replicate, if_pos (by omega)])
    rfl (List.length_replicate)
    (fun t ht => by
      have := specTokens_range bs t ht
      rw [List.getElem?_replicate, if_pos (by omega)])
  have hty : ({ s1 with bounds := bs } : Sentence).types.length = text.length := htypes
  rw [hP0.nTags, hst0, hty]
  show runToks _ (specTokens bs) _ = _
  rw [hrun, rows_eq_allTags]
  rfl

end C06L
end V
