import VProofs.Lemmas.EvalFloatOps
/-!
# The three metrics of `evaluate` in units — `fl(N/P)`, `fl(N/R)`, `fl(fl(fl(2·p)·r) / fl(p + r))` — and the properties behind
the `C20_eval_metrics_*` theorems
-/
namespace V.EvalF
open V V.F64 V.QuantL

attribute [local irreducible] F64.top F64.unit e1021

/-- `fl (N / P)` in units -/
def ratioUnits (N P : Nat) : Nat := roundUnits (N * unit) P

theorem unit_ne_zero : unit ≠ 0 := Nat.ne_of_gt unit_pos

theorem mul_unit_eq_zero {n : Nat} : n * unit = 0 ↔ n = 0 := by
  constructor
  · intro h
    rcases Nat.mul_eq_zero.mp h with h | h
    · exact h
    · exact absurd h unit_ne_zero
  · intro h; rw [h, Nat.zero_mul]

theorem ratioUnits_rep (N P : Nat) (hP : 0 < P) : RepU (ratioUnits N P) := roundUnits_rep _ _ hP

theorem ratioUnits_le31 (N P : Nat) (hP : 0 < P) (hN : N < 2 ^ 31) : ratioUnits N P ≤ 2 ^ 31 * unit := by
  apply roundUnits_le_of_le _ _ _ hP (repU_units _ (by decide))
  have h1 : N * unit ≤ 2 ^ 31 * unit := Nat.mul_le_mul_right _ (Nat.le_of_lt hN)
  have h2 : 1 * (2 ^ 31 * unit) ≤ P * (2 ^ 31 * unit) := Nat.mul_le_mul_right _ hP
  omega

theorem ratioUnits_lt_top (N P : Nat) (hP : 0 < P) (hN : N < 2 ^ 31) : ratioUnits N P < top := by
  have := ratioUnits_le31 N P hP hN
  have := c32_lt_top
  omega

/-- the shape of `f64::from(N) / f64::from(P)` for a positive denominator -/
theorem div_counts (N P : Nat) (hN : N < 2 ^ 31) (hP : P < 2 ^ 31) (hP0 : 0 < P) :
    f64Div (f64OfNat N) (f64OfNat P) = .fin false (ratioUnits N P) := by
  rw [f64OfNat_exact N (by omega), f64OfNat_exact P (by omega)]
  have hne : P * unit ≠ 0 := fun h => by have := mul_unit_eq_zero.mp h; omega
  have hs : roundUnits (N * unit * unit) (P * unit) = ratioUnits N P := roundUnits_scale _ _ _ unit_pos
  rw [f64Div_fin_cases false false _ _ hne, hs, if_pos (ratioUnits_lt_top N P hP0 hN)]
  rfl

theorem div_counts_zero (N : Nat) (hN : N < 2 ^ 31) :
    f64Div (f64OfNat N) (f64OfNat 0) = if N = 0 then .nan else .inf false := by
  rw [f64OfNat_exact N (by omega), f64OfNat_zero]
  unfold f64Div
  simp only [↓reduceIte]
  by_cases h : N = 0
  · rw [if_pos h, if_pos (mul_unit_eq_zero.mpr h)]
  · rw [if_neg h, if_neg (fun h' => h (mul_unit_eq_zero.mp h'))]
    rfl

theorem ratioUnits_le_unit (N P : Nat) (hP : 0 < P) (h : N ≤ P) : ratioUnits N P ≤ unit :=
  roundUnits_le_of_le _ _ _ hP repU_unit (Nat.mul_le_mul_right _ h)

theorem ratioUnits_self (P : Nat) (hP : 0 < P) : ratioUnits P P = unit :=
  roundUnits_exact unit P hP repU_unit

theorem ratioUnits_zero (P : Nat) (hP : 0 < P) : ratioUnits 0 P = 0 := by
  unfold ratioUnits
  rw [Nat.zero_mul]
  exact roundUnits_zero P hP

theorem frac_step (N P Q : Nat) (hP : P ≤ Q) (h : N < P) : N * Q ≤ P * (Q - 1) := by
  have h1 : N * Q ≤ (P - 1) * Q := Nat.mul_le_mul_right _ (Nat.le_sub_one_of_lt h)
  have e : (P - 1) * Q = P * Q - Q := Nat.sub_one_mul _ _
  have e2 : P * (Q - 1) = P * Q - P := Nat.mul_sub_one _ _
  omega

theorem repU_e1021 : RepU e1021 := by unfold e1021; exact repU_pow 1021

/-- a proper fraction of counts stays below the predecessor of `1.0` -/
theorem ratioUnits_lt_unit (N P : Nat) (hP : P ≤ 2 ^ 53) (h : N < P) : ratioUnits N P < unit := by
  have hle : ratioUnits N P ≤ (2 ^ 53 - 1) * e1021 := by
    apply roundUnits_le_of_le _ _ _ (by omega) ⟨2 ^ 53 - 1, 1021, by unfold e1021; rfl, by decide⟩
    rw [unit_split53]
    have h2 := Nat.mul_le_mul_right e1021 (frac_step N P (2 ^ 53) hP h)
    have e3 : N * (2 ^ 53 * e1021) = N * 2 ^ 53 * e1021 := by rw [Nat.mul_assoc]
    have e4 : P * ((2 ^ 53 - 1) * e1021) = P * (2 ^ 53 - 1) * e1021 := by rw [Nat.mul_assoc]
    rw [e3, e4]
    exact h2
  have := e1021_pos
  have := unit_split53
  omega

/-- a non-zero fraction of counts is at least `2^-53` -/
theorem ratioUnits_ge (N P : Nat) (hP0 : 0 < P) (hP : P ≤ 2 ^ 53) (h : 0 < N) : e1021 ≤ ratioUnits N P := by
  apply le_roundUnits_of_le _ _ _ hP0 repU_e1021
  rw [unit_split53]
  have h1 : P * e1021 ≤ 2 ^ 53 * e1021 := Nat.mul_le_mul_right _ hP
  have h2 : 1 * (2 ^ 53 * e1021) ≤ N * (2 ^ 53 * e1021) := Nat.mul_le_mul_right _ h
  omega

theorem ratioUnits_eq_zero_iff (N P : Nat) (hP0 : 0 < P) (hP : P ≤ 2 ^ 53) : ratioUnits N P = 0 ↔ N = 0 := by
  constructor
  · intro h
    apply Nat.eq_zero_of_not_pos
    intro hN
    have := ratioUnits_ge N P hP0 hP hN
    have := e1021_pos
    omega
  · intro h; rw [h]; exact ratioUnits_zero P hP0

theorem ratioUnits_eq_unit_iff (N P : Nat) (hP0 : 0 < P) (hP : P ≤ 2 ^ 53) (hNP : N ≤ P) :
    ratioUnits N P = unit ↔ N = P := by
  constructor
  · intro h
    apply Nat.le_antisymm hNP
    apply Nat.le_of_not_lt
    intro hlt
    have := ratioUnits_lt_unit N P hP hlt
    omega
  · intro h; rw [h]; exact ratioUnits_self P hP0

theorem ratioUnits_congr (a b c d : Nat) (hb : 0 < b) (hd : 0 < d) (h : a * d = c * b) :
    ratioUnits a b = ratioUnits c d := by
  apply roundUnits_congr _ _ _ _ hb hd
  rw [Nat.mul_right_comm, h, Nat.mul_right_comm]

theorem two_mul_fin (a : Nat) (ha : RepU a) (h : 2 * a < top) : f64Mul f64Two (.fin false a) = .fin false (2 * a) := by
  unfold f64Two
  rw [mul_fin]
  have e : 2 * unit * a = 2 * a * unit := Nat.mul_right_comm _ _ _
  rw [e, roundUnits_unit, roundUnits_one _ (repU_double ha), pack_lt h]
  rfl

theorem two_mul_inf : f64Mul f64Two (.inf false) = .inf false := by
  unfold f64Two
  rw [mul_fin_inf, if_neg (fun h => by have := mul_unit_eq_zero.mp h; omega)]
  rfl

theorem two_mul_nan : f64Mul f64Two .nan = .nan := rfl

/-- `fl (2ab)` in units -/
def prodUnits (a b : Nat) : Nat := roundUnits (2 * a * b) unit
/-- `fl (a + b)` in units -/
def sumUnits (a b : Nat) : Nat := roundUnits (a + b) 1
/-- the F1 of `a` and `b` units -/
def f1Units (a b : Nat) : Nat := roundUnits (prodUnits a b * unit) (sumUnits a b)

theorem repU_two_unit : RepU (2 * unit) := repU_double repU_unit
theorem two_unit_lt_top : 2 * unit < top := by
  have := small_units_lt_top 2 (by decide)
  exact this

theorem prodUnits_le (a b : Nat) (ha : a ≤ unit) (hb : b ≤ unit) : prodUnits a b ≤ 2 * unit := by
  apply roundUnits_le_of_le _ _ _ unit_pos repU_two_unit
  have h1 : a * b ≤ unit * unit := Nat.mul_le_mul ha hb
  have e1 : 2 * a * b = 2 * (a * b) := Nat.mul_assoc _ _ _
  have e2 : unit * (2 * unit) = 2 * (unit * unit) := Nat.mul_left_comm _ _ _
  rw [e1, e2]
  exact Nat.mul_le_mul_left 2 h1

theorem sumUnits_le (a b : Nat) (ha : a ≤ unit) (hb : b ≤ unit) : sumUnits a b ≤ 2 * unit := by
  apply roundUnits_le_of_le _ _ _ (by decide) repU_two_unit
  omega

/-- `2xy ≤ x + y` on `[0, 1]`, and rounding is monotone -/
theorem prodUnits_le_sumUnits (a b : Nat) (ha : a ≤ unit) (hb : b ≤ unit) : prodUnits a b ≤ sumUnits a b := by
  unfold prodUnits sumUnits
  rw [← roundUnits_unit (a + b)]
  apply roundUnits_mono _ _ _ unit_pos
  have h1 : a * b ≤ unit * b := Nat.mul_le_mul_right _ ha
  have h2 : a * b ≤ a * unit := Nat.mul_le_mul_left _ hb
  have e1 : 2 * a * b = a * b + a * b := by rw [Nat.mul_assoc, Nat.two_mul]
  have e2 : (a + b) * unit = a * unit + unit * b := by rw [Nat.add_mul, Nat.mul_comm b unit]
  omega

theorem sumUnits_pos (a b : Nat) (h : 0 < a + b) : 0 < sumUnits a b := roundUnits_pos _ 1 (by decide) h

theorem prodUnits_ge_two (a b : Nat) (ha : e1021 ≤ a) (hb : e1021 ≤ b) : 2 ≤ prodUnits a b := by
  apply le_roundUnits_of_le _ _ _ unit_pos ⟨2, 0, rfl, by decide⟩
  have h1 : e1021 * e1021 ≤ a * b := Nat.mul_le_mul ha hb
  have h2 := unit_le_sq
  have e1 : 2 * a * b = 2 * (a * b) := Nat.mul_assoc _ _ _
  omega

theorem f1Units_le_unit (a b : Nat) (ha : a ≤ unit) (hb : b ≤ unit) (hs : 0 < a + b) : f1Units a b ≤ unit := by
  apply roundUnits_le_of_le _ _ _ (sumUnits_pos a b hs) repU_unit
  exact Nat.mul_le_mul_right _ (prodUnits_le_sumUnits a b ha hb)

theorem f1Units_pos (a b : Nat) (ha : a ≤ unit) (hb : b ≤ unit) (ha' : e1021 ≤ a) (hb' : e1021 ≤ b) : 0 < f1Units a b := by
  have hs : 0 < a + b := by have := e1021_pos; omega
  apply roundUnits_pos _ _ (sumUnits_pos a b hs)
  have h1 := sumUnits_le a b ha hb
  have h2 : 2 * unit ≤ prodUnits a b * unit := Nat.mul_le_mul_right _ (prodUnits_ge_two a b ha' hb')
  omega

theorem f1Units_one : f1Units unit unit = unit := by
  have hp : prodUnits unit unit = 2 * unit := by
    unfold prodUnits
    have e : 2 * unit * unit = unit * (2 * unit) := by ac_rfl
    rw [e]
    exact roundUnits_exact _ _ unit_pos repU_two_unit
  have hs : sumUnits unit unit = 2 * unit := by
    unfold sumUnits
    rw [← Nat.two_mul]
    exact roundUnits_one _ repU_two_unit
  unfold f1Units
  rw [hp, hs]
  exact roundUnits_exact _ _ (by have := unit_pos; omega) repU_unit

theorem f1Units_comm (a b : Nat) : f1Units a b = f1Units b a := by
  unfold f1Units prodUnits sumUnits
  rw [Nat.mul_right_comm 2 a b, Nat.add_comm a b]

theorem f1_fin (a b : Nat) (ha : RepU a) (ha1 : a ≤ unit) (hb1 : b ≤ unit) :
    f64Div (f64Mul (f64Mul f64Two (.fin false a)) (.fin false b)) (f64Add (.fin false a) (.fin false b)) =
      if a + b = 0 then .nan else .fin false (f1Units a b) := by
  have ht := two_unit_lt_top
  rw [two_mul_fin a ha (by omega), mul_fin, add_fin_same]
  have hp : roundUnits (2 * a * b) unit = prodUnits a b := rfl
  have hs : roundUnits (a + b) 1 = sumUnits a b := rfl
  rw [hp, hs, pack_lt (Nat.lt_of_le_of_lt (prodUnits_le a b ha1 hb1) ht),
    pack_lt (Nat.lt_of_le_of_lt (sumUnits_le a b ha1 hb1) ht)]
  by_cases h0 : a + b = 0
  · rw [if_pos h0]
    have hs0 : sumUnits a b = 0 := (roundUnits_eq_zero_iff _).mpr h0
    have hp0 : prodUnits a b = 0 := by
      have := prodUnits_le_sumUnits a b ha1 hb1
      omega
    rw [hs0, hp0]
    rfl
  · rw [if_neg h0]
    have hsp : sumUnits a b ≠ 0 := Nat.ne_of_gt (sumUnits_pos a b (Nat.pos_of_ne_zero h0))
    have hf : roundUnits (prodUnits a b * unit) (sumUnits a b) = f1Units a b := rfl
    rw [f64Div_fin_cases _ _ _ _ hsp, hf]
    have hle := f1Units_le_unit a b ha1 hb1 (Nat.pos_of_ne_zero h0)
    have hu : unit < top := by omega
    rw [if_pos (Nat.lt_of_le_of_lt hle hu)]
    rfl

theorem evalMetrics_eq (N P R : Nat) : evalMetrics N P R =
    (f64Div (f64OfNat N) (f64OfNat P), f64Div (f64OfNat N) (f64OfNat R),
     f64Div (f64Mul (f64Mul f64Two (f64Div (f64OfNat N) (f64OfNat P))) (f64Div (f64OfNat N) (f64OfNat R)))
       (f64Add (f64Div (f64OfNat N) (f64OfNat P)) (f64Div (f64OfNat N) (f64OfNat R)))) := rfl

theorem metrics_fin (N P R : Nat) (hP : P < 2 ^ 31) (hR : R < 2 ^ 31) (hP0 : 0 < P) (hR0 : 0 < R)
    (hNP : N ≤ P) (hNR : N ≤ R) :
    evalMetrics N P R = (.fin false (ratioUnits N P), .fin false (ratioUnits N R),
      if N = 0 then .nan else .fin false (f1Units (ratioUnits N P) (ratioUnits N R))) := by
  have hN : N < 2 ^ 31 := by omega
  rw [evalMetrics_eq, div_counts N P hN hP hP0, div_counts N R hN hR hR0,
    f1_fin _ _ (ratioUnits_rep N P hP0) (ratioUnits_le_unit N P hP0 hNP)
      (ratioUnits_le_unit N R hR0 hNR)]
  by_cases h0 : N = 0
  · rw [if_pos h0, h0, ratioUnits_zero P hP0, ratioUnits_zero R hR0, if_pos rfl]
  · rw [if_neg h0]
    have := ratioUnits_ge N P hP0 (by omega) (Nat.pos_of_ne_zero h0)
    have := e1021_pos
    rw [if_neg (by omega)]

theorem metrics_pzero (R : Nat) : evalMetrics 0 0 R = (.nan, f64Div (f64OfNat 0) (f64OfNat R), .nan) := by
  have h : f64Div (f64OfNat 0) (f64OfNat 0) = .nan := by rw [div_counts_zero 0 (by decide), if_pos rfl]
  rw [evalMetrics_eq, h]
  rfl

theorem metrics_rzero (P : Nat) : evalMetrics 0 P 0 = (f64Div (f64OfNat 0) (f64OfNat P), .nan, .nan) := by
  have h : f64Div (f64OfNat 0) (f64OfNat 0) = .nan := by rw [div_counts_zero 0 (by decide), if_pos rfl]
  rw [evalMetrics_eq, h, mul_nan, add_nan, div_nan]

/-! ## symmetry of F1 in the two denominators (no relation between the counts needed) -/

/-- what a quotient of two counts can be -/
def Ratio (x : F64) : Prop := x = .nan ∨ x = .inf false ∨ ∃ a, x = .fin false a ∧ RepU a ∧ a ≤ 2 ^ 31 * unit

theorem ratio_of_counts (N P : Nat) (hN : N < 2 ^ 31) (hP : P < 2 ^ 31) : Ratio (f64Div (f64OfNat N) (f64OfNat P)) := by
  by_cases hP0 : P = 0
  · rw [hP0, div_counts_zero N hN]
    by_cases h : N = 0
    · rw [if_pos h]; exact Or.inl rfl
    · rw [if_neg h]; exact Or.inr (Or.inl rfl)
  · have hp : 0 < P := Nat.pos_of_ne_zero hP0
    rw [div_counts N P hN hP hp]
    exact Or.inr (Or.inr ⟨_, rfl, ratioUnits_rep N P hp, ratioUnits_le31 N P hp hN⟩)

/-- `(2·x)·y = (2·y)·x`: doubling is exact on these values -/
theorem two_mul_mul_comm (x y : F64) (hx : Ratio x) (hy : Ratio y) :
    f64Mul (f64Mul f64Two x) y = f64Mul (f64Mul f64Two y) x := by
  have ht := c32_lt_top
  have inf_fin : ∀ b, RepU b → b ≤ 2 ^ 31 * unit →
      f64Mul (f64Mul f64Two (.inf false)) (.fin false b) = f64Mul (f64Mul f64Two (.fin false b)) (.inf false) := by
    intro b hb hb2
    rw [two_mul_inf, two_mul_fin b hb (by omega), mul_inf_fin, mul_fin_inf]
    by_cases h : b = 0
    · rw [if_pos h, if_pos (by omega)]
    · rw [if_neg h, if_neg (by omega)]
  rcases hx with rfl | rfl | ⟨a, rfl, ha, ha2⟩
  · rw [two_mul_nan, nan_mul, mul_nan]
  · rcases hy with rfl | rfl | ⟨b, rfl, hb, hb2⟩
    · rw [two_mul_nan, nan_mul, mul_nan]
    · rfl
    · exact inf_fin b hb hb2
  · rcases hy with rfl | rfl | ⟨b, rfl, hb, hb2⟩
    · rw [two_mul_nan, nan_mul, mul_nan]
    · exact (inf_fin a ha ha2).symm
    · rw [two_mul_fin a ha (by omega), two_mul_fin b hb (by omega), mul_fin, mul_fin, Nat.mul_right_comm 2 a b]

theorem f1_symmetric (N P R : Nat) (hN : N < 2 ^ 31) (hP : P < 2 ^ 31) (hR : R < 2 ^ 31) :
    (evalMetrics N P R).2.2 = (evalMetrics N R P).2.2 := by
  rw [evalMetrics_eq, evalMetrics_eq]
  show f64Div (f64Mul (f64Mul f64Two _) _) (f64Add _ _) = f64Div (f64Mul (f64Mul f64Two _) _) (f64Add _ _)
  rw [two_mul_mul_comm _ _ (ratio_of_counts N P hN hP) (ratio_of_counts N R hN hR),
    f64Add_comm (f64Div (f64OfNat N) (f64OfNat P))]

theorem inf_ne_nan (s : Bool) : F64.inf s ≠ .nan := F64.noConfusion
theorem unit_lt_top : unit < top := by have := two_unit_lt_top; omega

/-- a finite non-negative double of at most `1.0` -/
def Unit01 (x : F64) : Prop := ∃ a, x = .fin false a ∧ a ≤ unit ∧ RepU a

theorem unit01_good {x : F64} (h : Unit01 x) : x.Finite ∧ x.sign = false ∧ x.IsDouble := by
  obtain ⟨a, rfl, h1, h2⟩ := h
  have hlt : a < top := Nat.lt_of_le_of_lt h1 unit_lt_top
  exact ⟨hlt, rfl, hlt, repUnits_of_repU h2⟩

theorem f1Units_rep (a b : Nat) (h : 0 < a + b) : RepU (f1Units a b) :=
  roundUnits_rep _ _ (sumUnits_pos a b h)

/-- every reachable outcome of `evalMetrics`, by component: a zero denominator gives NaN there and in F1, a zero numerator
gives NaN in F1, everything else is a finite value in units -/
theorem metrics_val (N P R : Nat) (hP : P < 2 ^ 31) (hR : R < 2 ^ 31) (hNP : N ≤ P) (hNR : N ≤ R) :
    evalMetrics N P R =
      (if P = 0 then .nan else .fin false (ratioUnits N P), if R = 0 then .nan else .fin false (ratioUnits N R),
       if P = 0 ∨ R = 0 ∨ N = 0 then .nan else .fin false (f1Units (ratioUnits N P) (ratioUnits N R))) := by
  have h00 : f64Div (f64OfNat 0) (f64OfNat 0) = .nan := by rw [div_counts_zero 0 (by decide), if_pos rfl]
  by_cases hP0 : P = 0
  · obtain rfl : N = 0 := by omega
    subst hP0
    rw [metrics_pzero, if_pos rfl, if_pos (Or.inl rfl)]
    by_cases hR0 : R = 0
    · rw [hR0, h00, if_pos rfl]
    · rw [div_counts 0 R (by decide) hR (Nat.pos_of_ne_zero hR0), if_neg hR0]
  · rw [if_neg hP0]
    by_cases hR0 : R = 0
    · obtain rfl : N = 0 := by omega
      subst hR0
      rw [metrics_rzero, div_counts 0 P (by decide) hP (Nat.pos_of_ne_zero hP0), if_pos rfl, if_pos (Or.inr (Or.inl rfl))]
    · rw [metrics_fin N P R hP hR (Nat.pos_of_ne_zero hP0) (Nat.pos_of_ne_zero hR0) hNP hNR, if_neg hR0]
      by_cases hN0 : N = 0
      · rw [if_pos hN0, if_pos (Or.inr (Or.inr hN0))]
      · rw [if_neg hN0, if_neg (fun h => h.elim hP0 (fun h => h.elim hR0 hN0))]

theorem ite_nan_iff (c : Prop) [Decidable c] (s : Bool) (a : Nat) : (if c then F64.nan else .fin s a) = .nan ↔ c := by
  by_cases h : c
  · rw [if_pos h]; exact ⟨fun _ => h, fun _ => rfl⟩
  · rw [if_neg h]; exact ⟨fun e => (nomatch e), fun e => absurd e h⟩

theorem ite_nan_good (c : Prop) [Decidable c] (a : Nat) (h : ¬ c → Unit01 (.fin false a))
    (hn : (if c then F64.nan else .fin false a) ≠ .nan) :
    (if c then F64.nan else .fin false a).Finite ∧ (if c then F64.nan else .fin false a).sign = false ∧
      (if c then F64.nan else .fin false a).IsDouble := by
  by_cases hc : c
  · rw [if_pos hc] at hn; exact absurd rfl hn
  · rw [if_neg hc]; exact unit01_good (h hc)

/-- `C20_eval_metrics_nan`, and below `…_range`, `…_exact_ratio` and `C20_f64_arith_sane`, are proved here and only restated in
`C20.lean`: there `F64.unit` and `F64.top` are not irreducible, and unifying against these statements unfolds them. -/
theorem metrics_nan (N P R : Nat) (hP : P < 2 ^ 31) (hR : R < 2 ^ 31) (hNP : N ≤ P) (hNR : N ≤ R) :
    ((evalMetrics N P R).1 = .nan ↔ P = 0) ∧
    ((evalMetrics N P R).2.1 = .nan ↔ R = 0) ∧
    ((evalMetrics N P R).2.2 = .nan ↔
      ((evalMetrics N P R).1 = .nan ∨ (evalMetrics N P R).2.1 = .nan ∨ N = 0)) ∧
    (∀ x, x = (evalMetrics N P R).1 ∨ x = (evalMetrics N P R).2.1 ∨ x = (evalMetrics N P R).2.2 →
      x ≠ .nan → x.Finite ∧ x.sign = false ∧ x.IsDouble) := by
  rw [metrics_val N P R hP hR hNP hNR]
  refine ⟨ite_nan_iff _ _ _, ite_nan_iff _ _ _, ?_, ?_⟩
  · exact (ite_nan_iff _ _ _).trans (or_congr (ite_nan_iff _ _ _).symm (or_congr_left (ite_nan_iff _ _ _).symm))
  · intro x hx
    rcases hx with rfl | rfl | rfl
    · exact ite_nan_good _ _ fun h =>
        ⟨_, rfl, ratioUnits_le_unit N P (Nat.pos_of_ne_zero h) hNP, ratioUnits_rep N P (Nat.pos_of_ne_zero h)⟩
    · exact ite_nan_good _ _ fun h =>
        ⟨_, rfl, ratioUnits_le_unit N R (Nat.pos_of_ne_zero h) hNR, ratioUnits_rep N R (Nat.pos_of_ne_zero h)⟩
    · refine ite_nan_good _ _ fun h => ?_
      have hP0 : 0 < P := Nat.pos_of_ne_zero fun e => h (Or.inl e)
      have hR0 : 0 < R := Nat.pos_of_ne_zero fun e => h (Or.inr (Or.inl e))
      have hN0 : 0 < N := Nat.pos_of_ne_zero fun e => h (Or.inr (Or.inr e))
      have a1 := ratioUnits_le_unit N P hP0 hNP
      have b1 := ratioUnits_le_unit N R hR0 hNR
      have a0 := ratioUnits_ge N P hP0 (by omega) hN0
      have := e1021_pos
      exact ⟨_, rfl, f1Units_le_unit _ _ a1 b1 (by omega), f1Units_rep _ _ (by omega)⟩

/-- the unreachable case of a zero denominator under a non-zero numerator: `+∞`, not NaN -/
theorem metrics_zero_den (N R : Nat) (hN : N < 2 ^ 31) :
    (evalMetrics N 0 R).1 = if N = 0 then .nan else .inf false := by
  rw [evalMetrics_eq]
  exact div_counts_zero N hN

theorem ratio_range (N P : Nat) (hP : P < 2 ^ 31) (hP0 : 0 < P) (hNP : N ≤ P) :
    f64Le (f64OfNat 0) (f64Div (f64OfNat N) (f64OfNat P)) = true ∧
    f64Le (f64Div (f64OfNat N) (f64OfNat P)) (f64OfNat 1) = true ∧
    (f64Div (f64OfNat N) (f64OfNat P) = f64OfNat 1 ↔ N = P) ∧
    (f64Div (f64OfNat N) (f64OfNat P) = f64OfNat 0 ↔ N = 0) := by
  rw [div_counts N P (by omega) hP hP0, f64OfNat_zero, f64OfNat_one, f64Le_nonneg, f64Le_nonneg]
  refine ⟨decide_eq_true (Nat.zero_le _), decide_eq_true (ratioUnits_le_unit N P hP0 hNP), ?_, ?_⟩
  · constructor
    · intro h
      injection h with _ h
      exact (ratioUnits_eq_unit_iff N P hP0 (by omega) hNP).mp h
    · intro h
      rw [(ratioUnits_eq_unit_iff N P hP0 (by omega) hNP).mpr h]
  · constructor
    · intro h
      injection h with _ h
      exact (ratioUnits_eq_zero_iff N P hP0 (by omega)).mp h
    · intro h
      rw [(ratioUnits_eq_zero_iff N P hP0 (by omega)).mpr h]

theorem metrics_range (N P R : Nat) (hP : P < 2 ^ 31) (hR : R < 2 ^ 31) (hP0 : 0 < P) (hR0 : 0 < R)
    (hNP : N ≤ P) (hNR : N ≤ R) :
    f64Le (f64OfNat 0) (evalMetrics N P R).1 = true ∧ f64Le (evalMetrics N P R).1 (f64OfNat 1) = true ∧
    f64Le (f64OfNat 0) (evalMetrics N P R).2.1 = true ∧ f64Le (evalMetrics N P R).2.1 (f64OfNat 1) = true ∧
    ((evalMetrics N P R).1 = f64OfNat 1 ↔ N = P) ∧ ((evalMetrics N P R).1 = f64OfNat 0 ↔ N = 0) ∧
    ((evalMetrics N P R).2.1 = f64OfNat 1 ↔ N = R) ∧ ((evalMetrics N P R).2.1 = f64OfNat 0 ↔ N = 0) ∧
    (0 < N → f64Lt (f64OfNat 0) (evalMetrics N P R).2.2 = true ∧ f64Le (evalMetrics N P R).2.2 (f64OfNat 1) = true) ∧
    (0 < N → N = P → N = R → (evalMetrics N P R).2.2 = f64OfNat 1) := by
  obtain ⟨p1, p2, p3, p4⟩ := ratio_range N P hP hP0 hNP
  obtain ⟨r1, r2, r3, r4⟩ := ratio_range N R hR hR0 hNR
  refine ⟨p1, p2, r1, r2, p3, p4, r3, r4, ?_, ?_⟩
  · intro hN
    have a1 := ratioUnits_le_unit N P hP0 hNP
    have b1 := ratioUnits_le_unit N R hR0 hNR
    rw [metrics_fin N P R hP hR hP0 hR0 hNP hNR, if_neg (Nat.ne_of_gt hN), f64OfNat_zero, f64OfNat_one,
      lt_fin_nonneg, f64Le_nonneg]
    exact ⟨decide_eq_true (f1Units_pos _ _ a1 b1 (ratioUnits_ge N P hP0 (by omega) hN) (ratioUnits_ge N R hR0 (by omega) hN)),
      decide_eq_true (f1Units_le_unit _ _ a1 b1 (Nat.lt_of_lt_of_le e1021_pos
        (Nat.le_trans (ratioUnits_ge N P hP0 (by omega) hN) (Nat.le_add_right _ _))))⟩
  · intro hN hNP' hNR'
    subst hNP'; subst hNR'
    rw [metrics_fin N N N hP hP hP0 hP0 hNP hNP, if_neg (by omega), ratioUnits_self N hP0, f1Units_one, f64OfNat_one]

theorem metrics_exact_ratio (N P R : Nat) (hN : N < 2 ^ 31) (hP : P < 2 ^ 31) (hP0 : 0 < P) :
    (evalMetrics N P R).1 = .fin false (roundUnits (N * unit) P) ∧
    (∀ N' P' R', N' < 2 ^ 31 → P' < 2 ^ 31 → 0 < P' → N * P' = N' * P →
      (evalMetrics N' P' R').1 = (evalMetrics N P R).1) := by
  refine ⟨div_counts N P hN hP hP0, ?_⟩
  intro N' P' R' hN' hP' hP0' h
  show f64Div (f64OfNat N') (f64OfNat P') = f64Div (f64OfNat N) (f64OfNat P)
  rw [div_counts N P hN hP hP0, div_counts N' P' hN' hP' hP0', ratioUnits_congr N P N' P' hP0 hP0' h]

theorem metrics_swap (N P R : Nat) :
    (evalMetrics N R P).1 = (evalMetrics N P R).2.1 ∧ (evalMetrics N R P).2.1 = (evalMetrics N P R).1 := ⟨rfl, rfl⟩

theorem arith_sane :
    (∀ n, (f64OfNat n).IsDouble) ∧ (∀ n, n < 2 ^ 53 → f64OfNat n = .fin false (n * F64.unit)) ∧
    (∀ x y, (f64Mul x y).IsDouble) ∧ (∀ x y, (f64Add x y).IsDouble) ∧
    (∀ x y, f64Mul x y = f64Mul y x) ∧ (∀ x y, f64Add x y = f64Add y x) ∧
    (∀ s a, f64Add (.fin s a) (f64Neg (.fin s a)) = .fin false 0) ∧ f64Add (.fin true 0) (.fin true 0) = .fin true 0 ∧
    (∀ s t, f64Mul (.fin s 0) (.inf t) = .nan ∧ f64Mul (.inf t) (.fin s 0) = .nan) ∧ (∀ s, f64Sub (.inf s) (.inf s) = .nan) :=
  ⟨f64OfNat_isDouble, f64OfNat_exact, f64Mul_isDouble, f64Add_isDouble, f64Mul_comm,
    f64Add_comm, add_neg_self, neg_zero_add_neg_zero, zero_mul_inf, inf_sub_inf⟩

end V.EvalF
