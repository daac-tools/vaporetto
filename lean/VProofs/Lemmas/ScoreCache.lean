import VProofs.Lemmas.ScoreModel
/-!
# The type-score cache (`TypeScorerBoundaryCache`) realises the type n-gram part of the specification (C01)
-/
namespace V.C01L

/-- type code at an integer position, 0 outside the sentence -/
def tz (types : List Nat) (x : Int) : Nat := if 0 ≤ x then types.getD x.toNat 0 else 0

/-- the update of the sequence id, as in `cacheAddScores` -/
def cinc (window : Nat) (types : List Nat) (seqid : Nat) (i : Nat) : Nat :=
  match types[i]? with
  | some ct => (seqid * 8 + ct) % seqMask window
  | none => (seqid * 8) % seqMask window

/-- sequence id after the first `t` positions -/
def seqAt (window : Nat) (types : List Nat) (t : Nat) : Nat := (List.range t).foldl (cinc window types) 0

theorem cacheAddScores_eq (ngrams : List (NgramData Nat)) (window : Nat) (types : List Nat) (nBounds : Nat)
    (buf : List Int) :
    cacheAddScores ngrams window types nBounds buf =
      if padding + nBounds ≤ buf.length then
        .ok (addAt buf padding (cacheAddScores.go ngrams window (cinc window types) (List.range nBounds)
          (seqAt window types window) []))
      else .panic "boundary_scores[padding..padding + boundaries.len()]" := rfl

/-- the type codes in the window around boundary `b` -/
def cwin (types : List Nat) (b window : Nat) : List Nat :=
  (List.range (2 * window)).map fun (k : Nat) => tz types ((b : Int) + 1 - (window : Int) + (k : Int))

theorem dig_aux (x m r : Nat) : x % 8 ^ (m + (1 + r)) / 8 ^ m % 8 = x / 8 ^ m % 8 := by
  rw [Nat.pow_add, Nat.pow_add, Nat.pow_one, Nat.mod_mul_right_div_self, Nat.mod_mul_right_mod]

theorem dig_zero (s c r : Nat) (hc : c < 8) : (s * 8 + c) % 8 ^ (0 + (1 + r)) / 8 ^ 0 % 8 = c := by
  rw [dig_aux, Nat.pow_zero, Nat.div_one]
  omega

theorem dig_succ (s c m r : Nat) (hc : c < 8) :
    (s * 8 + c) % 8 ^ (m + 1 + (1 + r)) / 8 ^ (m + 1) % 8 = s / 8 ^ m % 8 := by
  have h8 : (s * 8 + c) / 8 = s := by omega
  rw [dig_aux, Nat.pow_succ', ← Nat.div_div_eq_div_mul, h8]

section
variable (window : Nat) (types : List Nat)

theorem cinc_eq (seqid i : Nat) :
    cinc window types seqid i = (seqid * 8 + tz types (i : Int)) % 8 ^ (2 * window) := by
  have h0 : (0 : Int) ≤ (i : Int) := by omega
  unfold cinc tz seqMask
  simp only [h0, if_true, Int.toNat_natCast, List.getD_eq_getElem?_getD]
  cases types[i]? <;> simp

theorem seqAt_succ (t : Nat) :
    seqAt window types (t + 1) = (seqAt window types t * 8 + tz types (t : Int)) % 8 ^ (2 * window) := by
  unfold seqAt
  rw [List.range_succ, List.foldl_append]
  simp only [List.foldl_cons, List.foldl_nil]
  exact cinc_eq _ _ _ _

theorem tz_neg (x : Int) (h : x < 0) : tz types x = 0 :=
  if_neg (Int.not_le.mpr h)

theorem tz_nat (j : Nat) : tz types (j : Int) = types.getD j 0 :=
  if_pos (Int.natCast_nonneg j)

theorem tz_le (ht : ∀ t ∈ types, 1 ≤ t ∧ t ≤ 6) (x : Int) : tz types x ≤ 6 := by
  unfold tz
  split
  · rw [List.getD_eq_getElem?_getD]
    cases h : types[x.toNat]? with
    | none => exact Nat.zero_le 6
    | some v => exact (ht v (List.mem_of_getElem? h)).2
  · exact Nat.zero_le 6

/-- the digits of the sequence id are the type codes of the last `2·window` positions; `m` is the place of the digit
and `k` its index from the left -/
theorem seqAt_digits (ht : ∀ t ∈ types, 1 ≤ t ∧ t ≤ 6) (t m k : Nat) (h : 2 * window = m + (1 + k)) :
    (seqAt window types t / 8 ^ m) % 8 = tz types ((t : Int) - (2 * window : Nat) + k) := by
  induction t generalizing m k with
  | zero =>
    rw [tz_neg _ _ (by omega)]
    show 0 / 8 ^ m % 8 = 0
    rw [Nat.zero_div]
  | succ t ih =>
    have hc : tz types (t : Int) < 8 := Nat.lt_of_le_of_lt (tz_le types ht _) (by decide)
    rw [seqAt_succ, h]
    cases m with
    | zero =>
      rw [dig_zero _ _ _ hc]
      congr 1
      omega
    | succ m =>
      rw [dig_succ _ _ _ _ hc, ih m (k + 1) (by omega)]
      congr 1
      omega

theorem seqOfId_seqAt (ht : ∀ t ∈ types, 1 ≤ t ∧ t ≤ 6) (b : Nat) :
    seqOfId (2 * window) (seqAt window types (b + window + 1)) = cwin types b window := by
  unfold seqOfId cwin
  apply List.map_congr_left
  intro k hk
  have hk := List.mem_range.mp hk
  rw [seqAt_digits window types ht _ (2 * window - 1 - k) k (by omega)]
  congr 1
  omega

theorem cache_go (ngrams : List (NgramData Nat)) (s len : Nat) (acc : List Int) :
    cacheAddScores.go ngrams window (cinc window types) (List.range' s len) (seqAt window types (s + window)) acc
      = acc ++ (List.range' s len).map fun i => cacheEntry ngrams window (seqAt window types (i + window + 1)) := by
  induction len generalizing s acc with
  | zero => simp [cacheAddScores.go]
  | succ len ih =>
    rw [List.range'_succ, cacheAddScores.go.eq_2, cinc_eq, ← seqAt_succ, Nat.add_right_comm s window 1, ih,
      List.append_assoc, List.map_cons, Nat.add_right_comm s window 1]
    rfl

end

/-- the sum of `f` over the `n` integers from `a` on -/
def isumRange (f : Int → Int) (a : Int) (n : Nat) : Int := ((List.range n).map fun (i : Nat) => f (a + i)).sum

theorem isumRange_add (f : Int → Int) (a : Int) (p m : Nat) :
    isumRange f a (p + m) = isumRange f a p + isumRange f (a + p) m := by
  unfold isumRange
  rw [List.range_add, List.map_append, isum_append, List.map_map]
  simp only [Function.comp_def, Int.natCast_add, Int.add_assoc]

theorem isumRange_zero (f : Int → Int) (a : Int) (n : Nat) (h : ∀ i : Nat, i < n → f (a + i) = 0) :
    isumRange f a n = 0 := by
  unfold isumRange
  apply isum_map_eq_zero
  intro i hi
  exact h i (List.mem_range.mp hi)

theorem isumRange_extend (f : Int → Int) (a : Int) (n p q : Nat)
    (h : ∀ x, f x ≠ 0 → a ≤ x ∧ x < a + n) :
    isumRange f (a - p) (p + n + q) = isumRange f a n := by
  have hz : ∀ x, ¬ (a ≤ x ∧ x < a + n) → f x = 0 := fun x hx =>
    Decidable.byContradiction fun hf => hx (h x hf)
  rw [isumRange_add, isumRange_add]
  have h1 : isumRange f (a - p) p = 0 := isumRange_zero _ _ _ (fun i hi => hz _ (by omega))
  have h3 : isumRange f (a - p + ((p + n : Nat) : Int)) q = 0 := isumRange_zero _ _ _ (fun i hi => hz _ (by omega))
  have h2 : a - (p : Int) + (p : Int) = a := by omega
  rw [h1, h3, h2]; omega

/-- `p` read as ending at position `x` agrees with `z` entry by entry -/
def matchZ (p : List Nat) (z : Int → Nat) (x : Int) : Bool :=
  (List.range p.length).all fun (i : Nat) => z (x + 1 - p.length + i) == p.getD i 0

theorem matchZ_iff (p : List Nat) (z : Int → Nat) (x : Int) :
    matchZ p z x = true ↔ ∀ i : Nat, i < p.length → z (x + 1 - p.length + i) = p.getD i 0 := by
  unfold matchZ
  simp only [List.all_eq_true, List.mem_range, beq_iff_eq]

theorem tz_pos (l : List Nat) (x : Int) (h : 1 ≤ tz l x) : 0 ≤ x ∧ x < l.length := by
  by_cases h0 : 0 ≤ x
  · obtain ⟨n, rfl⟩ := Int.eq_ofNat_of_zero_le h0
    refine ⟨h0, Int.ofNat_lt.mpr (Nat.lt_of_not_le fun hl => ?_)⟩
    rw [tz_nat, List.getD_eq_getElem?_getD, List.getElem?_eq_none hl] at h
    exact absurd h (by decide)
  · rw [tz_neg _ _ (by omega)] at h
    exact absurd h (by decide)

theorem getD_pos_of_mem (p : List Nat) (hp : ∀ t ∈ p, 1 ≤ t) (i : Nat) (hi : i < p.length) : 1 ≤ p.getD i 0 := by
  rw [List.getD_eq_getElem?_getD, List.getElem?_eq_getElem hi]
  exact hp _ (List.getElem_mem hi)

theorem matchZ_tz_bounds (p l : List Nat) (hp : ∀ t ∈ p, 1 ≤ t) (hl : 1 ≤ p.length) (x : Int)
    (h : matchZ p (tz l) x = true) : (p.length : Int) ≤ x + 1 ∧ x < l.length := by
  have h := (matchZ_iff _ _ _).mp h
  have hfirst := getD_pos_of_mem p hp 0 hl
  have hlast := getD_pos_of_mem p hp (p.length - 1) (by omega)
  rw [← h 0 hl] at hfirst
  rw [← h (p.length - 1) (by omega)] at hlast
  have h1 := (tz_pos _ _ hfirst).1
  have h2 := (tz_pos _ _ hlast).2
  omega

theorem suffix_take_iff (p l : List Nat) (k : Nat) (hk : k < l.length) (hle : p.length ≤ k + 1) :
    p <:+ l.take (k + 1) ↔ ∀ i, i < p.length → l[k + 1 - p.length + i]? = p[i]? := by
  have hlen : (l.take (k + 1)).length = k + 1 := by
    rw [List.length_take]
    omega
  rw [List.suffix_iff_eq_drop, hlen]
  constructor
  · intro h i hi
    conv => rhs; rw [h]
    rw [List.getElem?_drop, List.getElem?_take, if_pos (by omega)]
  · intro h
    apply List.ext_getElem?
    intro i
    rw [List.getElem?_drop, List.getElem?_take]
    by_cases hi : i < p.length
    · rw [if_pos (by omega), h i hi]
    · rw [List.getElem?_eq_none (by omega), if_neg (by omega)]

/-- in a list that is the stretch of `z` from `a` on, a pattern that fits before position `k` ends there iff it matches `z`
at `a + k` -/
theorem suffix_take_matchZ (p l : List Nat) (z : Int → Nat) (a : Int)
    (hz : ∀ j : Nat, j < l.length → l.getD j 0 = z (a + j)) (k : Nat) (hk : k < l.length)
    (hle : p.length ≤ k + 1) : p.isSuffixOf (l.take (k + 1)) = matchZ p z (a + k) := by
  have hidx : ∀ i : Nat, i < p.length →
      (l[k + 1 - p.length + i]? = p[i]? ↔ z (a + k + 1 - p.length + i) = p.getD i 0) := by
    intro i hi
    have hx : a + (k : Int) + 1 - (p.length : Int) + (i : Int) = a + ((k + 1 - p.length + i : Nat) : Int) := by omega
    have hlt : k + 1 - p.length + i < l.length := by omega
    rw [hx, ← hz _ hlt, List.getD_eq_getElem?_getD, List.getD_eq_getElem?_getD, List.getElem?_eq_getElem hlt,
      List.getElem?_eq_getElem hi]
    simp only [Option.some.injEq, Option.getD_some]
  rw [Bool.eq_iff_iff, List.isSuffixOf_iff_suffix, suffix_take_iff p l k hk hle, matchZ_iff]
  exact ⟨fun h i hi => (hidx i hi).mp (h i hi), fun h i hi => (hidx i hi).mpr (h i hi)⟩

section
variable (types p : List Nat) (wt : List Int) (b window : Nat)

/-- contribution of an occurrence of `p` whose last position is `x` -/
def occF (x : Int) : Int :=
  if matchZ p (tz types) x then getZ wt ((b : Int) + (window : Int) - x) else 0

theorem occF_support (hp : ∀ t ∈ p, 1 ≤ t) (hl : 1 ≤ p.length) (hl2 : p.length ≤ 2 * window)
    (hwt : wt.length = 2 * window - p.length + 1) (x : Int) (h : occF types p wt b window x ≠ 0) :
    ((0 : Int) ≤ x ∧ x < (0 : Int) + (types.length : Nat)) ∧
      ((b : Int) + 1 - (window : Int) ≤ x ∧ x < (b : Int) + 1 - (window : Int) + ((2 * window : Nat) : Int)) := by
  unfold occF at h
  split at h
  · rename_i hm
    have hb := matchZ_tz_bounds p types hp hl x hm
    have hlo : ¬ ((b : Int) + (window : Int) - x < 0) := fun hc => h (getZ_neg _ _ hc)
    have hhi : ¬ ((wt.length : Int) ≤ (b : Int) + (window : Int) - x) := fun hc => h (getZ_ge _ _ hc)
    omega
  · exact absurd rfl h

theorem cwin_length : (cwin types b window).length = 2 * window := by
  unfold cwin
  rw [List.length_map, List.length_range]

theorem cwin_getD (j : Nat) (hj : j < (cwin types b window).length) :
    (cwin types b window).getD j 0 = tz types ((b : Int) + 1 - (window : Int) + (j : Int)) := by
  rw [cwin_length] at hj
  unfold cwin
  rw [List.getD_eq_getElem?_getD, List.getElem?_map, List.getElem?_range hj]
  rfl

theorem cwin_term (hl2 : p.length ≤ 2 * window) (hwt : wt.length = 2 * window - p.length + 1) (k : Nat)
    (hk : k < 2 * window) :
    (if p.isSuffixOf ((cwin types b window).take (k + 1)) then
        (wt[2 * window - (k + 1)]?).getD 0 else 0)
      = occF types p wt b window ((b : Int) + 1 - (window : Int) + (k : Int)) := by
  have hwv : (wt[2 * window - (k + 1)]?).getD 0
      = getZ wt ((b : Int) + (window : Int) - ((b : Int) + 1 - (window : Int) + (k : Int))) := by
    have hx : (b : Int) + (window : Int) - ((b : Int) + 1 - (window : Int) + (k : Int))
        = ((2 * window - (k + 1) : Nat) : Int) := by omega
    rw [hx, getZ_nat, List.getD_eq_getElem?_getD]
  unfold occF
  rw [hwv]
  by_cases hle : p.length ≤ k + 1
  · rw [suffix_take_matchZ p _ (tz types) _ (cwin_getD types b window) k (by rw [cwin_length]; exact hk) hle]
  · -- a pattern that does not fit reads the weight vector beyond its end
    rw [getZ_ge _ _ (by omega), ite_self, ite_self]

theorem types_term (hp : ∀ t ∈ p, 1 ≤ t) (hl : 1 ≤ p.length) (k : Nat) (hk : k < types.length) :
    (if p.isSuffixOf (types.take (k + 1)) then
        getZ wt ((b : Int) + 1 + (window : Int) - ((k + 1 : Nat) : Int)) else 0)
      = occF types p wt b window ((0 : Int) + (k : Int)) := by
  have hx : (b : Int) + 1 + (window : Int) - ((k + 1 : Nat) : Int) = (b : Int) + (window : Int) - (0 + (k : Int)) := by
    omega
  unfold occF
  rw [hx]
  by_cases hle : p.length ≤ k + 1
  · rw [suffix_take_matchZ p types (tz types) 0 (fun j _ => by rw [Int.zero_add, tz_nat]) k hk hle]
  · have h1 : p.isSuffixOf (types.take (k + 1)) = false := by
      rw [Bool.eq_false_iff]
      intro h
      have := (List.isSuffixOf_iff_suffix.mp h).length_le
      rw [List.length_take] at this
      omega
    have h2 : matchZ p (tz types) (0 + (k : Int)) = false := by
      rw [Bool.eq_false_iff]
      intro h
      have := (matchZ_tz_bounds p types hp hl _ h).1
      omega
    rw [h1, h2]

/-- per n-gram: the matches inside the window are the occurrences that reach boundary `b` -/
theorem cache_ngram (hp : ∀ t ∈ p, 1 ≤ t) (hl : 1 ≤ p.length) (hl2 : p.length ≤ 2 * window)
    (hwt : wt.length = 2 * window - p.length + 1) :
    ((List.range (2 * window)).map fun (k : Nat) =>
        if p.isSuffixOf ((cwin types b window).take (k + 1)) then
          (wt[2 * window - (k + 1)]?).getD 0 else 0).sum
      = ((occEnds p types).map fun (e : Nat) => getZ wt ((b : Int) + 1 + (window : Int) - (e : Int))).sum := by
  rw [occ_sum,
    isum_map_congr (List.range (2 * window)) _ _
      (fun k hk => cwin_term types p wt b window hl2 hwt k (List.mem_range.mp hk)),
    isum_map_congr (List.range types.length) _ _
      (fun k hk => types_term types p wt b window hp hl k (List.mem_range.mp hk))]
  -- both are sums of `occF` over an interval that contains its support: widen both to the same interval
  have hs := occF_support types p wt b window hp hl hl2 hwt
  have e1 := isumRange_extend (occF types p wt b window) 0 types.length window (b + 1 + window)
    (fun x hx => (hs x hx).1)
  have e2 := isumRange_extend (occF types p wt b window) ((b : Int) + 1 - (window : Int)) (2 * window) (b + 1)
    types.length (fun x hx => (hs x hx).2)
  have ha : (b : Int) + 1 - (window : Int) - ((b + 1 : Nat) : Int) = 0 - ((window : Nat) : Int) := by omega
  have hn : b + 1 + 2 * window + types.length = window + types.length + (b + 1 + window) := by omega
  rw [ha, hn] at e2
  exact e2.symm.trans e1

end

/-- a sum over all matches of the n-grams in `seq`, regrouped by n-gram: `F d e` is what a match of `d` ending at `e` adds -/
theorem isum_matchesAll (ngrams : List (NgramData Nat)) (seq : List Nat) (F : NgramData Nat → Nat → Int) :
    ((matchesAll (ngrams.map (·.ngram)) seq).map fun m => F (ngrams.getD m.2 ⟨[], []⟩) m.1).sum
      = (ngrams.map fun d => ((List.range seq.length).map fun (k : Nat) =>
          if d.ngram.isSuffixOf (seq.take (k + 1)) then F d (k + 1) else 0).sum).sum := by
  unfold matchesAll
  rw [isum_flatMap, List.length_map, ← isum_range_getElem ngrams
    (fun id => ((List.range seq.length).map fun (k : Nat) =>
      if ((ngrams.map (·.ngram)).getD id []).isSuffixOf (seq.take (k + 1)) then F (ngrams.getD id ⟨[], []⟩) (k + 1) else 0).sum),
    isum_comm]
  · apply isum_map_congr
    intro k _
    rw [isum_filterMap]
    apply isum_map_congr
    intro id _
    by_cases hs : ((ngrams.map (·.ngram)).getD id []).isSuffixOf (seq.take (k + 1)) = true
    · simp only [hs, if_true]
    · simp only [hs]
      rfl
  · intro id d hid
    have hg1 : (ngrams.map (·.ngram)).getD id [] = d.ngram := by
      rw [List.getD_eq_getElem?_getD, List.getElem?_map, hid]; rfl
    have hg2 : ngrams.getD id ⟨[], []⟩ = d := by
      rw [List.getD_eq_getElem?_getD, hid]; rfl
    simp only [hg1, hg2]

section
variable (ngrams : List (NgramData Nat)) (window : Nat) (types : List Nat)
  (hshape : ∀ d ∈ ngrams, 1 ≤ d.ngram.length ∧ d.ngram.length ≤ 2 * window ∧
    d.weights.length = 2 * window - d.ngram.length + 1 ∧ ∀ t ∈ d.ngram, 1 ≤ t ∧ t ≤ 6)
  (ht : ∀ t ∈ types, 1 ≤ t ∧ t ≤ 6)
include hshape ht

theorem cacheEntry_correct (b : Nat) :
    cacheEntry ngrams window (seqAt window types (b + window + 1)) = ngramScore window ngrams types b := by
  have h7 : (cwin types b window).contains 7 = false := by
    rw [Bool.eq_false_iff]
    intro hc
    rw [List.contains_iff_mem] at hc
    unfold cwin at hc
    obtain ⟨k, _, hk⟩ := List.mem_map.mp hc
    have := tz_le types ht ((b : Int) + 1 - (window : Int) + (k : Int))
    omega
  unfold cacheEntry
  simp only [seqOfId_seqAt window types ht b, h7]
  rw [if_neg (by simp)]
  refine (isum_matchesAll ngrams _ fun d e => match d.weights[2 * window - e]? with | some w => w | none => 0).trans ?_
  rw [cwin_length]
  apply isum_map_congr
  intro d hd
  obtain ⟨h1, h2, h3, h4⟩ := hshape d hd
  refine Eq.trans (isum_map_congr _ _ _ fun k _ => ?_)
    (cache_ngram types d.ngram d.weights b window (fun t ht' => (h4 t ht').1) h1 h2 h3)
  cases d.weights[2 * window - (k + 1)]? <;> rfl

/-- `TypeScorerBoundaryCache::add_scores` does not panic and adds to every visible slot the type n-gram score of its
boundary -/
theorem cache_correct (nB : Nat) (buf : List Int) (hbuf : padding + nB ≤ buf.length) :
    ∃ r, cacheAddScores ngrams window types nB buf = .ok r ∧ r.length = buf.length ∧
      ∀ b, b < nB →
        r.getD (padding + b) 0 = buf.getD (padding + b) 0 + ngramScore window ngrams types b := by
  rw [cacheAddScores_eq, if_pos hbuf]
  have hgo := cache_go window types ngrams 0 nB []
  rw [Nat.zero_add, ← List.range_eq_range', List.nil_append] at hgo
  rw [hgo]
  have hp7 : padding ≤ buf.length := by omega
  refine ⟨_, rfl, addAt_length _ _ _ hp7, fun b hb => ?_⟩
  rw [addAt_getD _ _ _ hp7 _ (by omega)]
  congr 1
  have hx : ((padding + b : Nat) : Int) - (padding : Int) = (b : Int) := by omega
  rw [hx, getZ_nat, List.getD_eq_getElem?_getD, List.getElem?_map, List.getElem?_range hb]
  exact cacheEntry_correct ngrams window types hshape ht b

end

end V.C01L
