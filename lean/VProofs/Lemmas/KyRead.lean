import VProofs.Lemmas.KyStrict
import VProofs.Lemmas.KySize
import VProofs.Lemmas.BinUtf8
/-!
# C17 — `readKytea` on the file of a well-formed description

`strict_kytea`: `readKytea (encodeKytea k ++ r) = .ok (reprKytea k, r)` and every proper prefix is rejected.

Where an encoder nests its `++` differently from the reader's binds, the encoding is left open (`apply StrictAt.congr`),
filled in by the fields, and compared with the encoder at the end.
-/
namespace V.C17L
open V V.Ky
open V.Bin (Bytes leBytes leValue utf8Encode utf8Decode? utf8EncodeChar)

variable {α β : Type}

theorem splitAfter_append {d : UInt8} : ∀ {c : Bytes} (r : Bytes), d ∉ c →
    splitAfter d (c ++ r) = (c ++ (splitAfter d r).1, (splitAfter d r).2)
  | [], _, _ => rfl
  | b :: t, r, h => by
    rw [List.mem_cons, not_or] at h
    rw [List.cons_append, splitAfter, if_neg (fun e => h.1 e.symm), splitAfter_append r h.2]
    rfl

theorem soft_until {d : UInt8} {c : Bytes} (hc : d ∉ c) (g : Bytes → Rd α) (v : α)
    (hv : ∀ r, g (c ++ [d]) r = .ok (v, r)) (hg : ∀ x, EmptySoft (g x)) :
    SoftAt (Rd.bind (readUntil d) g) v (c ++ [d]) := by
  constructor
  · intro r
    simp only [Rd.bind, readUntil, List.append_assoc, splitAfter_append _ hc, List.singleton_append, splitAfter, if_true]
    exact hv r
  · intro p hp hne
    have hpc : p <+: c := by
      rcases BinL.prefix_append_cases hp with ⟨h1, _⟩ | ⟨q, rfl, hq⟩
      · exact h1
      · rcases List.prefix_cons_iff.1 hq with rfl | ⟨t, rfl, ht⟩
        · simp
        · rw [List.prefix_nil.1 ht] at hne; exact absurd rfl hne
    have hdp : d ∉ p := fun h => hc (hpc.subset h)
    have : Rd.bind (readUntil d) g p = g p [] := by
      have := splitAfter_append [] hdp
      rw [List.append_nil] at this
      simp only [Rd.bind, readUntil, this, splitAfter, List.append_nil]
    rw [this]
    exact hg p

theorem soft_line : SoftAt readLine tagChars tagLine := by
  rw [show tagLine = tagLine.dropLast ++ [10] by decide +kernel]
  unfold readLine
  refine soft_until (by decide +kernel) _ tagChars ?_ ?_
  · intro r
    have : utf8Decode? (tagLine.dropLast ++ [10]) = some tagChars := by decide +kernel
    simp only [this]; rfl
  · intro x
    cases h : utf8Decode? x with
    | none => exact Or.inl ⟨.io, rfl⟩
    | some s => exact Or.inr ⟨s, rfl⟩

theorem zero_not_mem_utf8EncodeChar {c : Char} (hc : c ≠ Char.ofNat 0) : (0 : UInt8) ∉ utf8EncodeChar c := by
  have hne : c.toNat ≠ 0 := fun h => hc (Char.toNat_inj.1 h)
  have ne0 : ∀ {b : UInt8} {x : Nat}, b.toNat = x → x ≠ 0 → (0 : UInt8) ≠ b := fun hb hx e => hx (hb ▸ e ▸ rfl)
  have hi : ∀ {a : Nat} (x : Nat), 0 < a → a + x ≠ 0 := fun x ha => Nat.ne_of_gt (Nat.add_pos_left ha x)
  have nc : ∀ {b : UInt8} {x : Nat}, BinL.Cont b x → (0 : UInt8) ≠ b := fun h => ne0 h.1 (hi _ (by decide))
  rcases BinL.utf8EncodeChar_cases c with ⟨_, b0, e, h0⟩ | ⟨b0, b1, x0, x1, e, h0, h1, _⟩ |
    ⟨b0, b1, b2, x0, x1, x2, e, h0, h1, h2, _⟩ | ⟨b0, b1, b2, b3, x0, x1, x2, x3, e, h0, h1, h2, h3, _⟩
  · rw [e, List.mem_singleton]
    exact ne0 h0 hne
  · simp only [e, List.mem_cons, List.not_mem_nil, or_false, not_or]
    exact ⟨ne0 h0 (hi x0 (by decide)), nc h1⟩
  · simp only [e, List.mem_cons, List.not_mem_nil, or_false, not_or]
    exact ⟨ne0 h0 (hi x0 (by decide)), nc h1, nc h2⟩
  · simp only [e, List.mem_cons, List.not_mem_nil, or_false, not_or]
    exact ⟨ne0 h0 (hi x0 (by decide)), nc h1, nc h2, nc h3⟩

theorem zero_not_mem_utf8Encode : ∀ {s : List Char}, Char.ofNat 0 ∉ s → (0 : UInt8) ∉ utf8Encode s := by
  intro s
  induction s with
  | nil => intro _; simp [utf8Encode]
  | cons c t ih =>
    intro h
    simp only [List.mem_cons, not_or] at h
    rw [BinL.utf8Encode_cons]
    intro hm
    rcases List.mem_append.1 hm with hm | hm
    · exact zero_not_mem_utf8EncodeChar (fun e => h.1 e.symm) hm
    · exact ih h.2 hm

theorem utf8Encode_append_nul (s : List Char) : utf8Encode (s ++ [Char.ofNat 0]) = utf8Encode s ++ [0] := by
  have : utf8EncodeChar (Char.ofNat 0) = [0] := by decide
  simp [utf8Encode, this]

theorem soft_charMap {cm : List Char} (h : Char.ofNat 0 ∉ cm) :
    SoftAt readCharMap (cm ++ [Char.ofNat 0]) (utf8Encode cm ++ [0]) := by
  unfold readCharMap
  refine soft_until (zero_not_mem_utf8Encode h) _ _ ?_ ?_
  · intro r
    have : utf8Decode? (utf8Encode cm ++ [0]) = some (cm ++ [Char.ofNat 0]) := by
      rw [← utf8Encode_append_nul, BinL.utf8Decode_encode]
    simp only [this]; rfl
  · intro x
    cases h : utf8Decode? x with
    | none => exact Or.inl ⟨.utf8, rfl⟩
    | some s => exact Or.inr ⟨s, rfl⟩

/-- soft at both ends (`read_line`, `read_until(0)`), strict fields between them -/
theorem soft_config (k : AbsKytea) (wf : WFKytea k) : SoftAt readConfig (reprConfig k) (encHeader k) := by
  apply SoftAt.congr
  · unfold readConfig
    apply SoftAt.bind soft_line (hf := fun _ => Or.inl ⟨.io, rfl⟩)
    apply StrictAt.bind_soft strict_true
    apply StrictAt.bind_soft strict_false
    apply StrictAt.bind_soft (strict_u32 wf.nTags)
    apply StrictAt.bind_soft (strict_u8 wf.charW)
    apply StrictAt.bind_soft (strict_u8 wf.charN)
    apply StrictAt.bind_soft (strict_u8 wf.typeW)
    apply StrictAt.bind_soft (strict_u8 wf.typeN)
    apply StrictAt.bind_soft (strict_u8 wf.dictN.2)
    apply StrictAt.bind_soft strict_true
    apply StrictAt.bind_soft (strict_f64 (b := epsilonBytes) rfl)
    apply StrictAt.bind_soft (strict_u8 (n := 1) (by decide))
    exact SoftAt.bind (soft_charMap wf.mapNul) (StrictAt.pure _).soft (fun _ => Or.inr ⟨_, rfl⟩)
  · simp only [encHeader, List.append_assoc, List.append_nil]

/-- gotos are written in descending order and sorted by the reader -/
theorem strict_state {cm : List Char} (tail : List Char) (st : KState) (hlen : cm.length < 65535)
    (hf : st.failure < 2 ^ 32) (hasc : CharAsc st.gotos) (hg : ∀ g ∈ st.gotos, g.1 ∈ cm ∧ g.2 < 2 ^ 32)
    (hgl : st.gotos.length < 2 ^ 32) (ho : ∀ o ∈ st.outputs, o < 2 ^ 32) (hol : st.outputs.length < 2 ^ 32) :
    StrictAt (readState (cm ++ tail)) st (encState cm st) := by
  have h : StrictAt (readState (cm ++ tail)) ⟨st.failure, sortGotos st.gotos.reverse, st.outputs, st.isBranch⟩
      (encState cm st) := by
    apply StrictAt.congr
    · unfold readState
      apply StrictAt.bind (strict_u32 hf)
      apply StrictAt.bind (strict_vec (encGoto cm) st.gotos.reverse (by rwa [List.length_reverse]) fun g hg' =>
        StrictAt.bind (strict_char tail (hg g (List.mem_reverse.1 hg')).1 hlen)
          (StrictAt.map (fun v => (g.1, v)) (strict_u32 (hg g (List.mem_reverse.1 hg')).2)))
      apply StrictAt.bind (strict_vec encU32 st.outputs hol (fun o h => strict_u32 (ho o h)))
      exact StrictAt.map _ (strict_bool st.isBranch)
    · simp only [encState, List.append_assoc]
  rw [sortGotos_reverse hasc] at h
  exact h

theorem strict_dict_none {τ : Type} (cm' : List Char) (rd : Rd τ) {nD : Nat} (h : nD < 256) :
    StrictAt (readDict cm' rd) none (encU8 nD ++ encU32 0) := by
  unfold readDict
  apply StrictAt.bind (strict_u8 h)
  refine (StrictAt.bind (strict_u32 (n := 0) (by decide)) ?_).congr (List.append_nil _)
  exact StrictAt.pure none

theorem strict_trieState {cm : List Char} (tail : List Char) (keys : List (List Char)) (hlen : cm.length < 65535)
    (hkc : ∀ key ∈ keys, ∀ c ∈ key, c ∈ cm) (hkl : keys.length < 2 ^ 32) (hs : (trieStates keys).length < 2 ^ 32)
    (st : KState) (hst : st ∈ trieStates keys) : StrictAt (readState (cm ++ tail)) st (encState cm st) := by
  obtain ⟨i, hi⟩ := List.mem_iff_getElem?.1 hst
  have hasc := trieStates_asc keys i st hi
  obtain ⟨p, hp, rfl⟩ := trieStates_getElem? hi
  rw [trieStates_length] at hs
  refine strict_state tail _ hlen (show 0 < 2 ^ 32 by decide) hasc ?_ ?_ ?_ ?_
  · intro g hg
    obtain ⟨hm, hi⟩ := mem_trieState_gotos.1 hg
    constructor
    · rcases mem_trieNodes.1 hm with h | ⟨key, hk, hpre⟩
      · exact absurd h (List.append_ne_nil_of_right_ne_nil _ (List.cons_ne_nil _ _))
      · exact hkc key hk g.1 (hpre.subset (List.mem_append_right _ List.mem_cons_self))
    · rw [hi]
      exact Nat.lt_trans (List.idxOf_lt_length_of_mem hm) hs
  · have h1 : (trieState keys (trieNodes keys) p).gotos.length = (childrenOf (trieNodes keys) p).length :=
      (sortGotos_perm _).length_eq
    have h2 : (childrenOf (trieNodes keys) p).length ≤ (trieNodes keys).length := List.length_filterMap_le _ _
    omega
  · intro o ho
    simp only [trieState] at ho
    cases hl : lastIdx p keys with
    | none => rw [hl] at ho; cases ho
    | some e =>
      rw [hl, List.mem_singleton] at ho
      subst ho
      exact Nat.lt_trans (List.getElem?_eq_some_iff.1 (lastIdx_some hl)).1 hkl
  · simp only [trieState]
    cases lastIdx p keys
    · exact (show 0 < 2 ^ 32 by decide)
    · exact (show 1 < 2 ^ 32 by decide)

theorem strict_dict_some {σ τ : Type} {cm : List Char} (tail : List Char) (rd : Rd τ) (enc : σ → Bytes) (val : σ → τ)
    (nD : Nat) (keys : List (List Char)) (src : List σ) (hnD : nD < 256) (hlen : cm.length < 65535)
    (hk : keys ≠ []) (hkc : ∀ key ∈ keys, ∀ c ∈ key, c ∈ cm) (hkl : keys.length < 2 ^ 32)
    (hs : (trieStates keys).length < 2 ^ 32) (hel : src.length < 2 ^ 32)
    (he : ∀ x ∈ src, StrictAt rd (val x) (enc x)) :
    StrictAt (readDict (cm ++ tail) rd) (some ⟨nD, trieStates keys, src.map val⟩) (encDict cm nD keys enc src) := by
  have hne : (trieStates keys).length ≠ 0 := by
    rw [trieStates_length]; exact Nat.ne_of_gt (trieNodes_length_pos keys)
  apply StrictAt.congr
  · unfold readDict
    apply StrictAt.bind (strict_u8 hnD)
    apply StrictAt.bind (strict_u32 hs)
    simp only [readDictBody, if_neg hne]
    apply StrictAt.bind (StrictAt.rep (encState cm) (trieStates keys) (strict_trieState tail keys hlen hkc hkl hs))
    exact StrictAt.map _ (strict_vecMap enc val src hel he)
  · rw [encDict_ne_nil cm nD hk]
    simp only [List.append_assoc]

theorem strict_ngramDict {cm : List Char} (tail : List Char) (hlen : cm.length < 65535)
    (w : Nat) (l : List (List Char × List Int)) (hne : l ≠ []) (hwf : ∀ e ∈ l, WFNgram cm w e)
    (hfit : (encDict cm 0 (l.map (·.1)) encI16s (l.map (·.2))).length < 2 ^ 32) :
    StrictAt (readDict (cm ++ tail) (readVec readI16))
      (some ⟨0, trieStates (l.map (·.1)), l.map (·.2)⟩) (encDict cm 0 (l.map (·.1)) encI16s (l.map (·.2))) := by
  obtain ⟨hc, hv⟩ := ngram_bounds cm l hne
  have hstates := Nat.lt_of_le_of_lt (encDict_bounds cm 0 (l.map (·.1)) encI16s (l.map (·.2))).1 hfit
  have hcount : l.length < 2 ^ 32 := Nat.lt_of_le_of_lt hc hfit
  have hkeys : ∀ key ∈ l.map (·.1), ∀ c ∈ key, c ∈ cm := by
    intro key hk c hc
    obtain ⟨e, he, rfl⟩ := List.mem_map.1 hk
    exact (hwf e he).chars c hc
  have hvecs : ∀ v ∈ l.map (·.2), StrictAt (readVec readI16) (id v) (encI16s v) := by
    intro v hv'
    obtain ⟨e, he, rfl⟩ := List.mem_map.1 hv'
    exact strict_i16s e.2 (hwf e he).i16 (Nat.lt_of_le_of_lt (hv e he) hfit)
  have := strict_dict_some tail (readVec readI16) encI16s id 0 _ _ (by decide) hlen (mt List.map_eq_nil_iff.1 hne)
    hkeys ((List.length_map _).symm ▸ hcount) hstates ((List.length_map _).symm ▸ hcount) hvecs
  rwa [List.map_id] at this

theorem strict_lookup (k : AbsKytea) (wf : WFKytea k) (tail : List Char) :
    StrictAt (readLookup (k.charMap ++ tail)) (some (reprLookup k)) (encLookup k) := by
  obtain ⟨hc, ht, hv, _⟩ := file_parts k
  have fit : ∀ {p : Bytes}, p.Sublist (encodeKytea k) → p.length < 2 ^ 32 :=
    fun h => Nat.lt_of_le_of_lt h.length_le wf.small
  rw [reprLookup, reprDict_ne_nil 0 (mt List.map_eq_nil_iff.1 wf.charSome),
    reprDict_ne_nil 0 (mt List.map_eq_nil_iff.1 wf.typeSome)]
  apply StrictAt.congr
  · unfold readLookup
    apply StrictAt.bind (strict_u8 (n := 1) (by decide))
    show StrictAt (readLookupBody (k.charMap ++ tail)) _ _
    unfold readLookupBody
    apply StrictAt.bind (strict_ngramDict tail wf.mapLen k.charW k.charNgrams wf.charSome wf.charNgrams (fit hc))
    apply StrictAt.bind (strict_ngramDict tail wf.mapLen k.typeW k.typeNgrams wf.typeSome
      (fun e he => (wf.typeNgrams e he).1) (fit ht))
    apply StrictAt.bind (strict_dict_none _ _ (nD := 0) (by decide))
    apply StrictAt.bind (strict_i16s k.dictVec wf.dictVec16 (Nat.lt_of_le_of_lt (length_le_encI16s _) (fit hv)))
    apply StrictAt.bind (strict_i16s [k.bias] (fun x hx => List.mem_singleton.1 hx ▸ wf.bias)
      (show 1 < 2 ^ 32 by decide))
    apply StrictAt.bind (strict_i16s [] (fun _ h => absurd h List.not_mem_nil) (by decide))
    exact StrictAt.map _ (strict_i16s [] (fun _ h => absurd h List.not_mem_nil) (by decide))
  · simp only [encLookup, encDict_nil, List.append_assoc]

theorem strict_linear_none (cm' : List Char) : StrictAt (readLinear cm') none (encU32 0) := by
  unfold readLinear
  refine (StrictAt.bind (strict_u32 (n := 0) (by decide)) ?_).congr (List.append_nil _)
  exact StrictAt.pure none

theorem strict_wordseg (k : AbsKytea) (wf : WFKytea k) (tail : List Char) :
    StrictAt (readLinear (k.charMap ++ tail)) (some (reprWordseg k)) (encWordseg k) := by
  apply StrictAt.congr
  · unfold readLinear
    apply StrictAt.bind (strict_u32 (n := 2) (by decide))
    unfold readLinearBody
    rw [if_neg (by decide)]
    apply StrictAt.bind (strict_u8 (n := 1) (by decide))
    have hlabels : ∀ x ∈ [1, 0xffffffff], StrictAt readU32 x (encU32 x) := by
      intro x hx
      simp only [List.mem_cons, List.not_mem_nil, or_false] at hx
      rcases hx with rfl | rfl <;> exact strict_u32 (by decide)
    apply StrictAt.bind (StrictAt.rep encU32 [1, 0xffffffff] hlabels)
    apply StrictAt.bind strict_true
    apply StrictAt.bind (strict_f64 (b := oneBytes) rfl)
    exact StrictAt.map _ (strict_lookup k wf tail)
  · simp only [encWordseg, List.flatMap_cons, List.flatMap_nil, List.append_assoc, List.append_nil]

theorem strict_global (cm : List Char) (tail : List Char) :
    StrictAt (readGlobal (cm ++ tail)) ([], none) (encU32 0 ++ encU32 0) := by
  unfold readGlobal
  have h1 : StrictAt (readVec (readString (cm ++ tail))) [] (encU32 0) :=
    (strict_vec (fun _ => []) [] (by decide) (fun _ h => absurd h List.not_mem_nil)).congr (List.append_nil _)
  exact StrictAt.bind h1 (StrictAt.map (fun m => ([], m)) (strict_linear_none _))

theorem strict_slot {cm' : List Char} {w : List Char} {ew : Bytes} (hstr : StrictAt (readString cm') w ew) (t : Nat) :
    StrictAt (readVec (Rd.bind (readString cm') fun s => Rd.bind readU8 fun td => Rd.pure (s, td)))
      (if t = 0 then [(w, 1)] else []) (if t = 0 then encU32 1 ++ (ew ++ encU8 1) else encU32 0) := by
  by_cases ht : t = 0
  · rw [if_pos ht, if_pos ht]
    refine (strict_vec (fun _ => ew ++ encU8 1) [(w, 1)] (show 1 < 2 ^ 32 by decide) ?_).congr ?_
    · intro p hp
      rw [List.mem_singleton.1 hp]
      exact StrictAt.bind hstr (StrictAt.map (fun td => (w, td)) (strict_u8 (n := 1) (by decide)))
    · simp only [encVecOf, List.flatMap_cons, List.flatMap_nil, List.append_nil, List.length_singleton]
  · rw [if_neg ht, if_neg ht]
    exact (strict_vec (fun _ => []) [] (by decide) (fun _ h => absurd h List.not_mem_nil)).congr (List.append_nil _)

theorem strict_tagEntry (k : AbsKytea) (wf : WFKytea k) (tail : List Char) (e : List Char × Nat) (he : e ∈ k.words)
    (hwl : e.1.length < 2 ^ 32) :
    StrictAt (readTagEntry (k.charMap ++ tail) k.nTags) (reprTagEntry k e) (encTagEntry k e) := by
  obtain ⟨hchars, _, hmask⟩ := wf.words e he
  have hm : e.2 < 256 :=
    Nat.lt_of_lt_of_le hmask (Nat.pow_le_pow_right (by decide) wf.nDicts)
  have hstr := strict_string tail e.1 hchars wf.mapLen hwl
  have hslots := StrictAt.repMap _ _ (List.range k.nTags) fun t _ => strict_slot hstr t
  rw [List.length_range] at hslots
  apply StrictAt.congr
  · unfold readTagEntry
    apply StrictAt.bind hstr
    apply StrictAt.bind hslots
    apply StrictAt.bind (strict_u8 hm)
    exact StrictAt.map _ (StrictAt.rep_const (strict_linear_none _) k.nTags)
  · simp only [encTagEntry, encTagSlots, List.append_assoc]

theorem strict_wordDict (k : AbsKytea) (wf : WFKytea k) (tail : List Char) :
    StrictAt (readDict (k.charMap ++ tail) (readTagEntry (k.charMap ++ tail) k.nTags))
      (reprDict k.nDicts (k.words.map (·.1)) (k.words.map (reprTagEntry k)))
      (encDict k.charMap k.nDicts (k.words.map (·.1)) (encTagEntry k) k.words) := by
  have hnD : k.nDicts < 256 := Nat.lt_of_le_of_lt wf.nDicts (by decide)
  by_cases hw : k.words = []
  · rw [hw]
    exact strict_dict_none _ _ hnD
  · have hfit := Nat.lt_of_le_of_lt (file_parts k).2.2.2.length_le wf.small
    have hk : k.words.map (·.1) ≠ [] := mt List.map_eq_nil_iff.1 hw
    obtain ⟨hc, hl⟩ := word_bounds k hw
    have hcount : k.words.length < 2 ^ 32 := Nat.lt_of_le_of_lt hc hfit
    rw [reprDict_ne_nil _ hk]
    refine strict_dict_some tail _ (encTagEntry k) (reprTagEntry k) k.nDicts _ k.words hnD wf.mapLen hk ?_
      (by rwa [List.length_map]) (Nat.lt_of_le_of_lt (encDict_bounds ..).1 hfit) hcount
      (fun e he => strict_tagEntry k wf tail e he (Nat.lt_of_le_of_lt (hl e he) hfit))
    intro key hkey c hc
    obtain ⟨e, he, rfl⟩ := List.mem_map.1 hkey
    exact (wf.words e he).1 c hc

theorem strict_rest (k : AbsKytea) (wf : WFKytea k) :
    StrictAt (readRest (reprConfig k)) (reprKytea k)
      (encWordseg k ++ (encGlobals k ++ (encDict k.charMap k.nDicts (k.words.map (·.1)) (encTagEntry k) k.words
        ++ (encU8 0 ++ encU32 0)))) := by
  unfold readRest
  apply StrictAt.bind (strict_wordseg k wf [Char.ofNat 0])
  apply StrictAt.bind (StrictAt.rep_const (strict_global k.charMap _) k.nTags)
  apply StrictAt.bind (strict_wordDict k wf _)
  exact StrictAt.map _ (strict_dict_none _ _ (nD := 0) (by decide))

theorem strict_kytea (k : AbsKytea) (wf : WFKytea k) : StrictAt readKytea (reprKytea k) (encodeKytea k) :=
  (SoftAt.bind_strict (soft_config k wf) (strict_rest k wf) (fun _ => ⟨.io, rfl⟩)).congr
    (by simp only [encodeKytea, encGlobals, encDict_nil, List.append_assoc])

end V.C17L
