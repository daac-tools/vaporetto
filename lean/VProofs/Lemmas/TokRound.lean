import VProofs.Lemmas.Tok
import VProofs.Lemmas.TokWrite
import VProofs.Lemmas.TokNul
import VProofs.C02
/-!
The parser run over the whole written sentence, and the round-trip statement in terms of
`tagsAt` (= `tokenTagsTrim`).
-/
namespace V

/-- the sentences C03 quantifies over: non-empty NUL-free text (spaces, slashes, backslashes allowed), a boundary
vector without unknowns, `n × nTags` tag slots whose present tags are non-empty and NUL-free -/
structure WFTok (s : Sentence) : Prop where
  text_ne : s.text ≠ []
  text_nul : ∀ c ∈ s.text, c ≠ '\x00'
  bounds_len : s.bounds.length + 1 = s.text.length
  no_unknown : ∀ b ∈ s.bounds, b ≠ B.U
  tags_len : s.tags.length = s.text.length * s.nTags
  tags_ok : ∀ t, some t ∈ s.tags → t ≠ [] ∧ ∀ c ∈ t, c ≠ '\x00'

end V

namespace V.C03L

theorem escTok_cons_ne_nil (c : Char) (cs : List Char) : escTok (c :: cs) ≠ [] := by
  simp only [escTok]
  split <;> simp

theorem run_rest_tokens (s : Sentence) (hnul : NulFree s.text)
    (htag : ∀ t, some t ∈ s.tags → NulFree t) :
    ∀ (toks : List (Nat × Nat)) (σ : TokSt) (text : List Char) (bounds : List B) (tt : List (List (List Char))),
      Done σ text bounds tt → text ≠ [] → (∀ se ∈ toks, se.1 < se.2 ∧ se.2 ≤ s.text.length) →
      ∃ σ', tokRun σ (writeSpec s toks false) = .ok σ' ∧
        Done σ' (text ++ toks.flatMap (slice s.text)) (bounds ++ tokBounds toks false) (tt ++ tokTT s toks) := by
  intro toks
  induction toks with
  | nil =>
    intro σ text bounds tt hd _ _
    exact ⟨σ, rfl, by simpa [tokBounds, tokTT] using hd⟩
  | cons se r ih =>
    intro σ text bounds tt hd htx h
    obtain ⟨c, cs, hsl, hcs⟩ := slice_cons (h se (by simp))
    have hc : NulFree (c :: cs) := fun d hd => hnul d (mem_of_mem_slice (hsl ▸ hd))
    obtain ⟨σ1, r1, d1⟩ := run_sep_token hd htx c cs (tagsAt s.tags s.nTags se.2) hc (fun t ht => htag t (mem_tagsAt ht)) (writeSpec s r false)
    obtain ⟨σ2, r2, d2⟩ := ih σ1 _ _ _ d1 (by simp) (fun x hx => h x (by simp [hx]))
    refine ⟨σ2, ?_, ?_⟩
    · rw [← r2, ← r1]
      simp [writeSpec, tokOut, hsl]
    · simpa [List.flatMap_cons, hsl, tokBounds, tokTT, hcs, tokG] using d2

theorem run_all_tokens (s : Sentence) (hnul : NulFree s.text)
    (htag : ∀ t, some t ∈ s.tags → NulFree t)
    (toks : List (Nat × Nat)) (hne : toks ≠ []) (h : ∀ se ∈ toks, se.1 < se.2 ∧ se.2 ≤ s.text.length) :
    ∃ σ', tokRun {} (writeSpec s toks true) = .ok σ' ∧ writeSpec s toks true ≠ [] ∧
      Done σ' (toks.flatMap (slice s.text)) (tokBounds toks true) (tokTT s toks) := by
  cases toks with
  | nil => exact absurd rfl hne
  | cons se r =>
    obtain ⟨c, cs, hsl, hcs⟩ := slice_cons (h se (by simp))
    have hc : NulFree (c :: cs) := fun d hd => hnul d (mem_of_mem_slice (hsl ▸ hd))
    obtain ⟨σ1, r1, d1⟩ := run_first_token c cs (tagsAt s.tags s.nTags se.2) hc (fun t ht => htag t (mem_tagsAt ht)) (writeSpec s r false)
    obtain ⟨σ2, r2, d2⟩ := run_rest_tokens s hnul htag r σ1 _ _ _ d1 (by simp)
      (fun x hx => h x (by simp [hx]))
    refine ⟨σ2, ?_, ?_, ?_⟩
    · rw [← r2, ← r1]
      simp [writeSpec, tokOut, hsl]
    · have := escTok_cons_ne_nil c cs
      simp [writeSpec, tokOut, hsl, this]
    · simpa [List.flatMap_cons, hsl, tokBounds, tokTT, hcs, tokG] using d2

theorem tokens_good (s : Sentence) (wf : WFTok s) :
    ∀ se ∈ iterTokens s.bounds, se.1 < se.2 ∧ se.2 ≤ s.text.length := fun se hse => by
  have := iterTokens_range s.bounds se hse
  rw [wf.bounds_len] at this
  exact this

theorem roundtrip (s : Sentence) (wf : WFTok s) :
    ∃ w p, s.writeTokenized = .ok w ∧ parseTokenized w = .ok p ∧
      p.text = s.text ∧ p.bounds = s.bounds ∧
      ∀ se ∈ iterTokens s.bounds,
        tagsAt p.tags (p.tags.length / p.text.length) se.2 = tagsAt s.tags s.nTags se.2 := by
  have hchain := C02_partition_chain s.bounds wf.no_unknown
  rw [wf.bounds_len] at hchain
  have hgood := tokens_good s wf
  have hne : iterTokens s.bounds ≠ [] := by
    intro e; rw [e] at hchain; simp [IsChain] at hchain
  have htag : ∀ t, some t ∈ s.tags → NulFree t := fun t ht => (wf.tags_ok t ht).2
  obtain ⟨σ, hrun, hwne, hd⟩ := run_all_tokens s wf.text_nul htag _ hne hgood
  have htext := C02_partition_concat s.text s.bounds wf.no_unknown wf.bounds_len.symm
  have hbounds : tokBounds (iterTokens s.bounds) true = s.bounds := by
    rw [iterTokens_eq_spec, specTokens, tokBounds_specSeg s.bounds 0 0 true wf.no_unknown (Nat.le_refl _)]
    rfl
  obtain ⟨hTTlen, hTTget⟩ := tokTT_chain s _ 0 _ [] hchain rfl
  simp only [List.nil_append] at hTTlen hTTget
  rw [htext, hbounds] at hd
  refine ⟨writeSpec s (iterTokens s.bounds) true,
    ⟨s.text, s.bounds, padTags (maxLen (tokTT s (iterTokens s.bounds))) (tokTT s (iterTokens s.bounds))⟩,
    ?_, ?_, rfl, rfl, ?_⟩
  · exact writeTokBody_eq s wf.tags_len _ true hgood
  · rw [parseTokenized_eq, if_neg hwne, hrun]
    exact hd.finish wf.text_ne
  · intro se hse
    have hTTne : tokTT s (iterTokens s.bounds) ≠ [] := by
      intro e; rw [e] at hTTlen; exact wf.text_ne (List.length_eq_zero_iff.mp hTTlen.symm)
    have h1 := padTags_readback _ hTTne (se.2 - 1) (tagsAt s.tags s.nTags se.2) (hTTget se hse)
      (fun t ht => (wf.tags_ok t (mem_tagsAt ht)).1)
    rw [tagsAt_idem, hTTlen] at h1
    exact h1

theorem writeTokenized_eq (s : Sentence) (wf : WFTok s) :
    s.writeTokenized = .ok (writeSpec s (iterTokens s.bounds) true) :=
  writeTokBody_eq s wf.tags_len _ true (tokens_good s wf)

theorem ofParsed_fields {p : Parsed} {s : Sentence} (h : Sentence.ofParsed p = .ok s) :
    s.text = p.text ∧ s.bounds = p.bounds ∧ s.tags = p.tags ∧ s.nTags = p.tags.length / p.text.length := by
  unfold Sentence.ofParsed divTags at h
  split at h
  · next k hk =>
    split at hk
    · cases hk
    · injection hk with hk
      injection h with h
      subst h
      exact ⟨rfl, rfl, rfl, hk.symm⟩
  · cases h
  · cases h
  · cases h

theorem parsed_wf (x : List Char) (p : Parsed) (h : parseTokenized x = .ok p) :
    ∃ s, Sentence.ofParsed p = .ok s ∧ WFTok s := by
  have hg : GoodParsed p := (parseTokenized_all x).of_ok h
  obtain ⟨hd, hl⟩ := hg.divTags
  obtain ⟨hn1, hn2, hn3⟩ := parseTokenized_nul x p h
  refine ⟨_, by simp only [Sentence.ofParsed, hd]; rfl, ?_⟩
  exact ⟨hg.text_ne, hn1, hg.bounds_len, hn2, hl, hn3⟩

theorem fromTokenized_ok {x : List Char} {s : Sentence} (h : Sentence.fromTokenized x = .ok s) :
    ∃ p, parseTokenized x = .ok p ∧ Sentence.ofParsed p = .ok s := by
  unfold Sentence.fromTokenized at h
  cases hp : parseTokenized x with
  | ok p => rw [hp] at h; exact ⟨p, rfl, h⟩
  | err e => rw [hp] at h; cases h
  | panic q => rw [hp] at h; cases h
  | ub q => rw [hp] at h; cases h

theorem idempotent (x : List Char) (s : Sentence) (h : Sentence.fromTokenized x = .ok s) :
    ∃ w s', s.writeTokenized = .ok w ∧ Sentence.fromTokenized w = .ok s' ∧ s'.writeTokenized = .ok w := by
  obtain ⟨p, hp, hs⟩ := fromTokenized_ok h
  obtain ⟨s0, hs0, wf⟩ := parsed_wf x p hp
  rw [hs] at hs0
  injection hs0 with hs0
  subst hs0
  obtain ⟨w, p', hw, hp', ht, hb, htags⟩ := roundtrip s wf
  obtain ⟨s', hs', wf'⟩ := parsed_wf w p' hp'
  obtain ⟨f1, f2, f3, f4⟩ := ofParsed_fields hs'
  have hw2 := writeTokenized_eq s wf
  rw [hw] at hw2
  injection hw2 with hw2
  refine ⟨w, s', hw, ?_, ?_⟩
  · simp only [Sentence.fromTokenized, hp', hs']
  · rw [writeTokenized_eq s' wf', hw2, f2, hb]
    congr 1
    apply writeSpec_congr
    · rw [f1, ht]
    · intro se hse
      rw [f3, f4]
      exact htags se hse

end V.C03L
