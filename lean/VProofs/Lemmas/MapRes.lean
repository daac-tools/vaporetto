import VModel.Trainer
import VProofs.Lemmas.Base
/-!
What a successful `mapRes` (the trainer's `collect::<Result<_>>`) says about its input.
-/
namespace V

theorem mapRes_cons_ok {β γ : Type} {f : β → Res γ} {x : β} {xs : List β} {ys : List γ}
    (h : mapRes f (x :: xs) = .ok ys) : ∃ y r, f x = .ok y ∧ mapRes f xs = .ok r ∧ ys = y :: r := by
  simp only [mapRes] at h
  cases hx : f x with
  | ok y =>
    rw [hx] at h
    obtain ⟨r, hr, e⟩ := Res.map_eq_ok h
    exact ⟨y, r, rfl, hr, e.symm⟩
  | err _ => rw [hx] at h; cases h
  | panic _ => rw [hx] at h; cases h
  | ub _ => rw [hx] at h; cases h

theorem mapRes_length {β γ : Type} {f : β → Res γ} :
    ∀ {l : List β} {ys : List γ}, mapRes f l = .ok ys → ys.length = l.length
  | [], ys, h => by cases Res.ok.inj h; rfl
  | x :: xs, ys, h => by
    obtain ⟨y, r, _, h2, rfl⟩ := mapRes_cons_ok h
    rw [List.length_cons, List.length_cons, mapRes_length h2]

theorem mapRes_mem {β γ : Type} {f : β → Res γ} {l : List β} {ys : List γ} (h : mapRes f l = .ok ys) {y : γ}
    (hy : y ∈ ys) : ∃ x ∈ l, f x = .ok y := by
  induction l generalizing ys with
  | nil => cases Res.ok.inj h; cases hy
  | cons x xs ih =>
    obtain ⟨y0, r, h1, h2, rfl⟩ := mapRes_cons_ok h
    rcases List.mem_cons.mp hy with rfl | hy
    · exact ⟨x, List.mem_cons_self, h1⟩
    · obtain ⟨x', hx', hf⟩ := ih h2 hy
      exact ⟨x', List.mem_cons_of_mem _ hx', hf⟩

theorem mapRes_ok_map {β γ : Type} (f : β → Res γ) (g : β → γ) :
    ∀ l : List β, (∀ x ∈ l, f x = .ok (g x)) → mapRes f l = .ok (l.map g)
  | [], _ => rfl
  | x :: xs, h => by
    simp only [mapRes, h x List.mem_cons_self,
      mapRes_ok_map f g xs (fun y hy => h y (List.mem_cons_of_mem _ hy)), Res.map, List.map_cons]

theorem mem_of_mapRes {β γ : Type} {f : β → Res γ} :
    ∀ {l : List β} {ys : List γ}, mapRes f l = .ok ys → ∀ {x y}, x ∈ l → f x = .ok y → y ∈ ys
  | [], _, _, _, _, hx, _ => nomatch hx
  | x0 :: xs, ys, h, x, y, hx, hf => by
    obtain ⟨y0, r, h1, h2, rfl⟩ := mapRes_cons_ok h
    rcases List.mem_cons.mp hx with rfl | hx
    · rw [hf] at h1
      cases h1
      exact List.mem_cons_self
    · exact List.mem_cons_of_mem _ (mem_of_mapRes h2 hx hf)

theorem mapRes_safe {β γ : Type} (f : β → Res γ) : ∀ (l : List β), (∀ x ∈ l, (f x).Safe) → (mapRes f l).Safe
  | [], _ => trivial
  | x :: xs, h => by
    have hx := h x List.mem_cons_self
    rw [mapRes]
    cases hfx : f x with
    | ok y => exact Res.Safe.map _ (mapRes_safe f xs fun z hz => h z (List.mem_cons_of_mem _ hz))
    | err e => trivial
    | panic p => rw [hfx] at hx; exact hx
    | ub p => rw [hfx] at hx; exact hx

end V
