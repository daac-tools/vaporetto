import VModel.Spec
import VProofs.Lemmas.ScoreSum
import VProofs.Lemmas.AsmInv
import VProofs.Lemmas.FeatNgram
/-!
# C09: the n-gram part of the score

For a map satisfying `NgInv`, `ngramScore` over the stored vectors equals the sum of the weight function over the
n-gram features the trainer generates for the boundary.
-/
namespace V.C09L
open V V.C01L V.C10L


section
variable {α : Type} [DecidableEq α]

omit [DecidableEq α] in
theorem ngramFeats_eq (W N : Nat) (seq : List α) (i : Nat) :
    ngramFeats W N seq i = (List.range N).flatMap fun n =>
      (List.range' ((i + 1) - W) ((min (i + 1 + W) seq.length - n) - ((i + 1) - W))).map fun j =>
        ((seq.drop j).take (n + 1), (j : Int) - (i : Int) - 1) := rfl

omit [DecidableEq α] in
theorem ngramFeats_window (W N : Nat) (seq : List α) (i : Nat) (g : List α) (rel : Int)
    (h : (g, rel) ∈ ngramFeats W N seq i) :
    QN N g ∧ -(W : Int) ≤ rel ∧ rel + (g.length : Int) ≤ W := by
  obtain ⟨j, l, h1, h2, h3, h4, rfl, rfl⟩ := (mem_ngramFeats W N seq i g rel).mp h
  have hlen : ((seq.drop j).take l).length = l := by
    rw [List.length_take, List.length_drop]
    omega
  rw [QN, hlen]
  omega

/-- what an occurrence of `g` starting at `j` contributes to boundary `b` -/
def occTerm (W : Nat) (Fn : List α → Int → Int) (seq : List α) (b : Nat) (g : List α) (j : Nat) : Int :=
  if (seq.drop j).take g.length = g ∧ b + 1 ≤ j + W ∧ j + g.length ≤ b + 1 + W
  then Fn g ((j : Int) - (b : Int) - 1) else 0

theorem getZ_window (W : Nat) (F : Int → Int) (l : Nat) (v : List Int) (hl : v.length = 2 * W - l + 1) (hl2 : l ≤ 2 * W)
    (hval : ∀ idx : Int, 0 ≤ idx → idx < (v.length : Int) → getZ v idx = F ((W : Int) - (l : Int) - idx))
    (b j : Nat) :
    getZ v ((b : Int) + 1 + (W : Int) - ((j : Int) + (l : Int)))
      = if b + 1 ≤ j + W ∧ j + l ≤ b + 1 + W then F ((j : Int) - (b : Int) - 1) else 0 := by
  have hl' : (v.length : Int) = 2 * (W : Int) - (l : Int) + 1 := by omega
  clear hl hl2
  split
  · rw [hval _ (by omega) (by omega)]
    congr 1
    omega
  · by_cases h0 : (b : Int) + 1 + (W : Int) - ((j : Int) + (l : Int)) < 0
    · exact getZ_neg _ _ h0
    · exact getZ_ge _ _ (by omega)

/-- the occurrences of `g`, read off its vector, by start position -/
theorem occ_side (W : Nat) (Fn : List α → Int → Int) (seq : List α) (b : Nat) (g : List α) (v : List Int)
    (n : Nat) (hn : g.length = n + 1)
    (hwin : ∀ j : Nat, getZ v ((b : Int) + 1 + (W : Int) - ((j : Int) + (g.length : Int)))
      = if b + 1 ≤ j + W ∧ j + g.length ≤ b + 1 + W then Fn g ((j : Int) - (b : Int) - 1) else 0) :
    ((occEnds g seq).map fun (e : Nat) => getZ v ((b : Int) + 1 + (W : Int) - (e : Int))).sum
      = ((List.range (seq.length - n)).map (occTerm W Fn seq b g)).sum := by
  rw [occ_sum, ← isum_range_shift (occTerm W Fn seq b g) n seq.length]
  apply isum_map_congr
  intro k hk
  have hk' : k + 1 ≤ seq.length := List.mem_range.mp hk
  have hj : k + 1 - g.length = k - n := by rw [hn, Nat.add_sub_add_right]
  by_cases hs : g.isSuffixOf (seq.take (k + 1)) = true
  · obtain ⟨hle, hg⟩ := (suffix_take_iff g seq (k + 1) hk').mp hs
    have hnk : n ≤ k := Nat.le_of_succ_le_succ (Nat.le_trans (Nat.le_of_eq hn.symm) hle)
    rw [if_pos hs, if_pos hnk, occTerm,
      show ((k + 1 : Nat) : Int) = ((k - n : Nat) : Int) + (g.length : Int) by omega, hwin]
    exact ite_cond_congr (propext (and_iff_right (hj ▸ hg)).symm)
  · rw [if_neg hs]
    by_cases hnk : n ≤ k
    · rw [if_pos hnk, occTerm, if_neg]
      exact fun h => hs ((suffix_take_iff g seq (k + 1) hk').mpr ⟨Nat.le_trans (Nat.le_of_eq hn) (Nat.succ_le_succ hnk), hj ▸ h.1⟩)
    · rw [if_neg hnk]

omit [DecidableEq α] in
theorem ngramFeats_row (W : Nat) (seq : List α) (b n : Nat) (f : Nat → Int) :
    ((List.range' ((b + 1) - W) ((min (b + 1 + W) seq.length - n) - ((b + 1) - W))).map f).sum
      = ((List.range (seq.length - n)).map fun j =>
          if b + 1 ≤ j + W ∧ j + (n + 1) ≤ b + 1 + W then f j else 0).sum := by
  have hM : min (b + 1 + W) seq.length ≤ seq.length := Nat.min_le_right ..
  rw [isum_range' _ _ (seq.length - n) _ (by omega)]
  apply isum_map_congr
  intro j hj
  have hj' := List.mem_range.mp hj
  refine (ite_cond_congr (propext (ngramWindow_iff W seq.length b n j))).trans (ite_cond_congr (propext ?_))
  omega

/-- the features generated for `g`, by start position -/
theorem feat_side (W N : Nat) (Fn : List α → Int → Int) (seq : List α) (b : Nat) (g : List α)
    (n : Nat) (hn : g.length = n + 1) (hN : n < N) :
    (((ngramFeats W N seq b).filter fun p => decide (p.1 = g)).map fun p => Fn p.1 p.2).sum
      = ((List.range (seq.length - n)).map (occTerm W Fn seq b g)).sum := by
  rw [isum_filter, ngramFeats_eq, isum_flatMap, isum_range_single _ n N hN]
  · rw [List.map_map, ngramFeats_row]
    apply isum_map_congr
    intro j _
    simp only [Function.comp, ← hn, occTerm, decide_eq_true_eq]
    by_cases hg : (seq.drop j).take g.length = g
    · simp only [hg, true_and, if_true]
    · simp only [hg, false_and, if_false]
      split <;> rfl
  · intro i _ hne
    rw [List.map_map]
    apply isum_map_eq_zero
    intro j hj
    have : ¬ ((seq.drop j).take (i + 1) = g) := fun h =>
      hne (Nat.succ.inj ((ngramRow_length W seq b i j hj).symm.trans ((congrArg List.length h).trans hn)))
    simp only [Function.comp, decide_eq_true_eq, this, if_false]

theorem ngram_sum {lt : List α → List α → Bool} (st : StrictTotal lt) (W N : Nat) (Fn : List α → Int → Int)
    (m : List (List α × List Int)) (hinv : NgInv lt W (QN N) Fn m) (seq : List α) (b : Nat) :
    ngramScore W (m.map fun e => ⟨e.1, e.2⟩) seq b = ((ngramFeats W N seq b).map fun p => Fn p.1 p.2).sum := by
  obtain ⟨hs, hsh, habs⟩ := hinv
  unfold ngramScore
  rw [List.map_map]
  have e1 : (m.map ((fun (d : NgramData α) => ((occEnds d.ngram seq).map fun (e : Nat) =>
        getZ d.weights ((b : Int) + 1 + (W : Int) - (e : Int))).sum) ∘ fun e => ⟨e.1, e.2⟩)).sum
      = ((m.map Prod.fst).map fun k =>
          (((ngramFeats W N seq b).filter fun p => decide (p.1 = k)).map fun p => Fn p.1 p.2).sum).sum := by
    rw [List.map_map]
    apply isum_map_congr
    intro e he
    -- one stored n-gram: its occurrences inside the window are exactly its generated features
    obtain ⟨hl, hl2, hq, hval⟩ := hsh e he
    obtain ⟨n, hn⟩ : ∃ n, e.1.length = n + 1 := ⟨e.1.length - 1, (Nat.sub_add_cancel hq.1).symm⟩
    exact (occ_side W Fn seq b e.1 e.2 n hn (getZ_window W (Fn e.1) e.1.length e.2 hl hl2 hval b)).trans
      (feat_side W N Fn seq b e.1 n hn (Nat.lt_of_succ_le (Nat.le_trans (Nat.le_of_eq hn.symm) hq.2))).symm
  rw [e1, isum_group _ Prod.fst _ _ (PermL.keys_nodup_of_sorted lt st.irrefl hs), isum_filter]
  apply isum_map_congr
  intro p _
  by_cases hp : p.1 ∈ m.map Prod.fst
  · simp [hp]
  · have : Fn p.1 p.2 = 0 := by
      apply habs
      intro e he heq
      exact hp (List.mem_map.mpr ⟨e, he, heq⟩)
    simp [hp, this]

end
end V.C09L
