import VProofs.Lemmas.BinStrict
/-!
# Integers of the wire format: unsigned varint, zigzag `i32`, raw `u8`
-/
namespace V.BinL
open V V.Bin

theorem ofNat_toNat (n : Nat) : (UInt8.ofNat n).toNat = n % 256 := by
  simp [UInt8.toNat_ofNat']

theorem leBytes_length (k n : Nat) : (leBytes k n).length = k := by
  induction k generalizing n with
  | zero => rfl
  | succ k ih => simp [leBytes, ih]

theorem leValue_leBytes (k n : Nat) : leValue (leBytes k n) = n % 256 ^ k := by
  induction k generalizing n with
  | zero => simp [leBytes, leValue, Nat.mod_one]
  | succ k ih =>
    simp only [leBytes, leValue, ih, ofNat_toNat]
    rw [Nat.mod_mod, Nat.pow_succ, Nat.mul_comm (256 ^ k) 256, Nat.mod_mul]

theorem takeN_append {x : Bytes} {k : Nat} (hx : x.length = k) (r : Bytes) :
    takeN k (x ++ r) = .ok (x, r) := by
  subst hx
  simp [takeN]

theorem takeN_short {q : Bytes} {k : Nat} (hq : q.length < k) : takeN k q = derr := by
  simp [takeN, Nat.not_le.2 hq]

theorem takeN_safe (k : Nat) (q : Bytes) : (takeN k q).Safe := by
  unfold takeN; split <;> simp [Res.Safe, derr]

theorem encVarint_length (n : Nat) : 1 ≤ (encVarint n).length ∧ (encVarint n).length ≤ 9 := by
  unfold encVarint
  repeat' split
  all_goals simp [leBytes_length]

theorem encVarint_nonempty (n : Nat) : 1 ≤ (encVarint n).length := (encVarint_length n).1

theorem encVarint_length_le (n : Nat) : (encVarint n).length ≤ 9 := (encVarint_length n).2

private theorem b251 : (251 : UInt8).toNat = 251 := rfl
private theorem b252 : (252 : UInt8).toNat = 252 := rfl
private theorem b253 : (253 : UInt8).toNat = 253 := rfl

theorem encVarint_shape (n : Nat) (hn : n < 2 ^ 64) :
    (n < 251 ∧ encVarint n = [UInt8.ofNat n]) ∨
    ∃ t k, encVarint n = t :: leBytes k n ∧ n < 256 ^ k ∧ (t = 251 ∧ k = 2 ∨ t = 252 ∧ k = 4 ∨ t = 253 ∧ k = 8) ∧
      (t = 253 → 2 ^ 32 ≤ n) := by
  unfold encVarint
  by_cases h1 : n < 251
  · exact .inl ⟨h1, by rw [if_pos h1]⟩
  · rw [if_neg h1]
    by_cases h2 : n < 2 ^ 16
    · exact .inr ⟨251, 2, by rw [if_pos h2], h2, .inl ⟨rfl, rfl⟩, nofun⟩
    · rw [if_neg h2]
      by_cases h3 : n < 2 ^ 32
      · exact .inr ⟨252, 4, by rw [if_pos h3], h3, .inr (.inl ⟨rfl, rfl⟩), nofun⟩
      · exact .inr ⟨253, 8, by rw [if_neg h3], hn, .inr (.inr ⟨rfl, rfl⟩), fun _ => Nat.not_lt.1 h3⟩

theorem decVarint_tag {w : Bool} {t : UInt8} {k : Nat}
    (h : t = 251 ∧ k = 2 ∨ t = 252 ∧ k = 4 ∨ t = 253 ∧ k = 8) (hw : t = 253 → w = true) (r : Bytes) :
    decVarint w (t :: r) = match takeN k r with
      | .ok (x, r') => .ok (leValue x, r')
      | _ => derr := by
  rcases h with ⟨rfl, rfl⟩ | ⟨rfl, rfl⟩ | ⟨rfl, rfl⟩
  · simp [decVarint, b251]
    rfl
  · simp [decVarint, b252]
    rfl
  · simp [decVarint, b253, hw rfl]
    rfl

theorem strict_varint (wide : Bool) :
    Strict encVarint (decVarint wide) (fun n => n < (if wide then 2 ^ 64 else 2 ^ 32)) := by
  have hlt : ∀ n, n < (if wide then 2 ^ 64 else 2 ^ 32) → n < 2 ^ 64 := by
    intro n h; cases wide <;> simp at h <;> omega
  have hw : ∀ n, n < (if wide then 2 ^ 64 else 2 ^ 32) → 2 ^ 32 ≤ n → wide = true := by
    intro n h h32
    cases wide
    · simp at h; omega
    · rfl
  constructor
  · intro n r hn _
    rcases encVarint_shape n (hlt n hn) with ⟨h1, he⟩ | ⟨t, k, he, hk, ht, h32⟩
    · rw [he]
      have : (UInt8.ofNat n).toNat = n := by rw [ofNat_toNat]; omega
      simp [decVarint, this, h1]
    · rw [he, List.cons_append, decVarint_tag ht fun e => hw n hn (h32 e)]
      simp only [takeN_append (leBytes_length k n), leValue_leBytes, Nat.mod_eq_of_lt hk]
  · intro n p hn _ hp hne
    rcases encVarint_shape n (hlt n hn) with ⟨h1, he⟩ | ⟨t, k, he, hk, ht, h32⟩
    all_goals rw [he] at hp hne
    all_goals rcases cons_prefix_cases hp hne with rfl | ⟨q, rfl, hq1, hq2⟩
    · exact ⟨_, rfl⟩
    · exact absurd (List.prefix_nil.1 hq1) hq2
    · exact ⟨_, rfl⟩
    · have hq := prefix_length_lt hq1 hq2
      rw [leBytes_length] at hq
      rw [decVarint_tag ht fun e => hw n hn (h32 e), takeN_short hq]
      exact ⟨_, rfl⟩
  · exact encVarint_nonempty

theorem strict_varint64 : Strict encVarint (decVarint true) (fun n => n < 2 ^ 64) := by
  simpa using strict_varint true

theorem strict_varint32 : Strict encVarint (decVarint false) (fun n => n < 2 ^ 32) := by
  simpa using strict_varint false

theorem safe_varint (wide : Bool) : SafeDec (decVarint wide) := by
  intro bs
  cases bs with
  | nil => trivial
  | cons b r =>
    simp only [decVarint]
    repeat' split
    all_goals trivial

/-- the range of `i32` -/
def OkI32 (i : Int) : Prop := -(2 ^ 31 : Int) ≤ i ∧ i < 2 ^ 31

theorem unzigzag_zigzag (i : Int) : unzigzag (zigzag i) = i := by
  unfold unzigzag zigzag
  split <;> split <;> omega

theorem zigzag_lt (i : Int) (h : OkI32 i) : zigzag i < 2 ^ 32 := by
  unfold OkI32 at h
  unfold zigzag
  split <;> omega

theorem strict_i32 : Strict encI32 decI32 OkI32 := by
  have hv := strict_varint32
  constructor
  · intro i r hi hlen
    simp only [encI32, decI32]
    rw [hv.rt (zigzag i) r (zigzag_lt i hi) hlen]
    simp only [unzigzag_zigzag]
  · intro i p hi hlen hp hne
    simp only [encI32] at hlen hp hne
    obtain ⟨e, he⟩ := hv.pref (zigzag i) p (zigzag_lt i hi) hlen hp hne
    simp only [decI32]; rw [he]; exact ⟨_, rfl⟩
  · intro i; exact encVarint_nonempty _

theorem safe_i32 : SafeDec decI32 := by
  intro bs
  simp only [decI32]
  split <;> simp [Res.Safe, derr]

theorem strict_u8 : Strict encU8 decU8 (fun n => n < 256) := by
  constructor
  · intro n r hn _
    have : (UInt8.ofNat n).toNat = n := by rw [ofNat_toNat]; omega
    simp [encU8, decU8, this]
  · intro n p _ _ hp hne
    simp only [encU8] at hp hne
    rcases cons_prefix_cases hp hne with rfl | ⟨q, rfl, hq1, hq2⟩
    · exact ⟨_, rfl⟩
    · exact absurd (List.prefix_nil.1 hq1) hq2
  · intro n; simp [encU8]

theorem safe_u8 : SafeDec decU8 := by
  intro bs
  cases bs <;> simp [decU8, Res.Safe, derr]

end V.BinL
