import VProofs.Lemmas.ScoreSum
/-!
# The loop invariant of `V.Merge.merge` for an arbitrary weight type

Helper lemmas for `VProofs.Lemmas.MergeCorrect`.  The weights are arbitrary; correctness is stated through an
evaluation `ev : W → Int` that `add` respects on weights satisfying a key-indexed invariant `P`.
-/
namespace V.Merge
variable {α : Type} [DecidableEq α] {W : Type}

@[simp] theorem upd_same {β : Type} (f : List α → β) (k : List α) (v : β) : upd f k v k = v := by simp [upd]
theorem upd_other {β : Type} (f : List α → β) (k : List α) (v : β) (x : List α) (h : x ≠ k) :
    upd f k v x = f x := by simp [upd, h]

section
variable (add : W → W → W) (st : St α W)

/-- one turn of `go`: the weight of `fromK` is added to that of `t`, and `t` is marked visited -/
def stepTo (add : W → W → W) (st : St α W) (fromK t : List α) : St α W :=
  { w := upd st.w t (add (st.w t) (st.w fromK)), done := upd st.done t true }

/-- the state with `f` marked visited -/
def markDone (st : St α W) (f : List α) : St α W := { st with done := upd st.done f true }

theorem go_append (f : List α) (xs ys : List (List α)) :
    go add st f (xs ++ ys) = go add (go add st f xs) ((f :: xs).getLast (by simp)) ys := by
  induction xs generalizing st f with
  | nil => simp [go]
  | cons x xs ih =>
    simp only [List.cons_append, go]
    rw [ih]
    simp [List.getLast_cons]

/-- backprop on the unreversed chain -/
def bp (add : W → W → W) (st : St α W) : List (List α) → St α W
  | [] => st
  | [p] => markDone st p
  | p :: q :: r => stepTo add (bp add st (q :: r)) q p

theorem backprop_reverse (c : List (List α)) :
    backprop add st c.reverse = bp add st c := by
  induction c with
  | nil => simp [backprop, bp]
  | cons p c ih =>
    cases c with
    | nil => simp [backprop, bp, go, markDone]
    | cons q r =>
      have hne : (q :: r).reverse ≠ [] := by simp
      obtain ⟨f, rest, hfr⟩ := List.exists_cons_of_ne_nil hne
      have : (p :: q :: r).reverse = f :: (rest ++ [p]) := by
        rw [List.reverse_cons, hfr]; simp
      rw [this]
      simp only [backprop]
      rw [go_append]
      have ih' : go add { st with done := upd st.done f true } f rest = bp add st (q :: r) := by
        rw [← ih, hfr]; simp [backprop]
      rw [ih']
      have hlast : (f :: rest).getLast (by simp) = q := by
        have : (f :: rest) = (q :: r).reverse := hfr.symm
        simp [this]
      simp only [go, bp, stepTo, hlast]

/-- `f x` for `x` outside the chain, else the sum of `f` over the chain from `x` to its end -/
def tailSum (f : List α → Int) : List (List α) → List α → Int
  | [], x => f x
  | p :: r, x => if x = p then ((p :: r).map f).sum else tailSum f r x

theorem tailSum_not_mem (f : List α → Int) (c : List (List α)) (x : List α) (h : x ∉ c) :
    tailSum f c x = f x := by
  induction c with
  | nil => rfl
  | cons p r ih =>
    simp only [List.mem_cons, not_or] at h
    simp [tailSum, h.1, ih h.2]

theorem bp_done (c : List (List α)) (x : List α) :
    (bp add st c).done x = (st.done x || decide (x ∈ c)) := by
  induction c with
  | nil => simp [bp]
  | cons p c ih =>
    cases c with
    | nil => by_cases h : x = p <;> simp [bp, markDone, upd, h]
    | cons q r =>
      simp only [bp, stepTo]
      by_cases h : x = p
      · simp [upd, h]
      · rw [upd_other _ _ _ _ h, ih]; simp [h]

theorem bp_w_not_mem (c : List (List α)) (x : List α) (h : x ∉ c) :
    (bp add st c).w x = st.w x := by
  induction c with
  | nil => rfl
  | cons p c ih =>
    cases c with
    | nil => simp [bp, markDone]
    | cons q r =>
      simp only [List.mem_cons, not_or] at h
      simp only [bp, stepTo]
      rw [upd_other _ _ _ _ h.1]
      exact ih (by simp [h.2])

end

section
variable (keys : List (List α)) (st : St α W)

/-- the chain below `x`: the proper suffixes of `x` that are keys, longest first, up to and including the first
visited one -/
def cOf (keys : List (List α)) (st : St α W) : List α → List (List α)
  | [] => []
  | _ :: t => match t with
    | [] => []
    | b :: u =>
      if (b :: u) ∈ keys then (if st.done (b :: u) then [b :: u] else (b :: u) :: cOf keys st (b :: u))
      else cOf keys st (b :: u)

theorem chainAux_properSuffixes (x : List α) :
    chainAux keys st (properSuffixes x) = cOf keys st x := by
  induction x with
  | nil => rfl
  | cons a t ih =>
    cases t with
    | nil => rfl
    | cons b u =>
      have hps : properSuffixes (a :: b :: u) = (b :: u) :: properSuffixes (b :: u) := rfl
      rw [hps]
      simp only [chainAux, cOf]
      rw [ih]

theorem chainAux_sublist (l : List (List α)) :
    (chainAux keys st l).Sublist (l.filter fun s => decide (s ∈ keys)) := by
  induction l with
  | nil => exact .slnil
  | cons s rest ih =>
    unfold chainAux
    by_cases hk : s ∈ keys
    · rw [if_pos hk, List.filter_cons, if_pos (decide_eq_true hk)]
      split
      · exact (List.nil_sublist _).cons_cons s
      · exact ih.cons_cons s
    · rw [if_neg hk, List.filter_cons, if_neg (by simpa using hk)]
      exact ih

omit [DecidableEq α] in
theorem properSuffixes_suffix (x : List α) : ∀ q ∈ properSuffixes x, q.length < x.length ∧ q <:+ x := by
  induction x with
  | nil => nofun
  | cons a t ih =>
    cases t with
    | nil => nofun
    | cons b u =>
      intro q hq
      rcases List.mem_cons.1 hq with h | h
      · subst h
        exact ⟨Nat.lt_succ_self _, List.suffix_cons a _⟩
      · obtain ⟨h1, h2⟩ := ih q h
        exact ⟨Nat.lt_succ_of_lt h1, h2.trans (List.suffix_cons a _)⟩

omit [DecidableEq α] in
theorem properSuffixes_pairwise (x : List α) :
    (properSuffixes x).Pairwise (fun p q => q.length < p.length ∧ q <:+ p) := by
  induction x with
  | nil => exact .nil
  | cons a t ih =>
    cases t with
    | nil => exact .nil
    | cons b u => exact List.pairwise_cons.2 ⟨properSuffixes_suffix (b :: u), ih⟩

theorem cOf_sublist (x : List α) :
    (cOf keys st x).Sublist ((properSuffixes x).filter fun s => decide (s ∈ keys)) :=
  chainAux_properSuffixes keys st x ▸ chainAux_sublist keys st _

theorem cOf_suffix (x : List α) :
    ∀ q ∈ cOf keys st x, q.length < x.length ∧ q <:+ x := fun q hq =>
  properSuffixes_suffix x q (List.mem_filter.1 ((cOf_sublist keys st x).subset hq)).1

theorem cOf_mem_keys (x : List α) :
    ∀ q ∈ cOf keys st x, q ∈ keys := fun _ hq =>
  of_decide_eq_true (List.mem_filter.1 ((cOf_sublist keys st x).subset hq)).2

theorem chain_pairwise (k : List α) :
    (k :: cOf keys st k).Pairwise (fun p q => q.length < p.length ∧ q <:+ p) :=
  List.pairwise_cons.2 ⟨cOf_suffix keys st k,
    ((properSuffixes_pairwise k).sublist List.filter_sublist).sublist (cOf_sublist keys st k)⟩

end

/-- specification: sum of the original (evaluated) weights of all keys that are suffixes of `k` -/
def S (keys : List (List α)) (w0 : List α → Int) (k : List α) : Int :=
  ((keys.filter (fun q => q.isSuffixOf k)).map w0).sum

theorem sum_filter_eq (keys : List (List α)) (f : List α → Int) (x : List α) (hnd : keys.Nodup) :
    ((keys.filter (fun q => decide (q = x))).map f).sum = if x ∈ keys then f x else 0 := by
  induction keys with
  | nil => simp
  | cons k ks ih =>
    have hk : k ∉ ks := (List.nodup_cons.1 hnd).1
    have ih' := ih (List.nodup_cons.1 hnd).2
    by_cases h : k = x
    · subst h
      simp [ih', hk]
    · have : x ≠ k := fun e => h e.symm
      simp [h, ih', this]

theorem S_nil (keys : List (List α)) (w0 : List α → Int) (hne : [] ∉ keys) : S keys w0 [] = 0 := by
  unfold S
  have : keys.filter (fun q => q.isSuffixOf ([] : List α)) = [] := by
    apply List.filter_eq_nil_iff.2
    intro q hq
    cases q with
    | nil => exact absurd hq hne
    | cons a t => simp [List.isSuffixOf]
  simp [this]

theorem S_cons (keys : List (List α)) (w0 : List α → Int) (hnd : keys.Nodup) (a : α) (t : List α) :
    S keys w0 (a :: t) = (if (a :: t) ∈ keys then w0 (a :: t) else 0) + S keys w0 t := by
  unfold S
  have hfun : (fun q : List α => q.isSuffixOf (a :: t)) =
      (fun q => decide (q = a :: t) || q.isSuffixOf t) := by
    funext q
    rw [Bool.eq_iff_iff]
    simp [List.suffix_cons_iff]
  rw [hfun, C01L.isum_filter_or, sum_filter_eq _ _ _ hnd]
  intro _ _ ⟨h1, h2⟩
  have := (List.isSuffixOf_iff_suffix.1 (of_decide_eq_true h1 ▸ h2)).length_le
  exact Nat.not_succ_le_self _ this

/-- the loop invariant of `merge` -/
def Inv (ev : W → Int) (P : List α → W → Prop) (keys : List (List α)) (w0 : List α → W) (st : St α W) : Prop :=
  ∀ k ∈ keys, P k (st.w k) ∧
    (st.done k = true → ev (st.w k) = S keys (fun q => ev (w0 q)) k) ∧
    (st.done k = false → ev (st.w k) = ev (w0 k))

section
variable (ev : W → Int) (P : List α → W → Prop) (keys : List (List α)) (w0 : List α → W) (st : St α W)
  (hnd : keys.Nodup) (hne : [] ∉ keys) (hinv : Inv ev P keys w0 st)
include hnd hne hinv

theorem sum_cOf (a : α) (t : List α) :
    ((cOf keys st (a :: t)).map (fun k => ev (st.w k))).sum = S keys (fun q => ev (w0 q)) t := by
  induction t generalizing a with
  | nil => simp [cOf, S_nil keys _ hne]
  | cons b u ih =>
    simp only [cOf]
    split
    · rename_i hk
      split
      · rename_i hd
        simp [(hinv _ hk).2.1 hd]
      · rename_i hd
        have hd' : st.done (b :: u) = false := by simpa using hd
        simp only [List.map_cons, List.sum_cons, ih b, (hinv _ hk).2.2 hd']
        rw [S_cons keys _ hnd b u]; simp [hk]
    · rename_i hk
      rw [ih b, S_cons keys _ hnd b u]; simp [hk]

theorem chain_sum (x : List α) (hx : x ∈ keys)
    (hd : st.done x = false) :
    ((x :: cOf keys st x).map (fun k => ev (st.w k))).sum = S keys (fun q => ev (w0 q)) x := by
  cases x with
  | nil => exact absurd hx hne
  | cons a t =>
    rw [List.map_cons, List.sum_cons, sum_cOf ev P keys w0 st hnd hne hinv a t, (hinv _ hx).2.2 hd,
      S_cons keys _ hnd a t, if_pos hx]

theorem tailSum_cOf (x : List α) :
    ∀ q ∈ cOf keys st x,
      tailSum (fun k => ev (st.w k)) (cOf keys st x) q = S keys (fun q => ev (w0 q)) q := by
  induction x with
  | nil => nofun
  | cons a t ih =>
    cases t with
    | nil => nofun
    | cons b u =>
      intro q hq
      simp only [cOf] at hq ⊢
      split at hq
      · rename_i hk
        rw [if_pos hk]
        split at hq
        · rename_i hd
          simp at hq; subst hq
          simp [hd, tailSum, (hinv _ hk).2.1 hd]
        · rename_i hd
          rw [if_neg hd]
          rcases List.mem_cons.1 hq with h | h
          · subst h
            simp only [tailSum, if_true]
            exact chain_sum ev P keys w0 st hnd hne hinv _ hk (by simpa using hd)
          · have hneq : q ≠ b :: u := fun e => Nat.lt_irrefl _ (e ▸ (cOf_suffix keys st _ _ h).1)
            simp only [tailSum, hneq, if_false]
            exact ih q h
      · rename_i hk
        rw [if_neg hk]
        exact ih q hq

end

section
variable (add : W → W → W) (ev : W → Int) (P : List α → W → Prop)
  (hP : ∀ k q a b, q.isSuffixOf k = true → P k a → P q b → P k (add a b))
  (hadd : ∀ k q a b, q.isSuffixOf k = true → P k a → P q b → ev (add a b) = ev a + ev b)
include hP hadd

/-- along a chain in which every element is a shorter suffix of all earlier ones, `bp` keeps the invariant `P` and
gives every chain element (under `ev`) the sum of the weights from itself to the end of the chain -/
theorem bp_w (st : St α W) (c : List (List α))
    (hc : c.Pairwise (fun p q => q.length < p.length ∧ q <:+ p))
    (hPc : ∀ x ∈ c, P x (st.w x)) :
    (∀ x ∈ c, P x ((bp add st c).w x)) ∧
    ∀ x, ev ((bp add st c).w x) = tailSum (fun k => ev (st.w k)) c x := by
  induction c with
  | nil => exact ⟨nofun, fun _ => rfl⟩
  | cons p c ih =>
    cases c with
    | nil =>
      refine ⟨fun x hx => ?_, fun x => ?_⟩
      · simpa [bp, markDone] using hPc x hx
      · by_cases h : x = p <;> simp [bp, markDone, tailSum, h]
    | cons q r =>
      obtain ⟨hpc, hc'⟩ := List.pairwise_cons.1 hc
      have hp : p ∉ q :: r := fun h => Nat.lt_irrefl _ (hpc p h).1
      have hqp : q.isSuffixOf p = true := List.isSuffixOf_iff_suffix.2 (hpc q List.mem_cons_self).2
      obtain ⟨ihP, ihE⟩ := ih hc' (fun x hx => hPc x (List.mem_cons_of_mem _ hx))
      have hwp : (bp add st (q :: r)).w p = st.w p := bp_w_not_mem add st _ p hp
      have hPp : P p ((bp add st (q :: r)).w p) := by rw [hwp]; exact hPc p List.mem_cons_self
      have hPq : P q ((bp add st (q :: r)).w q) := ihP q List.mem_cons_self
      refine ⟨fun x hx => ?_, fun x => ?_⟩
      · simp only [bp, stepTo]
        by_cases h : x = p
        · subst h
          rw [upd_same]
          exact hP _ _ _ _ hqp hPp hPq
        · rw [upd_other _ _ _ _ h]
          rcases List.mem_cons.1 hx with hx | hx
          · exact absurd hx h
          · exact ihP x hx
      · simp only [bp, stepTo]
        by_cases h : x = p
        · subst h
          rw [upd_same, hadd _ _ _ _ hqp hPp hPq, ihE q, hwp]
          simp [tailSum]
        · rw [upd_other _ _ _ _ h, ihE x]
          conv => rhs; unfold tailSum
          simp [h]

theorem step_inv (keys : List (List α)) (w0 : List α → W) (st : St α W)
    (hnd : keys.Nodup) (hne : [] ∉ keys) (hinv : Inv ev P keys w0 st) (k : List α) (hk : k ∈ keys) :
    Inv ev P keys w0 (step add keys st k) ∧ (step add keys st k).done k = true ∧
      ∀ q, st.done q = true → (step add keys st k).done q = true := by
  unfold step
  by_cases hd : st.done k = true
  · simp [hd, hinv]
  · have hd' : st.done k = false := by simpa using hd
    rw [if_neg hd]
    rw [backprop_reverse, chain, chainAux_properSuffixes]
    have hcP : ∀ x ∈ k :: cOf keys st k, P x (st.w x) := by
      intro x hx
      rcases List.mem_cons.1 hx with h | h
      · subst h; exact (hinv _ hk).1
      · exact (hinv _ (cOf_mem_keys keys st k x h)).1
    obtain ⟨bP, bE⟩ := bp_w add ev P hP hadd st _ (chain_pairwise keys st k) hcP
    refine ⟨?_, ?_, ?_⟩
    · intro q hq
      rw [bp_done, bE]
      by_cases hmem : q ∈ k :: cOf keys st k
      · refine ⟨bP q hmem, fun _ => ?_, fun h => by simp [hmem] at h⟩
        rcases List.mem_cons.1 hmem with h | h
        · subst h
          simp only [tailSum, if_true]
          exact chain_sum ev P keys w0 st hnd hne hinv q hq hd'
        · have hneq : q ≠ k := fun e => Nat.lt_irrefl _ (e ▸ (cOf_suffix keys st _ _ h).1)
          simp only [tailSum, hneq, if_false]
          exact tailSum_cOf ev P keys w0 st hnd hne hinv k q h
      · rw [tailSum_not_mem _ _ _ hmem, bp_w_not_mem _ _ _ _ hmem]
        simp only [hmem, decide_false, Bool.or_false]
        exact hinv q hq
    · rw [bp_done]; simp
    · intro q hq; rw [bp_done]; simp [hq]

theorem foldl_inv (keys : List (List α)) (w0 : List α → W) (hnd : keys.Nodup) (hne : [] ∉ keys) :
    ∀ (ks : List (List α)) (st : St α W), (∀ k ∈ ks, k ∈ keys) → Inv ev P keys w0 st →
      Inv ev P keys w0 (ks.foldl (step add keys) st) ∧
      (∀ k ∈ ks, (ks.foldl (step add keys) st).done k = true) ∧
      (∀ q, st.done q = true → (ks.foldl (step add keys) st).done q = true) := by
  intro ks
  induction ks with
  | nil => intro st _ h; exact ⟨h, by simp, fun _ h => h⟩
  | cons k ks ih =>
    intro st hsub hinv
    obtain ⟨h1, h2, h3⟩ := step_inv add ev P hP hadd keys w0 st hnd hne hinv k (hsub k (by simp))
    obtain ⟨i1, i2, i3⟩ := ih (step add keys st k) (fun q hq => hsub q (by simp [hq])) h1
    refine ⟨i1, ?_, fun q hq => i3 q (h3 q hq)⟩
    intro q hq
    rcases List.mem_cons.1 hq with h | h
    · subst h; exact i3 _ h2
    · exact i2 q h

end

end V.Merge
