import VProofs.Lemmas.EvalFloatProps
/-!
# F1 against the smaller and the larger of precision and recall

`min p r ≤ f1 ≤ max p r` holds for the exact harmonic mean; the computed value went through three roundings and may leave the
interval by one grid step (see the counterexamples in `C20.lean`).  What is proved here: it stays within a relative
`(1 ± 2^-53)^3`, stated on units without division.
-/
namespace V.EvalF
open V V.F64 V.QuantL

attribute [local irreducible] F64.top F64.unit e1021

/-- three relative errors against an upper bound of the exact quotient, without division -/
theorem chain_upper (Qm Q Qp u n c h m s f : Nat) (hQs : 0 < Q * s)
    (U3 : Q * (s * f) ≤ Qp * (m * u)) (U1 : Q * (u * m) ≤ Qp * n) (L2 : Qm * c ≤ Q * s) (hh : n ≤ c * h) :
    Qm * Q * f ≤ Qp * Qp * h := by
  apply Nat.le_of_mul_le_mul_left _ hQs
  calc Q * s * (Qm * Q * f) = Qm * Q * (Q * (s * f)) := by ac_rfl
    _ ≤ Qm * Q * (Qp * (m * u)) := Nat.mul_le_mul_left _ U3
    _ = Qm * Qp * (Q * (u * m)) := by ac_rfl
    _ ≤ Qm * Qp * (Qp * n) := Nat.mul_le_mul_left _ U1
    _ ≤ Qm * Qp * (Qp * (c * h)) := Nat.mul_le_mul_left _ (Nat.mul_le_mul_left _ hh)
    _ = Qp * Qp * h * (Qm * c) := by ac_rfl
    _ ≤ Qp * Qp * h * (Q * s) := Nat.mul_le_mul_left _ L2
    _ = Q * s * (Qp * Qp * h) := by ac_rfl

theorem chain_lower (Qm Q Qp u n c l m s f : Nat) (hQs : 0 < Q * s)
    (L3 : Qm * (m * u) ≤ Q * (s * f)) (L1 : Qm * n ≤ Q * (u * m)) (U2 : Q * s ≤ Qp * c) (hl : c * l ≤ n) :
    Qm * Qm * l ≤ Qp * Q * f := by
  apply Nat.le_of_mul_le_mul_left _ hQs
  calc Q * s * (Qm * Qm * l) = Qm * Qm * l * (Q * s) := by ac_rfl
    _ ≤ Qm * Qm * l * (Qp * c) := Nat.mul_le_mul_left _ U2
    _ = Qm * Qp * (Qm * (c * l)) := by ac_rfl
    _ ≤ Qm * Qp * (Qm * n) := Nat.mul_le_mul_left _ (Nat.mul_le_mul_left _ hl)
    _ ≤ Qm * Qp * (Q * (u * m)) := Nat.mul_le_mul_left _ L1
    _ = Qp * Q * (Qm * (m * u)) := by ac_rfl
    _ ≤ Qp * Q * (Q * (s * f)) := Nat.mul_le_mul_left _ L3
    _ = Q * s * (Qp * Q * f) := by ac_rfl

set_option exponentiation.threshold 5000 in
theorem sq_big : unit * 2 ^ 53 ≤ 2 * (e1021 * e1021) := by decide +kernel
set_option exponentiation.threshold 5000 in
theorem e1021_big : 2 ^ 52 ≤ e1021 := by decide +kernel

/-- the harmonic mean lies between its arguments (before division) -/
theorem hm_upper (a b : Nat) : 2 * a * b ≤ (a + b) * max a b := by
  have h1 : a * b ≤ a * max a b := Nat.mul_le_mul_left _ (Nat.le_max_right a b)
  have h2 : a * b ≤ b * max a b := by rw [Nat.mul_comm a b]; exact Nat.mul_le_mul_left _ (Nat.le_max_left a b)
  have e1 : 2 * a * b = a * b + a * b := by rw [Nat.mul_assoc, Nat.two_mul]
  rw [e1, Nat.add_mul]
  omega

theorem hm_lower (a b : Nat) : (a + b) * min a b ≤ 2 * a * b := by
  have h1 : a * min a b ≤ a * b := Nat.mul_le_mul_left _ (Nat.min_le_right a b)
  have h2 : b * min a b ≤ a * b := by rw [Nat.mul_comm a b]; exact Nat.mul_le_mul_left _ (Nat.min_le_left a b)
  have e1 : 2 * a * b = a * b + a * b := by rw [Nat.mul_assoc, Nat.two_mul]
  rw [e1, Nat.add_mul]
  omega

/-! arithmetic side conditions, on plain variables (so that `omega` never compares two `roundUnits` terms) -/

theorem side1 (u E ab : Nat) (h : u * 2 ^ 53 ≤ 2 * (E * E)) (hsq : E * E ≤ ab) : u * 2 ^ 52 ≤ 2 * ab := by
  have : u * 2 ^ 52 ≤ u * 2 ^ 53 := Nat.mul_le_mul_left _ (Nat.pow_le_pow_right (by decide) (by decide))
  exact Nat.le_trans this (Nat.le_trans h (Nat.mul_le_mul_left 2 hsq))

theorem side1' (u E ab : Nat) (h : u * 2 ^ 53 ≤ 2 * (E * E)) (hsq : E * E ≤ ab) : u * 2 ^ 53 ≤ 2 * ab :=
  Nat.le_trans h (Nat.mul_le_mul_left 2 hsq)

theorem side2 (E a b : Nat) (h : 2 ^ 52 ≤ E) (ha : E ≤ a) (hb : E ≤ b) : 1 * 2 ^ 52 ≤ a + b := by
  omega

theorem side3 (s m u : Nat) (h1 : s ≤ 2 * u) (hm : 2 ^ 53 ≤ m) : s * 2 ^ 52 ≤ m * u := by
  have h2 : 2 ^ 53 * u ≤ m * u := Nat.mul_le_mul_right _ hm
  have h3 : s * 2 ^ 52 ≤ 2 * u * 2 ^ 52 := Nat.mul_le_mul_right _ h1
  have e : 2 * u * 2 ^ 52 = 2 ^ 53 * u := by rw [Nat.mul_right_comm]
  omega

/-- the computed F1 of two values in `[2^-53, 1]` is within a relative `(1 ± 2^-53)^3` of `[min, max]` -/
theorem f1Units_between (Q : Nat) (hQ : Q = 2 ^ 53) (a b : Nat) (ha : a ≤ unit) (hb : b ≤ unit)
    (ha' : e1021 ≤ a) (hb' : e1021 ≤ b) :
    (Q - 1) * (Q - 1) * min a b ≤ (Q + 1) * Q * f1Units a b ∧
    (Q - 1) * Q * f1Units a b ≤ (Q + 1) * (Q + 1) * max a b := by
  subst hQ
  have hs0 : 0 < a + b := Nat.lt_of_lt_of_le e1021_pos (Nat.le_trans ha' (Nat.le_add_right a b))
  have hsp := sumUnits_pos a b hs0
  have hsq : e1021 * e1021 ≤ a * b := Nat.mul_le_mul ha' hb'
  have e2 : 2 * a * b = 2 * (a * b) := Nat.mul_assoc _ _ _
  -- the three roundings are in the relative regime
  have big1 : unit * 2 ^ 52 ≤ 2 * a * b := by rw [e2]; exact side1 _ _ _ sq_big hsq
  have big2 : 1 * 2 ^ 52 ≤ a + b := side2 _ _ _ e1021_big ha' hb'
  have hm53 : 2 ^ 53 ≤ prodUnits a b := by
    apply le_roundUnits_of_le _ _ _ unit_pos (repU_pow 53)
    rw [e2]; exact side1' _ _ _ sq_big hsq
  have big3 : sumUnits a b * 2 ^ 52 ≤ prodUnits a b * unit := side3 _ _ _ (sumUnits_le a b ha hb) hm53
  obtain ⟨U1, L1⟩ := roundUnits_rel (2 * a * b) unit unit_pos big1
  obtain ⟨U2, L2⟩ := roundUnits_rel (a + b) 1 (by decide) big2
  obtain ⟨U3, L3⟩ := roundUnits_rel (prodUnits a b * unit) (sumUnits a b) hsp big3
  rw [Nat.one_mul] at U2 L2
  have hQs : 0 < 2 ^ 53 * sumUnits a b := Nat.mul_pos (by decide) hsp
  exact ⟨chain_lower _ _ _ unit (2 * a * b) (a + b) _ (prodUnits a b) (sumUnits a b) _ hQs L3 L1 U2 (hm_lower a b),
    chain_upper _ _ _ unit (2 * a * b) (a + b) _ (prodUnits a b) (sumUnits a b) _ hQs U3 U1 L2 (hm_upper a b)⟩

theorem metrics_between_ex (Q : Nat) (hQ : Q = 2 ^ 53) (N P R : Nat) (hP : P < 2 ^ 31) (hR : R < 2 ^ 31)
    (hNP : N ≤ P) (hNR : N ≤ R) (hN : 0 < N) :
    ∃ a b f, evalMetrics N P R = (.fin false a, .fin false b, .fin false f) ∧
      (Q - 1) * (Q - 1) * min a b ≤ (Q + 1) * Q * f ∧ (Q - 1) * Q * f ≤ (Q + 1) * (Q + 1) * max a b := by
  have hPp : 0 < P := by omega
  have hRp : 0 < R := by omega
  have he := metrics_fin N P R hP hR hPp hRp hNP hNR
  rw [if_neg (by omega)] at he
  exact ⟨_, _, _, he, f1Units_between Q hQ _ _ (ratioUnits_le_unit N P hPp hNP) (ratioUnits_le_unit N R hRp hNR)
    (ratioUnits_ge N P hPp (by omega) hN) (ratioUnits_ge N R hRp (by omega) hN)⟩

end V.EvalF
