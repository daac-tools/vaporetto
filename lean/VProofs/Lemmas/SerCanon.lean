import VProofs.Lemmas.SerWeights
import VProofs.Lemmas.ScoreNew
/-!
# C14 helper lemmas: every weight vector of a predictor built by `Predictor.new` is an image of `WV.ofList cfg`,
hence a fixed point of the wire round trip (`ofList_reser`)
-/
namespace V.C14L
open V

theorem map_eq_self {α : Type} {f : α → α} {l : List α} (h : ∀ x ∈ l, f x = x) : l.map f = l :=
  (List.map_congr_left h).trans (List.map_id l)

theorem optmap_eq_self {α : Type} {f : α → α} {o : Option α} (h : ∀ x, o = some x → f x = x) : o.map f = o := by
  cases o with
  | none => rfl
  | some a => simp only [Option.map_some, h a rfl]

/-- every weight vector of the tag-weight table is a fixed point of the wire round trip -/
def TableCanon (cfg : Cfg) (tw : List (List (List (Nat × WV)))) : Prop :=
  ∀ row ∈ tw, ∀ m ∈ row, ∀ e ∈ m, e.2.reser cfg = e.2

/-- the same for every weight vector of a scorer -/
def ScorerCanon {α : Type} (cfg : Cfg) (sc : PmaScorer α) : Prop :=
  (∀ o ∈ sc.weights, ∀ p, o = some p → p.weight.reser cfg = p.weight) ∧
  (∀ tw, sc.tagWeight = some tw → TableCanon cfg tw)

theorem ScorerCanon.reser {α : Type} {cfg : Cfg} {sc : PmaScorer α} (h : ScorerCanon cfg sc) :
    sc.reser cfg = sc := by
  cases sc with
  | mk pats weights tagWeight =>
    obtain ⟨h1, h2⟩ := h
    simp only at h1 h2
    simp only [PmaScorer.reser]
    have e1 : weights.map (Option.map (PWV.reser cfg)) = weights :=
      map_eq_self fun o ho => optmap_eq_self fun p hp => by
        cases p
        simp only [PWV.reser]
        rw [h1 o ho _ hp]
    have e2 : (tagWeight.map fun tw => tw.map fun row => row.map fun m => m.map fun e => (e.1, e.2.reser cfg))
        = tagWeight :=
      optmap_eq_self fun tw htw =>
        map_eq_self fun row hrow => map_eq_self fun m hm => map_eq_self fun e he => by
          rw [h2 tw htw row hrow m hm e he]
    rw [e1, e2]

theorem insertTagWeights_canon (cfg : Cfg) (id : Nat) :
    ∀ (l : List ((Nat × Nat) × List Int)) (tw tw' : List (List (List (Nat × WV)))),
      TableCanon cfg tw → insertTagWeights cfg id l tw = .ok tw' → TableCanon cfg tw' := by
  intro l
  induction l with
  | nil =>
    intro tw tw' h he
    simp only [insertTagWeights, Res.ok.injEq] at he
    exact he ▸ h
  | cons x r ih =>
    intro tw tw' h he
    obtain ⟨⟨tid, rel⟩, w⟩ := x
    simp only [insertTagWeights] at he
    split at he
    · cases he
    · rename_i row hrow
      split at he
      · cases he
      · rename_i m hm
        refine ih _ tw' ?_ he
        have hrowmem : row ∈ tw := List.mem_of_getElem? hrow
        have hmmem : m ∈ row := List.mem_of_getElem? hm
        intro row' hrow' m' hm' e he'
        rcases List.mem_or_eq_of_mem_set hrow' with h1 | rfl
        · exact h row' h1 m' hm' e he'
        · rcases List.mem_or_eq_of_mem_set hm' with h2 | rfl
          · exact h row hrowmem m' h2 e he'
          · rcases List.mem_append.1 he' with h3 | h3
            · exact h row hrowmem m hmmem e h3
            · simp only [List.mem_singleton] at h3
              subst h3
              exact ofList_reser cfg w

theorem fillTagWeights_canon {α : Type} (cfg : Cfg) :
    ∀ (l : List (List α × PWT)) (id : Nat) (tw tw' : List (List (List (Nat × WV)))),
      TableCanon cfg tw → fillTagWeights cfg l id tw = .ok tw' → TableCanon cfg tw' := by
  intro l
  induction l with
  | nil =>
    intro id tw tw' h he
    simp only [fillTagWeights, Res.ok.injEq] at he
    exact he ▸ h
  | cons x r ih =>
    intro id tw tw' h he
    simp only [fillTagWeights] at he
    split at he
    · rename_i tw1 h1
      exact ih _ _ _ (insertTagWeights_canon cfg id _ _ _ h h1) he
    all_goals cases he

theorem buildBoundary_canon {α : Type} [DecidableEq α] {cfg : Cfg} {es : List (List α × PW)} {sc : PmaScorer α}
    (h : buildBoundary cfg es = .ok sc) : ScorerCanon cfg sc := by
  simp only [buildBoundary] at h
  split at h
  · simp only [Res.ok.injEq] at h
    subst h
    refine ⟨?_, ?_⟩
    · intro o ho p hp
      simp only [List.mem_map] at ho
      obtain ⟨e, _, rfl⟩ := ho
      simp only [Option.some.injEq] at hp
      subst hp
      exact ofList_reser cfg _
    · intro tw htw
      simp only at htw
      cases htw
  · cases h

theorem buildBoundaryTag_canon {α : Type} [DecidableEq α] {cfg : Cfg} {w n : Nat} {es : List (List α × PWT)}
    {sc : PmaScorer α} (h : buildBoundaryTag cfg w n es = .ok sc) : ScorerCanon cfg sc := by
  simp only [buildBoundaryTag] at h
  split at h
  · rename_i tw htw
    split at h
    · simp only [Res.ok.injEq] at h
      subst h
      refine ⟨?_, ?_⟩
      · intro o ho p hp
        simp only [List.mem_map] at ho
        obtain ⟨e, _, rfl⟩ := ho
        cases hw : e.2.weight with
        | none => rw [hw] at hp; cases hp
        | some q =>
          rw [hw] at hp
          simp only [Option.map_some, Option.some.injEq] at hp
          subst hp
          exact ofList_reser cfg _
      · intro tw' htw'
        simp only [Option.some.injEq] at htw'
        subst htw'
        refine fillTagWeights_canon cfg _ _ _ _ (fun row hrow m hm e he => ?_) htw
        rw [(List.mem_replicate.1 hrow).2] at hm
        rw [(List.mem_replicate.1 hm).2] at he
        cases he
    · cases h
  all_goals cases h

theorem charScorerNew_canon {cfg : Cfg} {m : WModel} {tn : List (List (TagNgramData Char))}
    {sc : PmaScorer Char} (h : charScorerNew cfg m tn = .ok (some sc)) : ScorerCanon cfg sc := by
  rcases C01L.charScorerNew_cases cfg m tn _ h with ⟨hn, _⟩ | ⟨_, e, _, _, hb⟩ | ⟨_, e, _, hb⟩
  · cases hn
  · cases e; exact buildBoundaryTag_canon hb
  · cases e; exact buildBoundary_canon hb

theorem typeScorerNew_reser {cfg : Cfg} {m : WModel} {tn : List (List (TagNgramData Nat))}
    {t : TypeScorer} (h : typeScorerNew cfg m tn = .ok (some t)) : t.reser cfg = t := by
  rcases C01L.typeScorerNew_cases cfg m tn _ h with ⟨hn, _⟩ | ⟨_, e, _, _, hb⟩ | ⟨e, _⟩ | ⟨_, e, _, _, hb⟩
  · cases hn
  · cases e; exact congrArg TypeScorer.pma (buildBoundaryTag_canon hb).reser
  · cases e; rfl
  · cases e; exact congrArg TypeScorer.pma (buildBoundary_canon hb).reser

theorem new_reser {cfg : Cfg} {m : WModel} {pt : Bool} {p : Predictor} (hp : Predictor.new cfg m pt = .ok p) :
    p.reser cfg = p := by
  obtain ⟨_, hcs, hts, _, htp, _, hst⟩ := C01L.new_inv cfg m pt p hp
  have e1 : p.charScorer.map (PmaScorer.reser cfg) = p.charScorer :=
    optmap_eq_self fun sc hsc => (charScorerNew_canon (hsc ▸ hcs)).reser
  have e2 : p.typeScorer.map (TypeScorer.reser cfg) = p.typeScorer :=
    optmap_eq_self fun t ht => typeScorerNew_reser (ht ▸ hts)
  have e3 : (p.tagPredictor.map fun l => l.map fun e =>
      (e.1, e.2.1, ({ e.2.2 with bias := e.2.2.bias.reser cfg } : TagPredictor))) = p.tagPredictor := by
    rw [htp]
    refine optmap_eq_self fun l hl => map_eq_self fun e he => ?_
    split at hl
    · cases hl
      obtain ⟨x, _, rfl⟩ := List.mem_map.1 he
      simp only [ofList_reser]
    · cases hl
  cases p
  simp only [Predictor.reser] at e1 e2 e3 hst ⊢
  rw [e1, e2, e3, hst]

end V.C14L
