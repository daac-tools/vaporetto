import VModel.Kytea
import VProofs.Lemmas.BinVarint
/-!
# C17 — strict readers, pointwise

`StrictAt d v e`: the reader `d` maps `e ++ r` to `(v, r)` and rejects every proper prefix of `e` with an error.
`SoftAt d v e`: the same round trip, and on a proper prefix `d` fails or consumes everything (the delimiter-terminated
fields `read_line` / `read_until` do not fail at end of input — the next field does).
Both are closed under sequencing and counted repetition; fixed-width little-endian fields are strict.
-/
namespace V.C17L
open V V.Ky
open V.Bin (Bytes leBytes leValue)

variable {α β : Type}

def StrictAt (d : Rd α) (v : α) (e : Bytes) : Prop :=
  (∀ r, d (e ++ r) = .ok (v, r)) ∧ ∀ p, p <+: e → p ≠ e → ∃ er, d p = .err er

def SoftAt (d : Rd α) (v : α) (e : Bytes) : Prop :=
  (∀ r, d (e ++ r) = .ok (v, r)) ∧ ∀ p, p <+: e → p ≠ e → (∃ er, d p = .err er) ∨ ∃ v', d p = .ok (v', [])

/-- on empty input the reader fails or returns without input left -/
def EmptySoft (d : Rd α) : Prop := (∃ er, d [] = .err er) ∨ ∃ v', d [] = .ok (v', [])

theorem StrictAt.soft {d : Rd α} {v : α} {e : Bytes} (h : StrictAt d v e) : SoftAt d v e :=
  ⟨h.1, fun p hp hne => Or.inl (h.2 p hp hne)⟩

theorem StrictAt.congr {d : Rd α} {v : α} {e e' : Bytes} (h : StrictAt d v e) (he : e = e') : StrictAt d v e' :=
  he ▸ h

theorem SoftAt.congr {d : Rd α} {v : α} {e e' : Bytes} (h : SoftAt d v e) (he : e = e') : SoftAt d v e' :=
  he ▸ h

theorem StrictAt.pure (v : α) : StrictAt (Rd.pure v) v [] :=
  ⟨fun _ => rfl, fun _ hp hne => absurd (List.prefix_nil.1 hp) hne⟩

theorem bind_ok {d : Rd α} {f : α → Rd β} {bs r : Bytes} {a : α} (h : d bs = .ok (a, r)) : Rd.bind d f bs = f a r := by
  simp only [Rd.bind, h]

theorem bind_err {d : Rd α} {f : α → Rd β} {bs : Bytes} {er : Err} (h : d bs = .err er) :
    Rd.bind d f bs = .err er := by
  simp only [Rd.bind, h]

theorem bind_rt {d : Rd α} {f : α → Rd β} {a : α} {b : β} {ea eb : Bytes} (ha : ∀ r, d (ea ++ r) = .ok (a, r))
    (hb : ∀ r, f a (eb ++ r) = .ok (b, r)) (r : Bytes) : Rd.bind d f (ea ++ eb ++ r) = .ok (b, r) := by
  rw [List.append_assoc, bind_ok (ha _), hb]

/-- a proper prefix of `ea ++ eb` ends inside `ea`, or `d` consumes `ea` and leaves a proper prefix of `eb` -/
theorem bind_prefix {d : Rd α} (f : α → Rd β) {a : α} {ea eb p : Bytes} (ha : ∀ r, d (ea ++ r) = .ok (a, r))
    (hp : p <+: ea ++ eb) (hne : p ≠ ea ++ eb) :
    (p <+: ea ∧ p ≠ ea) ∨ ∃ q, q <+: eb ∧ q ≠ eb ∧ Rd.bind d f p = f a q := by
  rcases BinL.proper_prefix_append hp hne with h | ⟨q, rfl, hq, hq2⟩
  · exact Or.inl h
  · exact Or.inr ⟨q, hq, hq2, bind_ok (ha q)⟩

theorem StrictAt.bind {d : Rd α} {f : α → Rd β} {a : α} {b : β} {ea eb : Bytes}
    (ha : StrictAt d a ea) (hb : StrictAt (f a) b eb) : StrictAt (Rd.bind d f) b (ea ++ eb) := by
  refine ⟨bind_rt ha.1 hb.1, fun p hp hne => ?_⟩
  rcases bind_prefix f ha.1 hp hne with ⟨h1, h2⟩ | ⟨q, hq, hq2, he⟩
  · obtain ⟨er, h⟩ := ha.2 p h1 h2
    exact ⟨er, bind_err h⟩
  · rw [he]
    exact hb.2 q hq hq2

theorem StrictAt.map {d : Rd α} {a : α} {e : Bytes} (f : α → β) (ha : StrictAt d a e) :
    StrictAt (Rd.bind d fun x => Rd.pure (f x)) (f a) e :=
  (StrictAt.bind ha (StrictAt.pure (f a))).congr (List.append_nil e)

/-- a strict field never returns early, so what follows it needs no condition on empty input -/
theorem StrictAt.bind_soft {d : Rd α} {f : α → Rd β} {a : α} {b : β} {ea eb : Bytes}
    (ha : StrictAt d a ea) (hb : SoftAt (f a) b eb) : SoftAt (Rd.bind d f) b (ea ++ eb) := by
  refine ⟨bind_rt ha.1 hb.1, fun p hp hne => ?_⟩
  rcases bind_prefix f ha.1 hp hne with ⟨h1, h2⟩ | ⟨q, hq, hq2, he⟩
  · obtain ⟨er, h⟩ := ha.2 p h1 h2
    exact Or.inl ⟨er, bind_err h⟩
  · rw [he]
    exact hb.2 q hq hq2

theorem SoftAt.bind {d : Rd α} {f : α → Rd β} {a : α} {b : β} {ea eb : Bytes}
    (ha : SoftAt d a ea) (hb : SoftAt (f a) b eb) (hf : ∀ a', EmptySoft (f a')) :
    SoftAt (Rd.bind d f) b (ea ++ eb) := by
  refine ⟨bind_rt ha.1 hb.1, fun p hp hne => ?_⟩
  rcases bind_prefix f ha.1 hp hne with ⟨h1, h2⟩ | ⟨q, hq, hq2, he⟩
  · rcases ha.2 p h1 h2 with ⟨er, h⟩ | ⟨a', h⟩
    · exact Or.inl ⟨er, bind_err h⟩
    · rw [bind_ok h]
      exact hf a'
  · rw [he]
    exact hb.2 q hq hq2

theorem SoftAt.bind_strict {d : Rd α} {f : α → Rd β} {a : α} {b : β} {ea eb : Bytes}
    (ha : SoftAt d a ea) (hb : StrictAt (f a) b eb) (hf : ∀ a', ∃ er, f a' [] = .err er) :
    StrictAt (Rd.bind d f) b (ea ++ eb) := by
  refine ⟨bind_rt ha.1 hb.1, fun p hp hne => ?_⟩
  rcases bind_prefix f ha.1 hp hne with ⟨h1, h2⟩ | ⟨q, hq, hq2, he⟩
  · rcases ha.2 p h1 h2 with ⟨er, h⟩ | ⟨a', h⟩
    · exact ⟨er, bind_err h⟩
    · rw [bind_ok h]
      exact hf a'
  · rw [he]
    exact hb.2 q hq hq2

theorem StrictAt.repMap {σ : Type} {d : Rd α} (enc : σ → Bytes) (val : σ → α) : ∀ (xs : List σ),
    (∀ x ∈ xs, StrictAt d (val x) (enc x)) → StrictAt (Rd.rep d xs.length) (xs.map val) (xs.flatMap enc)
  | [], _ => StrictAt.pure []
  | x :: xs, h =>
    StrictAt.bind (h x List.mem_cons_self)
      (StrictAt.map _ (StrictAt.repMap enc val xs fun y hy => h y (List.mem_cons_of_mem x hy)))

theorem StrictAt.rep {d : Rd α} (enc : α → Bytes) (xs : List α) (h : ∀ x ∈ xs, StrictAt d x (enc x)) :
    StrictAt (Rd.rep d xs.length) xs (xs.flatMap enc) := by
  have := StrictAt.repMap enc id xs h
  rwa [List.map_id] at this

theorem StrictAt.rep_const {d : Rd α} {v : α} {e : Bytes} (h : StrictAt d v e) (n : Nat) :
    StrictAt (Rd.rep d n) ((List.range n).map fun _ => v) ((List.range n).flatMap fun _ => e) := by
  have := StrictAt.repMap (d := d) (fun _ => e) (fun _ => v) (List.range n) fun _ _ => h
  rwa [List.length_range] at this

theorem strict_takeBytes (b : Bytes) : StrictAt (takeBytes b.length) b b := by
  constructor
  · intro r
    simp only [takeBytes, List.length_append, Nat.le_add_right, if_true, List.take_left', List.drop_left']
  · intro p hp hne
    exact ⟨.io, if_neg (Nat.not_le.2 (BinL.prefix_length_lt hp hne))⟩

theorem strict_readLE (k n : Nat) (h : n < 256 ^ k) : StrictAt (readLE k) n (leBytes k n) := by
  have hl := BinL.leBytes_length k n
  constructor
  · intro r
    simp only [readLE, List.length_append, hl, Nat.le_add_right, if_true]
    rw [List.take_left' hl, List.drop_left' hl, BinL.leValue_leBytes, Nat.mod_eq_of_lt h]
  · intro p hp hne
    exact ⟨.io, if_neg (Nat.not_le.2 (hl ▸ BinL.prefix_length_lt hp hne))⟩

theorem strict_u8 {n : Nat} (h : n < 256) : StrictAt readU8 n (encU8 n) := strict_readLE 1 n h
theorem strict_u16 {n : Nat} (h : n < 65536) : StrictAt readU16 n (encU16 n) := strict_readLE 2 n h
theorem strict_u32 {n : Nat} (h : n < 2 ^ 32) : StrictAt readU32 n (encU32 n) := strict_readLE 4 n h

theorem strict_false : StrictAt readBool false (encU8 0) := StrictAt.map (· != 0) (strict_u8 (n := 0) (by decide))
theorem strict_true : StrictAt readBool true (encU8 1) := StrictAt.map (· != 0) (strict_u8 (n := 1) (by decide))

theorem strict_bool (b : Bool) : StrictAt readBool b (encU8 (if b then 1 else 0)) := by
  cases b
  · exact strict_false
  · exact strict_true

/-- `toI16` of the low 16 bits is the balanced remainder, the identity on `I16` -/
theorem toI16_enc {x : Int} (h : I16 x) : toI16 (x % 65536).toNat = x := by
  have h0 : 0 ≤ x % 65536 := Int.emod_nonneg x (by decide)
  refine Eq.trans ?_ (Int.bmod_eq_of_le (m := 65536) h.1 h.2)
  rw [toI16, Int.bmod_def, Int.toNat_of_nonneg h0]
  simp only [Int.toNat_lt h0]
  rfl

theorem strict_i16 {x : Int} (h : I16 x) : StrictAt readI16 x (encI16 x) := by
  have h1 : StrictAt readI16 (toI16 (x % 65536).toNat) (encI16 x) :=
    StrictAt.map _ (strict_readLE 2 _
      ((Int.toNat_lt (Int.emod_nonneg x (by decide))).2 (Int.emod_lt_of_pos x (by decide))))
  rwa [toI16_enc h] at h1

theorem strict_f64 {b : Bytes} (h : b.length = 8) : StrictAt readF64 b b := by
  have := strict_takeBytes b
  rwa [h] at this

theorem strict_vecMap {σ : Type} {d : Rd α} (enc : σ → Bytes) (val : σ → α) (xs : List σ) (hlen : xs.length < 2 ^ 32)
    (h : ∀ x ∈ xs, StrictAt d (val x) (enc x)) : StrictAt (readVec d) (xs.map val) (encVecOf enc xs) :=
  StrictAt.bind (strict_u32 hlen) (StrictAt.repMap enc val xs h)

theorem strict_vec {d : Rd α} (enc : α → Bytes) (xs : List α) (hlen : xs.length < 2 ^ 32)
    (h : ∀ x ∈ xs, StrictAt d x (enc x)) : StrictAt (readVec d) xs (encVecOf enc xs) :=
  StrictAt.bind (strict_u32 hlen) (StrictAt.rep enc xs h)

/-- `tail`: what the reader's character map has after the encoder's (the NUL that ends it in the file) -/
theorem strict_char {cm : List Char} (tail : List Char) {c : Char} (hc : c ∈ cm) (hlen : cm.length < 65535) :
    StrictAt (readChar (cm ++ tail)) c (encChar cm c) := by
  have hlt := List.idxOf_lt_length_of_mem hc
  have hlk : lookupChar (cm ++ tail) (cidx cm c) = Rd.pure c := by
    simp only [lookupChar, cidx, Nat.add_one_ne_zero, if_false, Nat.add_sub_cancel,
      List.getElem?_append_left hlt, List.getElem?_eq_getElem hlt, List.getElem_idxOf]
  have h16 : StrictAt readU16 (cidx cm c) (encChar cm c) := strict_u16 (Nat.succ_lt_succ (Nat.lt_trans hlt hlen))
  exact (StrictAt.bind h16 (hlk ▸ StrictAt.pure c)).congr (List.append_nil _)

theorem strict_string {cm : List Char} (tail : List Char) (s : List Char) (hs : ∀ c ∈ s, c ∈ cm)
    (hlen : cm.length < 65535) (hsl : s.length < 2 ^ 32) :
    StrictAt (readString (cm ++ tail)) s (encStr cm s) :=
  strict_vec _ s hsl fun c hc => strict_char tail (hs c hc) hlen

theorem strict_i16s (v : List Int) (hv : ∀ x ∈ v, I16 x) (hlen : v.length < 2 ^ 32) :
    StrictAt (readVec readI16) v (encI16s v) :=
  strict_vec _ v hlen fun x hx => strict_i16 (hv x hx)

end V.C17L
