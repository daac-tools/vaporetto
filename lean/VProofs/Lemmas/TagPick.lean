import VModel.Spec
/-!
# `argmaxFirst` / `TagPredictor.predict` / `candidatesLoop` against `firstMax` / `specPickTags` (for C06)
-/
namespace V

/-- the candidate scores `tag_candidates` must report for a token whose tag model has these categories, given its class scores `sc` -/
def specCandidates : List (List (List Char)) → List Int → List (List (List Char × Int))
  | [], _ => []
  | cands :: r, sc =>
    if cands.length = 1 then [(cands.headD [], 0)] :: specCandidates r sc
    else if 2 ≤ cands.length then cands.zip (sc.take cands.length) :: specCandidates r (sc.drop cands.length)
    else [] :: specCandidates r sc

namespace C06L

theorem argmaxFirst_some (r : List Int) (i best : Nat) (m : Int) :
    argmaxFirst r i best (some m)
      = if r.all (fun y => decide (y ≤ m)) = true then best else i + firstMax r := by
  induction r generalizing i best m with
  | nil => simp [argmaxFirst]
  | cons y r ih =>
    rw [argmaxFirst]
    by_cases hy : y > m
    · rw [if_pos hy, ih]
      have hall : (y :: r).all (fun y => decide (y ≤ m)) = false := by
        simp only [List.all_cons, Bool.and_eq_false_iff, decide_eq_false_iff_not]
        left; omega
      rw [hall]
      simp only [Bool.false_eq_true, if_false]
      show _ = i + (if r.all (fun z => decide (z ≤ y)) = true then 0 else firstMax r + 1)
      split <;> omega
    · rw [if_neg hy, ih]
      have hym : y ≤ m := by omega
      by_cases hall : r.all (fun y => decide (y ≤ m)) = true
      · have : (y :: r).all (fun y => decide (y ≤ m)) = true := by
          simp only [List.all_cons, Bool.and_eq_true, decide_eq_true_eq]
          exact ⟨hym, hall⟩
        rw [if_pos hall, if_pos this]
      · have h1 : ¬ (y :: r).all (fun y => decide (y ≤ m)) = true := by
          simp only [List.all_cons, Bool.and_eq_true, decide_eq_true_eq]
          exact fun h => hall h.2
        have h2 : ¬ r.all (fun z => decide (z ≤ y)) = true := by
          intro h
          apply hall
          rw [List.all_eq_true] at h ⊢
          intro z hz
          have := h z hz
          simp only [decide_eq_true_eq] at this ⊢
          omega
        rw [if_neg hall, if_neg h1]
        show _ = i + (if r.all (fun z => decide (z ≤ y)) = true then 0 else firstMax r + 1)
        rw [if_neg h2]; omega

theorem argmaxFirst_eq (l : List Int) : argmaxFirst l 0 0 none = firstMax l := by
  cases l with
  | nil => rfl
  | cons x xs =>
    rw [argmaxFirst, argmaxFirst_some]
    show _ = if xs.all (fun y => decide (y ≤ x)) = true then 0 else firstMax xs + 1
    split <;> omega

theorem nClass_nil : nClass [] = 0 := rfl

theorem nClass_cons (c : List (List Char)) (r : List (List (List Char))) :
    nClass (c :: r) = (if 2 ≤ c.length then c.length else 0) + nClass r := by
  unfold nClass
  by_cases h : 2 ≤ c.length
  · simp [h]
  · simp [h]

theorem take_take_add {β : Type} (X : List β) (a b : Nat) : (X.take (a + b)).take a = X.take a := by
  rw [List.take_take]; congr 1; omega

theorem drop_take_add {β : Type} (X : List β) (a b : Nat) : (X.take (a + b)).drop a = (X.drop a).take b := by
  rw [List.drop_take]; congr 1; omega

theorem tagPredict_spec (tp : TagPredictor) (scores : List Int) (tags : List (List (List Char))) :
    ∀ (offset : Nat) (slots : List Tag), offset + nClass tags ≤ scores.length → tags.length ≤ slots.length →
      tp.predict scores tags offset slots
        = .ok (specPickTags tags ((scores.drop offset).take (nClass tags)) ++ slots.drop tags.length) := by
  induction tags with
  | nil => intro offset slots _ _; simp [TagPredictor.predict, specPickTags]
  | cons cands r ih =>
    intro offset slots h1 h2
    cases slots with
    | nil => simp at h2
    | cons slot slots =>
      rw [nClass_cons] at h1 ⊢
      simp only [List.length_cons] at h2
      rw [TagPredictor.predict]
      by_cases hc : 2 ≤ cands.length
      · simp only [hc, if_true] at h1 ⊢
        rw [if_pos (show offset + cands.length ≤ scores.length by omega)]
        simp only [ih (offset + cands.length) slots (by omega) (by omega)]
        simp only [specPickTags, hc, if_true, argmaxFirst_eq, take_take_add, drop_take_add, List.drop_drop,
          List.length_cons, List.drop_succ_cons, List.cons_append]
      · simp only [hc, if_false] at h1 ⊢
        simp only [ih offset slots (by omega) (by omega)]
        simp only [specPickTags, hc, if_false, Nat.zero_add, List.length_cons, List.drop_succ_cons, List.cons_append]

theorem specPickTags_length (tags : List (List (List Char))) (sc : List Int) :
    (specPickTags tags sc).length = tags.length := by
  induction tags generalizing sc with
  | nil => rfl
  | cons c r ih =>
    unfold specPickTags
    split <;> simp [ih]

theorem candidatesLoop_spec (tags : List (List (List Char))) (scores : List Int) :
    ∀ (i : Nat), i + nClass tags ≤ scores.length →
      candidatesLoop tags scores i = .ok (specCandidates tags ((scores.drop i).take (nClass tags))) := by
  induction tags with
  | nil => intro i _; rfl
  | cons cands r ih =>
    intro i h
    rw [nClass_cons] at h ⊢
    rw [candidatesLoop]
    by_cases h1 : cands.length = 1
    · have hc : ¬ 2 ≤ cands.length := by omega
      rw [if_neg hc] at h ⊢
      rw [if_pos h1, ih i (by omega)]
      simp only [specCandidates, if_pos h1, Nat.zero_add]
    · rw [if_neg h1]
      by_cases hc : 2 ≤ cands.length
      · rw [if_pos hc] at h ⊢
        rw [if_pos (by omega), ih (i + cands.length) (by omega)]
        simp only [specCandidates, if_neg h1, if_pos hc, take_take_add, drop_take_add, List.drop_drop]
      · rw [if_neg hc] at h ⊢
        have h0 : cands = [] := by
          cases cands with
          | nil => rfl
          | cons a b => simp only [List.length_cons] at h1 hc; omega
        subst h0
        rw [if_pos (by simp only [List.length_nil]; omega), ih (i + ([] : List (List Char)).length) (by simpa using h)]
        simp [specCandidates]

end C06L
end V
