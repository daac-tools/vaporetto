import VModel.PredictorSer
import VProofs.Lemmas.BinModel
/-!
# C14 helper lemmas: the `PredictorData` envelope is a strict decoder
-/
namespace V.C14L
open V V.Bin V.BinL

theorem strict_option {α : Type} {e : α → Bytes} {d : Dec α} {P : α → Prop} (h : Strict e d P) :
    Strict (encOption e) (decOption d) (fun o => ∀ a, o = some a → P a) := by
  have h10 : ¬ ((1 : UInt8) = 0) := by decide
  constructor
  · intro o r hP hlen
    cases o with
    | none => simp [encOption, decOption]
    | some a =>
      simp only [encOption, List.length_cons] at hlen
      simp only [encOption, List.cons_append, decOption, h10, if_false, if_true]
      rw [h.rt a r (hP a rfl) (by omega)]
  · intro o p hP hlen hp hne
    cases o with
    | none =>
      simp only [encOption] at hp hne
      rcases cons_prefix_cases hp hne with rfl | ⟨q, rfl, hq, hq2⟩
      · exact ⟨_, rfl⟩
      · exact absurd (List.prefix_nil.1 hq) hq2
    | some a =>
      simp only [encOption, List.length_cons] at hlen
      simp only [encOption] at hp hne
      rcases cons_prefix_cases hp hne with rfl | ⟨q, rfl, hq, hq2⟩
      · exact ⟨_, rfl⟩
      · obtain ⟨er, he⟩ := h.pref a q (hP a rfl) (by omega) hq hq2
        simp only [decOption, h10, if_false, if_true]
        rw [he]; exact ⟨_, rfl⟩
  · intro o
    cases o <;> simp [encOption]

theorem strict_bytes : Strict encBytes decBytes (fun _ => True) := by
  refine Strict.lenPrefix (len := List.length) (body := fun s => s) (k := takeN)
    (fun bs n r hd => by simp only [decBytes, hd]) (fun bs e hd => ⟨.decode, by simp only [decBytes, hd, derr]⟩)
    (fun _ => Nat.le_refl _) (fun s r _ _ => takeN_append rfl r) ?_
  intro s q _ _ hq hne
  rw [takeN_short (prefix_length_lt hq hne)]
  exact ⟨_, rfl⟩

theorem strict_u32 : Strict encU32 decU32 (fun n => n < 2 ^ 32) := strict_varint32
theorem strict_usize : Strict encUsize decUsize (fun n => n < 2 ^ 64) := strict_varint64

/-! `Ok…`: the value ranges that `EnvOK` asks of an `Envelope` (the outer `PredictorData` record), part by part, without its size bound. -/

def OkTagPredWire (t : TagPredWire) : Prop := ∀ w ∈ t.bias, OkI32 w
def OkTagEntry (e : List Char × Nat × TagPredWire) : Prop := e.2.1 < 2 ^ 32 ∧ OkTagPredWire e.2.2
def OkEnvelope (e : Envelope) : Prop :=
  OkI32 e.bias ∧ (∀ l, e.tagPredictor = some l → ∀ x ∈ l, OkTagEntry x) ∧ e.nTags < 2 ^ 64

theorem strict_tagPredWire : Strict encTagPredWire decTagPredWire OkTagPredWire :=
  (strict_string.vec.vec.pair strict_i32.vec).conv _ (fun t => (t.tags, t.bias)) (fun _ => rfl) (fun _ => rfl)
    (fun _ h => ⟨fun _ _ _ _ => trivial, h⟩)

theorem strict_tagEntry : Strict encTagEntry decTagEntry OkTagEntry :=
  (strict_string.pair (strict_u32.pair strict_tagPredWire)).weaken (fun _ => by simp [encTagEntry, encPair])
    (fun _ h => ⟨trivial, h⟩)

theorem strict_envelope : Strict encEnvelope decEnvelope OkEnvelope :=
  ((strict_option strict_bytes).pair ((strict_option strict_bytes).pair (strict_i32.pair
      ((strict_option strict_tagEntry.vec).pair strict_usize)))).conv _
    (fun e => (e.charScorer, e.typeScorer, e.bias, e.tagPredictor, e.nTags))
    (fun _ => rfl) (fun _ => by simp [encEnvelope, encPair])
    (fun _ h => ⟨fun _ _ => trivial, fun _ _ => trivial, h.1, h.2.1, h.2.2⟩)

theorem okEnvelope_of_envOK {e : Envelope} (h : EnvOK e) : OkEnvelope e :=
  ⟨h.bias, fun l hl x hx => ⟨h.ids l hl x hx, h.i32 l hl x hx⟩, h.nTags⟩

/-- every proper prefix of a serialised envelope is rejected with an error (no panic) -/
theorem decEnvelope_pref {e : Envelope} (h : EnvOK e) {p : Bytes} (hp : p <+: encEnvelope e)
    (hne : p ≠ encEnvelope e) : ∃ er, decEnvelope p = .err er :=
  strict_envelope.pref e p (okEnvelope_of_envOK h) h.size hp hne

end V.C14L
