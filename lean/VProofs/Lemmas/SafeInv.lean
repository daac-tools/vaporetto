import VModel.History
import VProofs.C01
import VProofs.C05
import VProofs.C06
import VProofs.C15
/-!
# The history invariant of C18, its frame lemma, and the three updates (which forget the predictor)

`InvH env s`: the sentence is consistent (`Inv`) and, when it remembers a predictor, that predictor exists and the
sentence is — up to labels, tags, tag count and stored tag scores — what that predictor's `predict` returned.
-/
namespace V

/-- the predictors that exist were built through the safe API from well-formed models -/
def EnvWF (env : List Predictor) : Prop :=
  ∀ p ∈ env, ∃ cfg m pt p0 store, WFModel m ∧ WFTags m ∧ Predictor.new cfg m pt = .ok p0 ∧
    p = { p0 with storeTagScores := store }

/-- what the documentation requires of the caller: predictors exist, `fill_tags` only after `predict` with a predictor built
with `predict_tags = true`, indices into the public slices in range, grapheme clusters that segment the text -/
def HOp.Valid (env : List Predictor) (s : Sentence) : HOp → Prop
  | .predict k => k < env.length
  | .fillTags => ∀ k, s.pred = some k → ∃ p, env[k]? = some p ∧ p.tagPredictor.isSome = true
  | .setBoundary i _ => i < s.bounds.length
  | .setTag i _ => i < s.tags.length
  | .filterGc ls => (∀ l ∈ ls, 1 ≤ l) ∧ ls.sum = s.text.length
  | _ => True

/-- as `EnvWF`, with window sizes 0..255 -/
def EnvWF0 (env : List Predictor) : Prop :=
  ∀ p ∈ env, ∃ cfg m pt p0 store, WFModel0 m ∧ WFTags m ∧ Predictor.new cfg m pt = .ok p0 ∧
    p = { p0 with storeTagScores := store }

end V

namespace V.C18L

/-- the sentence carries what `p.predict k` computed, for some earlier state with the same text -/
def Traced (p : Predictor) (k : Nat) (s : Sentence) : Prop :=
  ∃ s0 s1, SentOK s0 ∧ p.predict k s0 = .ok s1 ∧ s.text = s1.text ∧ s.types = s1.types ∧ s.scores = s1.scores ∧
    s.padding = s1.padding ∧ s.cstates = s1.cstates ∧ s.tstates = s1.tstates ∧ s.bounds.length = s1.bounds.length

def InvH (env : List Predictor) (s : Sentence) : Prop :=
  Inv s ∧ ∀ k, s.pred = some k → ∃ p, env[k]? = some p ∧ Traced p k s

theorem invH_of_none {env : List Predictor} {s : Sentence} (h : Inv s) (hp : s.pred = none) : InvH env s :=
  ⟨h, fun k hk => by rw [hp] at hk; cases hk⟩

/-- an operation that keeps everything `predict` wrote except the labels (same number of them) keeps the invariant -/
theorem invH_frame {env : List Predictor} {s s' : Sentence} (h : InvH env s) (hi : Inv s')
    (hpred : s'.pred = s.pred) (htext : s'.text = s.text) (htypes : s'.types = s.types)
    (hscores : s'.scores = s.scores) (hpad : s'.padding = s.padding) (hcs : s'.cstates = s.cstates)
    (hts : s'.tstates = s.tstates) (hbl : s'.bounds.length = s.bounds.length) : InvH env s' := by
  refine ⟨hi, fun k hk => ?_⟩
  rw [hpred] at hk
  obtain ⟨p, hp, s0, s1, h0, h1, e1, e2, e3, e4, e5, e6, e7⟩ := h.2 k hk
  exact ⟨p, hp, s0, s1, h0, h1, htext.trans e1, htypes.trans e2, hscores.trans e3, hpad.trans e4, hcs.trans e5,
    hts.trans e6, hbl.trans e7⟩

theorem invH_bounds {env : List Predictor} {s : Sentence} (h : InvH env s) {bs : List B}
    (hl : bs.length = s.bounds.length) : InvH env { s with bounds := bs } :=
  invH_frame h (Inv.ofC (C15L.invC_bounds h.1.toC hl)) rfl rfl rfl rfl rfl rfl rfl hl

theorem invH_tags {env : List Predictor} {s : Sentence} (h : InvH env s) {ts : List Tag}
    (hl : ts.length = s.tags.length) : InvH env { s with tags := ts } :=
  invH_frame h (Inv.ofC (C15L.invC_tags h.1.toC hl)) rfl rfl rfl rfl rfl rfl rfl rfl

theorem updateRaw_pred {s s' : Sentence} {x : List Char} {ok : Bool} (h : s.updateRaw x = .ok (s', ok)) :
    s'.pred = none := by
  unfold Sentence.updateRaw at h
  split at h
  · simp only [Res.ok.injEq, Prod.mk.injEq] at h
    rw [← h.1]
  · simp only [Res.ok.injEq, Prod.mk.injEq] at h
    rw [← h.1]; rfl
  · cases h
  · cases h

theorem updateParsed_pred {s s' : Sentence} {r : Res Parsed} {ok : Bool} (h : s.updateParsed r = .ok (s', ok)) :
    s'.pred = none := by
  unfold Sentence.updateParsed at h
  split at h
  · split at h
    · simp only [Res.ok.injEq, Prod.mk.injEq] at h
      rw [← h.1]
    · cases h
    · cases h
    · cases h
  · simp only [Res.ok.injEq, Prod.mk.injEq] at h
    rw [← h.1]; rfl
  · cases h
  · cases h

theorem update_step (env : List Predictor) (s : Sentence) (h : Inv s) (op : SOp) (hop : ∀ k, op ≠ .resetTags k) :
    ∃ s' ok, op.apply s = .ok (s', ok) ∧ InvH env s' := by
  obtain ⟨s', ok, h1⟩ := C05_update_returns s op
  refine ⟨s', ok, h1, invH_of_none (C05_step_inv s s' op ok h h1) ?_⟩
  cases op with
  | updateRaw x => exact updateRaw_pred h1
  | updateTokenized x => exact updateParsed_pred h1
  | updatePartial x => exact updateParsed_pred h1
  | resetTags k => exact absurd rfl (hop k)

end V.C18L
