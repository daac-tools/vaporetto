import VModel.Spec
import VProofs.Lemmas.ScoreLocal
/-!
# Locality of the per-token tag classifiers (C06): the tag row of a token only depends on the token and on a bounded
stretch of text around its last character
-/
namespace V.C06Loc
open V.C01Loc
variable {α : Type} [DecidableEq α]

/-- the tag n-gram score of the token ending at `pre.length + en` in `pre ++ mid ++ post` is that of the token ending at
`en` in `mid`, when every n-gram occurrence that is looked at lies inside `mid` -/
theorem tagNgramScore_local (tbl : List (TagNgramData α)) (R : Nat)
    (hR : ∀ d ∈ tbl, d.ngram.length ≤ R ∧ ∀ w ∈ d.weights, w.rel ≤ R)
    (pre mid post : List α) (en c : Nat) (he : 1 ≤ en) (h1 : R ≤ en) (h2 : en + R ≤ mid.length) :
    tagNgramScore tbl (pre ++ mid ++ post) (pre.length + en - 1) c = tagNgramScore tbl mid (en - 1) c := by
  unfold tagNgramScore
  congr 1
  apply List.map_congr_left
  intro d hd
  obtain ⟨hg, hw⟩ := hR d hd
  congr 1
  apply List.map_congr_left
  intro w hwm
  have hr := hw w hwm
  have e1 : pre.length + en - 1 + w.rel + 1 = pre.length + (en - 1 + w.rel) + 1 := by omega
  have c1 : pre.length + en - 1 + w.rel < (pre ++ mid ++ post).length := by
    simp only [List.length_append]; omega
  have c2 : en - 1 + w.rel < mid.length := by omega
  rw [e1, isSuffix_mid d.ngram pre mid post (en - 1 + w.rel) (by omega) (by omega)]
  simp only [c1, c2, true_and]

omit [DecidableEq α] in
theorem surface_local (pre mid post : List α) (st en : Nat) (h : en ≤ mid.length) :
    ((pre ++ mid ++ post).drop (pre.length + st)).take (pre.length + en - (pre.length + st)) =
      (mid.drop st).take (en - st) := by
  have e : pre.length + en - (pre.length + st) = en - st := by omega
  rw [e, List.append_assoc, List.drop_length_add_append, List.drop_append, List.take_append_of_le_length]
  rw [List.length_drop]; omega

theorem specTagScores_local (tm : TagModel) (R : Nat)
    (hc : ∀ d ∈ tm.charNgrams, d.ngram.length ≤ R ∧ ∀ w ∈ d.weights, w.rel ≤ R)
    (ht : ∀ d ∈ tm.typeNgrams, d.ngram.length ≤ R ∧ ∀ w ∈ d.weights, w.rel ≤ R)
    (pre mid post : List Char) (en : Nat) (he : 1 ≤ en) (h1 : R ≤ en) (h2 : en + R ≤ mid.length) :
    specTagScores tm (pre ++ mid ++ post) (pre.length + en - 1) = specTagScores tm mid (en - 1) := by
  have hty : typesOf (pre ++ mid ++ post) = typesOf pre ++ typesOf mid ++ typesOf post := by
    simp [typesOf]
  have hpl : pre.length = (typesOf pre).length := by simp [typesOf]
  unfold specTagScores
  apply List.map_congr_left
  intro c _
  rw [tagNgramScore_local tm.charNgrams R hc pre mid post en c he h1 h2, hty]
  conv => lhs; rw [hpl]
  rw [tagNgramScore_local tm.typeNgrams R ht (typesOf pre) (typesOf mid) (typesOf post) en c he h1
    (by simp only [typesOf, List.length_map]; omega)]

theorem specTokenTags_local (m : WModel) (R : Nat)
    (hR : ∀ tm ∈ m.tagModels,
      (∀ d ∈ tm.charNgrams, d.ngram.length ≤ R ∧ ∀ w ∈ d.weights, w.rel ≤ R) ∧
      (∀ d ∈ tm.typeNgrams, d.ngram.length ≤ R ∧ ∀ w ∈ d.weights, w.rel ≤ R))
    (pre mid post : List Char) (st en : Nat) (hse : st < en) (h1 : R ≤ en) (h2 : en + R ≤ mid.length) :
    specTokenTags m (pre ++ mid ++ post) (pre.length + st) (pre.length + en) = specTokenTags m mid st en := by
  unfold specTokenTags
  rw [surface_local pre mid post st en (by omega)]
  cases htm : tagModelOf m ((mid.drop st).take (en - st)) with
  | none => rfl
  | some tm =>
    have hmem : tm ∈ m.tagModels := by
      have := List.mem_of_find?_eq_some htm
      exact List.mem_reverse.mp this
    obtain ⟨hc, ht⟩ := hR tm hmem
    simp only [specTagScores_local tm R hc ht pre mid post en (by omega) h1 h2]

end V.C06Loc
