import VProofs.Lemmas.ScoreWeights
import VProofs.Lemmas.MergeCorrect
/-!
# The automaton contract (the longest match carries all suffix patterns) and one pass of a pattern-matching scorer over
the matches of a sequence (for C01)
-/
namespace V.C01L
variable {α : Type} [DecidableEq α]

/-- what `longestMatchAux` has found so far among the patterns `ps` -/
def GoodBest (pre : List α) (ps : List (List α)) : Option (Nat × Nat) → Prop
  | none => ∀ p ∈ ps, p.isSuffixOf pre = false
  | some (j, l) => ∃ p, ps[j]? = some p ∧ l = p.length ∧ p.isSuffixOf pre = true ∧
      ∀ q ∈ ps, q.isSuffixOf pre = true → q.length ≤ l

theorem GoodBest.keep {pre : List α} {done : List (List α)} {j l : Nat} (h : GoodBest pre done (some (j, l)))
    (p : List α) (hp : p.isSuffixOf pre = true → p.length ≤ l) : GoodBest pre (done ++ [p]) (some (j, l)) := by
  obtain ⟨p0, hj, hl, hs, hmax⟩ := h
  have hjlt : j < done.length := (List.getElem?_eq_some_iff.mp hj).1
  refine ⟨p0, by rw [List.getElem?_append_left hjlt]; exact hj, hl, hs, fun q hq hqs => ?_⟩
  rcases List.mem_append.mp hq with hq | hq
  · exact hmax q hq hqs
  · obtain rfl := List.mem_singleton.mp hq
    exact hp hqs

theorem GoodBest.new {pre : List α} {done : List (List α)} (p : List α) (hp : p.isSuffixOf pre = true)
    (hmax : ∀ q ∈ done, q.isSuffixOf pre = true → q.length ≤ p.length) :
    GoodBest pre (done ++ [p]) (some (done.length, p.length)) := by
  refine ⟨p, List.getElem?_concat_length, rfl, hp, fun q hq hqs => ?_⟩
  rcases List.mem_append.mp hq with hq | hq
  · exact hmax q hq hqs
  · obtain rfl := List.mem_singleton.mp hq
    exact Nat.le_refl _

theorem longestMatchAux_good (pre : List α) (rest done : List (List α)) (best : Option (Nat × Nat))
    (h : GoodBest pre done best) :
    GoodBest pre (done ++ rest) (longestMatchAux pre rest done.length best) := by
  induction rest generalizing done best with
  | nil => simpa [longestMatchAux] using h
  | cons p r ih =>
    simp only [longestMatchAux]
    have := ih (done ++ [p])
    simp only [List.append_assoc, List.singleton_append, List.length_append, List.length_singleton] at this
    apply this
    by_cases hp : p.isSuffixOf pre = true
    · simp only [hp, if_true]
      cases best with
      | none => exact .new p hp fun q hq hqs => by rw [h q hq] at hqs; cases hqs
      | some jl =>
        obtain ⟨j, l⟩ := jl
        by_cases hlt : l < p.length
        · simp only [hlt, if_true]
          obtain ⟨_, _, _, _, hmax⟩ := h
          exact .new p hp fun q hq hqs => Nat.le_trans (hmax q hq hqs) (Nat.le_of_lt hlt)
        · simp only [hlt, if_false]
          exact h.keep p fun _ => Nat.le_of_not_lt hlt
    · simp only [hp]
      cases best with
      | none =>
        intro q hq
        rcases List.mem_append.mp hq with hq | hq
        · exact h q hq
        · obtain rfl := List.mem_singleton.mp hq
          exact Bool.eq_false_iff.mpr hp
      | some jl => exact h.keep p fun hs => absurd hs hp

theorem longestMatch_good (pats : List (List α)) (pre : List α) :
    GoodBest pre pats (longestMatchAux pre pats 0 none) :=
  longestMatchAux_good pre pats [] none nofun

theorem longestMatch_none (pats : List (List α)) (pre : List α) (h : longestMatch pats pre = none) :
    ∀ p ∈ pats, p.isSuffixOf pre = false := by
  have hg := longestMatch_good pats pre
  unfold longestMatch at h
  cases hb : longestMatchAux pre pats 0 none with
  | none => rw [hb] at hg; exact hg
  | some jl => rw [hb] at h; cases h

theorem longestMatch_some (pats : List (List α)) (pre : List α) (id : Nat) (h : longestMatch pats pre = some id) :
    ∃ p, pats[id]? = some p ∧ p.isSuffixOf pre = true ∧
      ∀ q ∈ pats, q.isSuffixOf pre = q.isSuffixOf p := by
  have hg := longestMatch_good pats pre
  unfold longestMatch at h
  cases hb : longestMatchAux pre pats 0 none with
  | none => rw [hb] at h; cases h
  | some jl =>
    obtain ⟨j, l⟩ := jl
    rw [hb] at h hg
    simp only [Option.map_some, Option.some.injEq] at h
    subst h
    obtain ⟨p, hj, hl, hs, hmax⟩ := hg
    refine ⟨p, hj, hs, ?_⟩
    intro q hq
    have hps : p <:+ pre := List.isSuffixOf_iff_suffix.mp hs
    rw [Bool.eq_iff_iff, List.isSuffixOf_iff_suffix, List.isSuffixOf_iff_suffix]
    exact ⟨fun hq' => List.suffix_of_suffix_length_le hq' hps
      (hl ▸ hmax q hq (List.isSuffixOf_iff_suffix.mpr hq')), fun h => h.trans hps⟩

theorem suffix_take_length (p seq : List α) (e : Nat) (h : p.isSuffixOf (seq.take e) = true) : p.length ≤ e := by
  have := (List.isSuffixOf_iff_suffix.mp h).length_le
  simp only [List.length_take] at this
  omega

theorem padding_eq : padding = 7 := rfl

/-- the invariant that makes `add_score` safe: the window starts before the end of the pattern, and a weight that fits
the fixed layout does not start more than `length + 6` positions before it -/
def Pinv (k : List α) (pw : PW) : Prop :=
  pw.offset ≤ -1 ∧ (pw.weight.length ≤ 8 → 0 ≤ (k.length : Int) + 6 + pw.offset)

omit [DecidableEq α] in
theorem Pinv_add (k q : List α) (a b : PW) (hlen : q.length ≤ k.length) (ha : Pinv k a) (hb : Pinv q b) :
    Pinv k (a.add b) := by
  obtain ⟨ha1, ha2⟩ := ha
  obtain ⟨hb1, hb2⟩ := hb
  obtain ⟨hla, hlb⟩ := PW_add_length_ge a b
  show min a.offset b.offset ≤ -1 ∧ (_ ≤ 8 → 0 ≤ (k.length : Int) + 6 + min a.offset b.offset)
  refine ⟨by omega, fun h8 => ?_⟩
  have := ha2 (Nat.le_trans hla h8)
  have := hb2 (Nat.le_trans hlb h8)
  omega

/-- what one match `(end, id)` adds to buffer slot `j` -/
def contrib (optw : List (Option PW)) (j : Nat) (m : Nat × Nat) : Int :=
  match optw.getD m.2 none with
  | some pw => pw.denote ((j : Int) - ((m.1 : Int) + 6))
  | none => 0

theorem addScore_match (cfg : Cfg) (pw : PW) (e n : Nat) (buf : List Int) (hbuf : buf.length = n + 13)
    (hen : e ≤ n) (ho : pw.offset ≤ -1)
    (h8 : pw.weight.length ≤ 8 → 0 ≤ (e : Int) + 6 + pw.offset) :
    ∃ r, (pw.toPWV cfg).addScore ((e : Int) + (padding : Int) - 1) buf = .ok r ∧ r.length = buf.length ∧
      ∀ j, j < buf.length → r.getD j 0 = buf.getD j 0 + pw.denote ((j : Int) - ((e : Int) + 6)) := by
  have hp : (e : Int) + (padding : Int) - 1 = (e : Int) + 6 := by
    show (e : Int) + 7 - 1 = _
    omega
  rw [hp]
  apply addScore_ok
  · omega
  · intro _ hl
    have := h8 hl
    show _ ∧ _ + 8 ≤ _
    omega

omit [DecidableEq α] in
theorem go_cons (sc : PmaScorer α) (e id : Nat) (ms : List (Nat × Nat)) (buf buf' : List Int)
    (st : List (Option Nat)) (w : Option PWV) (hw : sc.weights[id]? = some w)
    (hsome : ∀ pw, w = some pw → pw.addScore ((e : Int) + (padding : Int) - 1) buf = .ok buf')
    (hnone : w = none → buf' = buf)
    (hst : sc.tagWeight.isSome = true → e - 1 < st.length ∧ 1 ≤ e) :
    pmaAddScores.go sc ((e, id) :: ms) buf st
      = pmaAddScores.go sc ms buf' (if sc.tagWeight.isSome then st.set (e - 1) (some id) else st) := by
  have htail : (if sc.tagWeight.isSome = true then
        if e - 1 < st.length ∧ 1 ≤ e then pmaAddScores.go sc ms buf' (st.set (e - 1) (some id))
        else Res.ub "pma_states.get_unchecked_mut(end - 1)"
      else pmaAddScores.go sc ms buf' st)
      = pmaAddScores.go sc ms buf' (if sc.tagWeight.isSome then st.set (e - 1) (some id) else st) := by
    by_cases h : sc.tagWeight.isSome = true
    · rw [if_pos h, if_pos (hst h), if_pos h]
    · rw [if_neg h, if_neg h]
  rw [pmaAddScores.go.eq_2, hw, ← htail]
  cases w with
  | none => rw [hnone rfl]
  | some pw =>
    simp only
    rw [hsome pw rfl]

omit [DecidableEq α] in
theorem go_spec (cfg : Cfg) (sc : PmaScorer α) (optw : List (Option PW))
    (hw : sc.weights = optw.map (Option.map (PW.toPWV cfg))) (n : Nat) (ms : List (Nat × Nat))
    (hms : ∀ m ∈ ms, 1 ≤ m.1 ∧ m.1 ≤ n ∧ ∃ ow, optw[m.2]? = some ow ∧
      ∀ pw, ow = some pw → pw.offset ≤ -1 ∧ (pw.weight.length ≤ 8 → 0 ≤ (m.1 : Int) + 6 + pw.offset))
    (buf : List Int) (hbuf : buf.length = n + 13) (st : List (Option Nat))
    (hst : sc.tagWeight.isSome = true → st.length = n) :
    ∃ r st', pmaAddScores.go sc ms buf st = .ok (r, st') ∧ r.length = buf.length ∧
      ∀ j, j < buf.length → r.getD j 0 = buf.getD j 0 + (ms.map (contrib optw j)).sum := by
  induction ms generalizing buf st with
  | nil => exact ⟨buf, st, rfl, rfl, fun j _ => by simp⟩
  | cons m ms ih =>
    obtain ⟨e, id⟩ := m
    obtain ⟨he1, hen, ow, hid, hinv⟩ := hms (e, id) List.mem_cons_self
    -- what this match does to the buffer
    have hone : ∃ w buf', sc.weights[id]? = some w ∧
        (∀ pw, w = some pw → pw.addScore ((e : Int) + (padding : Int) - 1) buf = .ok buf') ∧
        (w = none → buf' = buf) ∧ buf'.length = buf.length ∧
        ∀ j, j < buf.length → buf'.getD j 0 = buf.getD j 0 + contrib optw j (e, id) := by
      have hwid : sc.weights[id]? = some (ow.map (PW.toPWV cfg)) := by
        rw [hw, List.getElem?_map, hid]
        rfl
      have hgd : optw.getD id none = ow := by
        rw [List.getD_eq_getElem?_getD, hid]
        rfl
      unfold contrib
      rw [hgd]
      cases ow with
      | none => exact ⟨none, buf, hwid, nofun, fun _ => rfl, rfl, fun j _ => (Int.add_zero _).symm⟩
      | some pw =>
        obtain ⟨ho, h8⟩ := hinv pw rfl
        obtain ⟨r, h1, h2, h3⟩ := addScore_match cfg pw e n buf hbuf hen ho h8
        exact ⟨_, r, hwid, fun _ h => Option.some.inj h ▸ h1, nofun, h2, h3⟩
    obtain ⟨w, buf', hwid, hb0, hb1, hb2, hb3⟩ := hone
    rw [go_cons sc e id ms buf buf' st w hwid hb0 hb1 (fun h => by have := hst h; omega)]
    obtain ⟨r, st', h1, h2, h3⟩ := ih (fun m hm => hms m (List.mem_cons_of_mem _ hm)) buf' (hb2.trans hbuf)
      (if sc.tagWeight.isSome then st.set (e - 1) (some id) else st)
      (fun h => by rw [if_pos h, List.length_set]; exact hst h)
    refine ⟨r, st', h1, h2.trans hb2, fun j hj => ?_⟩
    rw [h3 j (hb2 ▸ hj), hb3 j hj, List.map_cons, List.sum_cons, Int.add_assoc]

end V.C01L
