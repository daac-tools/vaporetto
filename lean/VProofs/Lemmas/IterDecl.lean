import VProofs.Lemmas.Iter
/-! The declarative reading of `specSeg` / `specTokens` for arbitrary label vectors
(any mix of `N`, `W`, `U`) and the order of its members. -/
namespace V.C02L

/-- the declarative description of a reported segment `[st, en)` of the label vector `bs` -/
def Decl (bs : List B) (st en : Nat) : Prop :=
  st < en ∧ en ≤ bs.length + 1 ∧
  (st = 0 ∨ bs[st - 1]? = some B.W) ∧ (en = bs.length + 1 ∨ bs[en - 1]? = some B.W) ∧
  ∀ k, st ≤ k → k + 1 < en → bs[k]? = some B.N

/-- a segment cannot end just after a label that is not `W` -/
theorem decl_end_ne {bs : List B} {st en pos : Nat} (hd : Decl bs st en) (hlt : pos < bs.length)
    (hne : bs[pos]? ≠ some B.W) : en ≠ pos + 1 := by
  intro he
  obtain ⟨_, _, _, h4, _⟩ := hd
  subst he
  rcases h4 with h4 | h4
  · omega
  · rw [Nat.add_sub_cancel] at h4
    exact hne h4

/-- the state of the specification scan at position `pos` of the whole label vector `bs`: the current segment starts at
`start` (a legal start), has no `W` in `[start, pos)`, and `dirty` records a `U` there -/
structure Scan (bs : List B) (start pos : Nat) (dirty : Bool) : Prop where
  pos_le : pos ≤ bs.length
  start_le : start ≤ pos
  legal : start = 0 ∨ bs[start - 1]? = some B.W
  no_w : ∀ k, start ≤ k → k < pos → bs[k]? ≠ some B.W
  dirty_iff : dirty = true ↔ ∃ k, start ≤ k ∧ k < pos ∧ bs[k]? = some B.U

theorem Scan.init (bs : List B) (pos : Nat) (hpos : pos ≤ bs.length) (h : pos = 0 ∨ bs[pos - 1]? = some B.W) :
    Scan bs pos pos false :=
  ⟨hpos, Nat.le_refl _, h, fun k h1 h2 => by omega, Iff.intro (fun h => nomatch h) (fun ⟨k, h1, h2, _⟩ => by omega)⟩

/-- past a label that is not `W` the segment goes on, dirty if it was or the label is `U` -/
theorem Scan.skip {bs : List B} {start pos : Nat} {dirty : Bool} (h : Scan bs start pos dirty) {b : B}
    (hb : bs[pos]? = some b) (hne : b ≠ B.W) (hlt : pos < bs.length) :
    Scan bs start (pos + 1) (dirty || b == B.U) := by
  refine ⟨hlt, Nat.le_succ_of_le h.start_le, h.legal, fun k hk1 hk2 => ?_, ?_⟩
  · rcases Nat.lt_or_ge k pos with hk | hk
    · exact h.no_w k hk1 hk
    · have : k = pos := by omega
      rw [this, hb]
      exact fun e => hne (Option.some.inj e)
  · rw [Bool.or_eq_true, h.dirty_iff, beq_iff_eq]
    constructor
    · rintro (⟨k, h1, h2, h3⟩ | rfl)
      · exact ⟨k, h1, by omega, h3⟩
      · exact ⟨pos, h.start_le, by omega, hb⟩
    · rintro ⟨k, h1, h2, h3⟩
      rcases Nat.lt_or_ge k pos with hk | hk
      · exact Or.inl ⟨k, h1, hk, h3⟩
      · have : k = pos := by omega
        rw [this, hb] at h3
        exact Or.inr (Option.some.inj h3)

/-- the segment closed at position `pos` (end of the labels or a `W` at `pos`) -/
theorem close_iff {bs : List B} {start pos : Nat} {dirty : Bool} (h : Scan bs start pos dirty)
    (hclose : pos = bs.length ∨ bs[pos]? = some B.W) (st en : Nat) :
    (st, en) ∈ (if dirty then [] else [(start, pos + 1)]) ↔ Decl bs st en ∧ en = pos + 1 := by
  obtain ⟨hpos, hsp, hstart, hnw, hdirty⟩ := h
  constructor
  · intro hm
    cases dirty with
    | true => simp at hm
    | false =>
      simp only [Bool.false_eq_true, if_false, List.mem_singleton, Prod.mk.injEq] at hm
      obtain ⟨rfl, rfl⟩ := hm
      refine ⟨⟨by omega, by omega, hstart, ?_, ?_⟩, rfl⟩
      · rw [Nat.add_sub_cancel]
        rcases hclose with h | h
        · left; omega
        · right; exact h
      · intro k hk1 hk2
        have hklt : k < bs.length := by omega
        have hnw' := hnw k hk1 (by omega)
        have hnu : bs[k]? ≠ some B.U := by
          intro hu
          have : false = true := hdirty.mpr ⟨k, hk1, by omega, hu⟩
          exact absurd this (by simp)
        rw [List.getElem?_eq_getElem hklt] at hnw' hnu ⊢
        cases hx : bs[k] with
        | N => rfl
        | W => rw [hx] at hnw'; exact absurd rfl hnw'
        | U => rw [hx] at hnu; exact absurd rfl hnu
  · rintro ⟨⟨h1, h2, h3, h4, h5⟩, rfl⟩
    have hst : st = start := by
      rcases Nat.lt_trichotomy st start with hlt | heq | hgt
      · exfalso
        rcases hstart with h0 | hw
        · omega
        · have := h5 (start - 1) (by omega) (by omega)
          rw [hw] at this
          exact absurd this (by simp)
      · exact heq
      · exfalso
        rcases h3 with h0 | hw
        · omega
        · exact hnw (st - 1) (by omega) (by omega) hw
    subst hst
    cases dirty with
    | false => simp
    | true =>
      exfalso
      obtain ⟨k, hk1, hk2, hk3⟩ := hdirty.mp rfl
      have := h5 k hk1 (by omega)
      rw [hk3] at this
      exact absurd this (by simp)

/-- with `rest = bs.drop pos`, the members of `specSeg rest start pos dirty` are exactly the declaratively described
segments ending after `pos` -/
theorem specSeg_decl (bs : List B) (rest : List B) :
    ∀ (start pos : Nat) (dirty : Bool), bs.drop pos = rest → Scan bs start pos dirty →
      ∀ st en, (st, en) ∈ specSeg rest start pos dirty ↔ Decl bs st en ∧ pos < en := by
  induction rest with
  | nil =>
    intro start pos dirty hdrop h st en
    have hlen : pos = bs.length := by
      have := congrArg List.length hdrop
      simp only [List.length_drop, List.length_nil] at this
      have := h.pos_le
      omega
    simp only [specSeg]
    rw [close_iff h (Or.inl hlen) st en]
    constructor
    · rintro ⟨hd, he⟩; exact ⟨hd, by omega⟩
    · rintro ⟨hd, he⟩; exact ⟨hd, by have := hd.2.1; omega⟩
  | cons b r ih =>
    intro start pos dirty hdrop h st en
    obtain ⟨hlt, hb, hdrop'⟩ := drop_cons hdrop
    -- for `N` and `U`: nothing ends at `pos + 1`
    have skip : b ≠ B.W → ((Decl bs st en ∧ pos + 1 < en) ↔ (Decl bs st en ∧ pos < en)) := by
      intro hne
      constructor
      · rintro ⟨hd, he⟩; exact ⟨hd, by omega⟩
      · rintro ⟨hd, he⟩
        have := decl_end_ne hd hlt (by rw [hb]; exact fun e => hne (Option.some.inj e))
        exact ⟨hd, by omega⟩
    cases b with
    | N =>
      have hs := h.skip hb (fun e => nomatch e) hlt
      rw [show (dirty || B.N == B.U) = dirty from Bool.or_false dirty] at hs
      simp only [specSeg]
      rw [ih start (pos + 1) dirty hdrop' hs st en]
      exact skip (fun e => nomatch e)
    | U =>
      have hs := h.skip hb (fun e => nomatch e) hlt
      rw [show (dirty || B.U == B.U) = true from Bool.or_true dirty] at hs
      simp only [specSeg]
      rw [ih start (pos + 1) true hdrop' hs st en]
      exact skip (fun e => nomatch e)
    | W =>
      simp only [specSeg, List.mem_append]
      rw [close_iff h (Or.inr hb) st en,
        ih (pos + 1) (pos + 1) false hdrop' (Scan.init bs _ hlt (Or.inr hb)) st en]
      constructor
      · rintro (⟨hd, he⟩ | ⟨hd, he⟩)
        · exact ⟨hd, by omega⟩
        · exact ⟨hd, by omega⟩
      · rintro ⟨hd, he⟩
        rcases Nat.lt_or_ge (pos + 1) en with h | h
        · exact Or.inr ⟨hd, h⟩
        · exact Or.inl ⟨hd, by omega⟩

theorem specSeg_sorted (rest : List B) (start pos : Nat) (dirty : Bool) (h : start ≤ pos) :
    (∀ se ∈ specSeg rest start pos dirty, start ≤ se.1 ∧ se.1 < se.2) ∧
      List.Pairwise (fun a b : Nat × Nat => a.2 ≤ b.1) (specSeg rest start pos dirty) :=
  have ⟨h1, h2⟩ := specSeg_bounds rest start pos dirty h
  ⟨fun se hse => ⟨(h1 se hse).1, (h1 se hse).2.1⟩, h2⟩

end V.C02L
