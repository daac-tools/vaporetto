import VProofs.Lemmas.KyTrie
/-!
# C17 — the order of `dump_items`

When every state lists its gotos in strictly ascending character order (what `sort_unstable` establishes on a trie),
the walk emits the words in strictly ascending lexicographic order — the order in which the harness's `expected`
lists them (`sortByKey`).

The order laws of `Ky.lexLt` are proved here and not taken from the trainer's generic `V.lexLt`: with `VModel.Trainer`
among the imports of `VProofs/C17.lean`, the bare `lexLt` in the statement of `C17_dump_sorted` would resolve to `V.lexLt`.
-/
namespace V.C17L
open V V.Ky

theorem lexLt_cons_cons (a b : Char) (as bs : List Char) :
    lexLt (a :: as) (b :: bs) = true ↔ a.toNat < b.toNat ∨ a = b ∧ lexLt as bs = true := by
  simp only [lexLt, ltChar, decide_eq_true_eq]
  by_cases h1 : a.toNat < b.toNat
  · simp only [h1, if_true, true_or]
  · by_cases h2 : b.toNat < a.toNat
    · have : a ≠ b := fun e => Nat.lt_irrefl _ (e ▸ h2)
      simp only [h1, h2, if_true, if_false, false_or, this, false_and, Bool.false_eq_true]
    · cases Char.toNat_inj.1 (Nat.le_antisymm (Nat.not_lt.1 h2) (Nat.not_lt.1 h1))
      simp only [h1, if_false, false_or, true_and]

theorem lexLt_irrefl : ∀ (a : List Char), lexLt a a = false
  | [] => rfl
  | c :: t => by
    rw [Bool.eq_false_iff, Ne, lexLt_cons_cons]
    rintro (h | ⟨_, h⟩)
    · exact Nat.lt_irrefl _ h
    · rw [lexLt_irrefl t] at h; cases h

theorem lexLt_append_left (u : List Char) (a b : List Char) : lexLt (u ++ a) (u ++ b) = lexLt a b := by
  induction u with
  | nil => rfl
  | cons c t ih => simp [lexLt, ltChar, ih]

theorem lexLt_trans : ∀ {a b c : List Char}, lexLt a b = true → lexLt b c = true → lexLt a c = true
  | [], [], _, h, _ => by cases h
  | [], _ :: _, [], _, h => by cases h
  | [], _ :: _, _ :: _, _, _ => rfl
  | _ :: _, [], _, h, _ => by cases h
  | _ :: _, _ :: _, [], _, h => by cases h
  | x :: s, d :: t, e :: u, h1, h2 => by
    rw [lexLt_cons_cons] at h1 h2 ⊢
    rcases h1 with h1 | ⟨rfl, h1⟩
    · rcases h2 with h2 | ⟨rfl, _⟩
      · exact Or.inl (Nat.lt_trans h1 h2)
      · exact Or.inl h1
    · rcases h2 with h2 | ⟨rfl, h2⟩
      · exact Or.inl h2
      · exact Or.inr ⟨rfl, lexLt_trans h1 h2⟩

theorem lexLt_asymm {a b : List Char} (h : lexLt a b = true) : lexLt b a = false := by
  cases h' : lexLt b a with
  | false => rfl
  | true => exact ((lexLt_trans h h').symm.trans (lexLt_irrefl a)).symm ▸ rfl

theorem lexLt_total : ∀ {a b : List Char}, lexLt a b = false → lexLt b a = false → a = b
  | [], [], _, _ => rfl
  | [], _ :: _, h, _ => by cases h
  | _ :: _, [], _, h => by cases h
  | c :: s, d :: t, h1, h2 => by
    rw [Bool.eq_false_iff, Ne, lexLt_cons_cons, not_or] at h1 h2
    have hcd : c = d := Char.toNat_inj.1 (Nat.le_antisymm (Nat.not_lt.1 h2.1) (Nat.not_lt.1 h1.1))
    subst hcd
    rw [lexLt_total (Bool.eq_false_iff.2 fun h => h1.2 ⟨rfl, h⟩) (Bool.eq_false_iff.2 fun h => h2.2 ⟨rfl, h⟩)]

/-- `a` precedes every word below `w` -/
def Below (a w : List Char) : Prop := ∀ ext, lexLt a (w ++ ext) = true
/-- every word below `w` precedes every word below `v` -/
def Sep (w v : List Char) : Prop := ∀ e1 e2, lexLt (w ++ e1) (v ++ e2) = true

theorem below_child {a w : List Char} (c : Char) (h : Below a w) : Below a (w ++ [c]) := by
  intro ext; rw [List.append_assoc]; exact h _

theorem below_self_child (w : List Char) (c : Char) : Below w (w ++ [c]) := by
  intro ext
  have := lexLt_append_left w [] (c :: ext)
  simp only [List.append_nil] at this
  rw [List.append_assoc, List.singleton_append, this]
  rfl

theorem sep_child {w v : List Char} (c : Char) (h : Sep w v) : Sep (w ++ [c]) v := by
  intro e1 e2; rw [List.append_assoc]; exact h _ _

theorem sep_below {w v : List Char} (h : Sep w v) : Below w v := by
  intro ext; have := h [] ext; simpa using this

theorem sep_siblings (w : List Char) {c d : Char} (h : c.toNat < d.toNat) : Sep (w ++ [c]) (w ++ [d]) := by
  intro e1 e2
  rw [List.append_assoc, List.append_assoc, lexLt_append_left]
  simp [lexLt, ltChar, h]

abbrev KeyLt {α : Type} (a b : List Char × α) : Prop := lexLt a.1 b.1 = true

variable {τ : Type}

/-- the invariant: the output is ascending and precedes everything below the worklist, whose entries are separated -/
theorem dump_sorted (states : List KState) (entries : List τ)
    (hasc : ∀ (i : Nat) (st : KState), states[i]? = some st → CharAsc st.gotos) (fuel : Nat)
    (res : List (List Char × τ)) (h : dumpItems states entries fuel [(0, [])] [] = .ok res) : res.Pairwise KeyLt := by
  refine (dumpItems_invariant
    (I := fun stack acc => acc.Pairwise KeyLt ∧ (∀ a ∈ acc, ∀ p ∈ stack, Below a.1 p.2) ∧
      stack.Pairwise fun p q => Sep p.2 q.2) ?_ fuel _ _ res h
    ⟨List.Pairwise.nil, fun _ ha => absurd ha List.not_mem_nil, List.pairwise_singleton _ _⟩).1
  rintro idx word rest acc st out hst hv ⟨hacc, hbelow, hsep⟩
  rw [List.pairwise_cons] at hsep
  have hout : ∀ a ∈ out, a.1 = word := by
    rcases visit_ok.1 hv with ⟨_, rfl⟩ | ⟨_, _, _, e, _, _, rfl⟩
    · exact fun _ ha => absurd ha List.not_mem_nil
    · exact fun a ha => List.mem_singleton.1 ha ▸ rfl
  refine ⟨List.pairwise_append.2 ⟨hacc, ?_, ?_⟩, ?_, List.pairwise_append.2 ⟨?_, hsep.2, ?_⟩⟩
  · rcases visit_ok.1 hv with ⟨_, rfl⟩ | ⟨_, _, _, e, _, _, rfl⟩
    · exact List.Pairwise.nil
    · exact List.pairwise_singleton _ _
  · intro a ha b hb
    have := hbelow a ha (idx, word) List.mem_cons_self []
    rwa [List.append_nil, ← hout b hb] at this
  · intro a ha p hp
    rcases List.mem_append.1 ha with ha | ha <;> rcases List.mem_append.1 hp with hp | hp
    · obtain ⟨g, _, rfl⟩ := List.mem_map.1 hp
      exact below_child _ (hbelow a ha (idx, word) List.mem_cons_self)
    · exact hbelow a ha p (List.mem_cons_of_mem _ hp)
    · obtain ⟨g, _, rfl⟩ := List.mem_map.1 hp
      rw [hout a ha]
      exact below_self_child _ _
    · rw [hout a ha]
      exact sep_below (hsep.1 p hp)
  · exact List.pairwise_map.2 ((hasc idx st hst).imp fun h => sep_siblings word h)
  · intro a ha b hb
    obtain ⟨g, _, rfl⟩ := List.mem_map.1 ha
    exact sep_child _ (hsep.1 b hb)

section
variable {α : Type}

theorem insertByKey_perm (x : List Char × α) : ∀ (l : List (List Char × α)), (insertByKey x l).Perm (x :: l)
  | [] => List.Perm.refl _
  | y :: r => by
    rw [insertByKey]
    split
    · exact List.Perm.refl _
    · exact (List.Perm.cons y (insertByKey_perm x r)).trans (List.Perm.swap x y r)

theorem sortByKey_perm : ∀ (l : List (List Char × α)), (sortByKey l).Perm l
  | [] => List.Perm.refl _
  | y :: r => (insertByKey_perm y _).trans (List.Perm.cons y (sortByKey_perm r))

theorem mem_insertByKey {x g : List Char × α} {l : List (List Char × α)} : g ∈ insertByKey x l ↔ g = x ∨ g ∈ l :=
  (insertByKey_perm x l).mem_iff.trans List.mem_cons

theorem mem_sortByKey {g : List Char × α} {l : List (List Char × α)} : g ∈ sortByKey l ↔ g ∈ l :=
  (sortByKey_perm l).mem_iff

theorem insertByKey_sorted {x : List Char × α} : ∀ {l : List (List Char × α)}, l.Pairwise KeyLt →
    (∀ y ∈ l, x.1 ≠ y.1) → (insertByKey x l).Pairwise KeyLt := by
  intro l
  induction l with
  | nil => intro _ _; simp [insertByKey]
  | cons y r ih =>
    intro hl hx
    have hxy := hx y (by simp)
    simp only [List.pairwise_cons] at hl
    simp only [insertByKey]
    by_cases h : lexLt x.1 y.1 = true
    · rw [if_pos h]
      simp only [List.pairwise_cons]
      refine ⟨?_, hl⟩
      intro z hz
      rcases List.mem_cons.1 hz with rfl | hz
      · exact h
      · exact lexLt_trans h (hl.1 z hz)
    · rw [if_neg h]
      simp only [List.pairwise_cons]
      have hlt : lexLt y.1 x.1 = true := by
        cases h2 : lexLt y.1 x.1 with
        | true => rfl
        | false => exact absurd (lexLt_total (by simpa using h) h2) hxy
      refine ⟨?_, ih hl.2 (fun z hz => hx z (by simp [hz]))⟩
      intro z hz
      rcases mem_insertByKey.1 hz with rfl | hz
      · exact hlt
      · exact hl.1 z hz

theorem sortByKey_sorted : ∀ {l : List (List Char × α)}, (l.map (·.1)).Nodup → (sortByKey l).Pairwise KeyLt := by
  intro l
  induction l with
  | nil => intro _; simp [sortByKey]
  | cons y r ih =>
    intro h
    simp only [List.map_cons, List.nodup_cons] at h
    simp only [sortByKey]
    refine insertByKey_sorted (ih h.2) ?_
    intro z hz heq
    apply h.1
    rw [heq]
    exact List.mem_map.2 ⟨z, mem_sortByKey.1 hz, rfl⟩

theorem eq_sortByKey {l res : List (List Char × α)} (hnd : (l.map (·.1)).Nodup) (hs : res.Pairwise KeyLt)
    (hm : ∀ x, x ∈ res ↔ x ∈ l) : res = sortByKey l := by
  have hs' := sortByKey_sorted hnd
  have nd : ∀ {m : List (List Char × α)}, m.Pairwise KeyLt → m.Nodup := fun h =>
    h.imp fun hab e => by rw [e, KeyLt, lexLt_irrefl] at hab; cases hab
  refine List.Perm.eq_of_pairwise (fun a b _ _ h1 h2 => ?_) hs hs'
    ((List.perm_ext_iff_of_nodup (nd hs) (nd hs')).2 fun x => (hm x).trans mem_sortByKey.symm)
  rw [KeyLt, lexLt_asymm h1] at h2
  cases h2

theorem insertByKey_map {β : Type} (g : List Char × α → β) (x : List Char × α) : ∀ (l : List (List Char × α)),
    insertByKey (x.1, g x) (l.map fun y => (y.1, g y)) = (insertByKey x l).map fun y => (y.1, g y) := by
  intro l
  induction l with
  | nil => rfl
  | cons y r ih =>
    simp only [List.map_cons, insertByKey]
    by_cases h : lexLt x.1 y.1 = true
    · simp [h]
    · rw [if_neg h, if_neg h, List.map_cons, ih]

theorem sortByKey_map {β : Type} (g : List Char × α → β) : ∀ (l : List (List Char × α)),
    sortByKey (l.map fun y => (y.1, g y)) = (sortByKey l).map fun y => (y.1, g y) := by
  intro l
  induction l with
  | nil => rfl
  | cons y r ih => simp only [List.map_cons, sortByKey, ih, insertByKey_map]

end

end V.C17L
