import VProofs.Lemmas.FeatNgram
/-!
# Lemmas for C10 — the dictionary part of `genFeatures`
-/
namespace V.C10L

/-- the predicate of `C10_dict_spec` on one match -/
def dictSel (cfg : TrainCfg) (text : List Char) (i len : Nat) (pos : DPos) (se : Nat × Nat) : Bool :=
  decide (min (se.2 - se.1) cfg.dictMaxLen = len) &&
    (match pos with
     | .left => decide (se.1 ≠ 0 ∧ i = se.1 - 1)
     | .inside => decide (se.1 ≤ i ∧ i + 1 < se.2)
     | .right => decide (se.2 ≠ text.length ∧ i = se.2 - 1))

def dictOne (cfg : TrainCfg) (text : List Char) (i : Nat) (se : Nat × Nat) : List Feature :=
  (if se.1 ≠ 0 ∧ i = se.1 - 1 then [Feature.dictWord (min (se.2 - se.1) cfg.dictMaxLen) .left] else [])
  ++ (if se.1 ≤ i ∧ i + 1 < se.2 then [Feature.dictWord (min (se.2 - se.1) cfg.dictMaxLen) .inside] else [])
  ++ (if se.2 ≠ text.length ∧ i = se.2 - 1 then [Feature.dictWord (min (se.2 - se.1) cfg.dictMaxLen) .right] else [])

theorem dictFeats_eq (cfg : TrainCfg) (text : List Char) (i : Nat) :
    dictFeats cfg text i = (dictMatches cfg.dictWords text).flatMap (dictOne cfg text i) := rfl

theorem count_ite_singleton {β : Type} [DecidableEq β] (c : Prop) [Decidable c] (x y : β) :
    (if c then [x] else []).count y = if x = y ∧ c then 1 else 0 := by
  by_cases hc : c <;> by_cases hxy : x = y <;> simp [hc, hxy]

theorem count_dictOne (cfg : TrainCfg) (text : List Char) (i len : Nat) (pos : DPos) (se : Nat × Nat) :
    (dictOne cfg text i se).count (Feature.dictWord len pos) =
      if dictSel cfg text i len pos se then 1 else 0 := by
  simp only [dictOne, dictSel, List.count_append, count_ite_singleton, Feature.dictWord.injEq, Bool.and_eq_true,
    decide_eq_true_eq]
  cases pos <;>
    simp only [reduceCtorEq, and_false, false_and, and_true, if_false, Nat.add_zero, Nat.zero_add, decide_eq_true_eq]

theorem count_flatMap_ind {β γ : Type} [DecidableEq γ] (f : β → List γ) (p : β → Bool) (x : γ)
    (h : ∀ b, (f b).count x = if p b then 1 else 0) (l : List β) :
    (l.flatMap f).count x = (l.filter p).length := by
  induction l with
  | nil => rfl
  | cons a l ih =>
    rw [List.flatMap_cons, List.count_append, ih, h a, List.filter_cons]
    cases p a <;> simp <;> omega

theorem count_dictFeats (cfg : TrainCfg) (text : List Char) (i len : Nat) (pos : DPos) :
    (dictFeats cfg text i).count (Feature.dictWord len pos) =
      ((dictMatches cfg.dictWords text).filter (dictSel cfg text i len pos)).length := by
  rw [dictFeats_eq]
  exact count_flatMap_ind _ _ _ (count_dictOne cfg text i len pos) _

theorem mem_dictFeats_match {cfg : TrainCfg} {text : List Char} {i : Nat} {f : Feature}
    (h : f ∈ dictFeats cfg text i) :
    ∃ se ∈ dictMatches cfg.dictWords text, ∃ pos, f = Feature.dictWord (min (se.2 - se.1) cfg.dictMaxLen) pos := by
  rw [dictFeats_eq, List.mem_flatMap] at h
  obtain ⟨se, hse, h⟩ := h
  refine ⟨se, hse, ?_⟩
  unfold dictOne at h
  simp only [List.mem_append] at h
  rcases h with (h | h) | h <;> split at h <;> simp at h <;> exact ⟨_, h⟩

theorem mem_dictFeats {cfg : TrainCfg} {text : List Char} {i : Nat} {f : Feature}
    (h : f ∈ dictFeats cfg text i) : ∃ len pos, f = Feature.dictWord len pos := by
  obtain ⟨_, _, pos, hf⟩ := mem_dictFeats_match h
  exact ⟨_, pos, hf⟩

def matchesAt (words : List (List Char)) (text : List Char) (k : Nat) : List (Nat × Nat) :=
  words.filterMap fun w => if w.isSuffixOf (text.take (k + 1)) then some (k + 1 - w.length, k + 1) else none

theorem dictMatches_eq (words : List (List Char)) (text : List Char) :
    dictMatches words text = (List.range text.length).flatMap (matchesAt words text) := rfl

theorem mem_dictMatches {words : List (List Char)} {text : List Char} {st en : Nat}
    (h : (st, en) ∈ dictMatches words text) : ∃ w ∈ words, st + w.length = en := by
  rw [dictMatches_eq] at h
  obtain ⟨k, hk, h⟩ := List.mem_flatMap.mp h
  obtain ⟨w, hw, h⟩ := List.mem_filterMap.mp h
  split at h
  · rename_i hs
    obtain ⟨rfl, rfl⟩ := Prod.mk.inj (Option.some.inj h)
    have := ((suffix_take_iff w text (k + 1) (List.mem_range.mp hk)).mp hs).1
    exact ⟨w, hw, by omega⟩
  · cases h

theorem count_matchesAt (words : List (List Char)) (text : List Char) (k st en : Nat) :
    (matchesAt words text k).count (st, en) =
      if k + 1 = en then
        words.countP (fun w => w.isSuffixOf (text.take en) && decide (en - w.length = st))
      else 0 := by
  unfold matchesAt
  rw [List.count_filterMap]
  split
  · rename_i h
    subst h
    apply List.countP_congr
    intro w _
    by_cases hs : w.isSuffixOf (text.take (k + 1)) = true <;> simp [hs]
  · rename_i h
    rw [List.countP_eq_zero]
    intro w _
    by_cases hs : w.isSuffixOf (text.take (k + 1)) = true <;> simp [hs, h]

theorem sum_indicator (c en n : Nat) :
    ((List.range n).map (fun k => if k + 1 = en then c else 0)).sum =
      if 1 ≤ en ∧ en ≤ n then c else 0 := by
  induction n with
  | zero =>
    have : ¬ (1 ≤ en ∧ en ≤ 0) := by omega
    simp only [List.range_zero, List.map_nil, List.sum_nil, if_neg this]
  | succ n ih =>
    rw [List.range_succ, List.map_append, List.sum_append, ih]
    simp only [List.map_cons, List.map_nil, List.sum_cons, List.sum_nil, Nat.add_zero]
    by_cases h1 : n + 1 = en
    · have a : ¬ (1 ≤ en ∧ en ≤ n) := by omega
      have b : 1 ≤ en ∧ en ≤ n + 1 := by omega
      simp only [if_pos h1, if_neg a, if_pos b, Nat.zero_add]
    · by_cases h2 : 1 ≤ en ∧ en ≤ n
      · have b : 1 ≤ en ∧ en ≤ n + 1 := by omega
        simp only [if_neg h1, if_pos h2, if_pos b, Nat.add_zero]
      · have b : ¬ (1 ≤ en ∧ en ≤ n + 1) := by omega
        simp only [if_neg h1, if_neg h2, if_neg b, Nat.add_zero]

theorem count_dictMatches_aux (words : List (List Char)) (text : List Char) (st en : Nat) :
    (dictMatches words text).count (st, en) =
      if 1 ≤ en ∧ en ≤ text.length then
        words.countP (fun w => w.isSuffixOf (text.take en) && decide (en - w.length = st))
      else 0 := by
  rw [dictMatches_eq, List.count_flatMap, ← sum_indicator]
  congr 1
  apply List.map_congr_left
  intro k _
  exact count_matchesAt words text k st en

theorem suffix_slice_iff (text w : List Char) (st en : Nat) (h1 : st < en) (h2 : en ≤ text.length) :
    (w.isSuffixOf (text.take en) = true ∧ en - w.length = st) ↔ w = (text.drop st).take (en - st) := by
  rw [suffix_take_iff w text en h2]
  constructor
  · rintro ⟨⟨hle, hw⟩, hl⟩
    have hlen : w.length = en - st := by rw [← hl, Nat.sub_sub_self hle]
    rw [hl, hlen] at hw
    exact hw.symm
  · intro hw
    have hlen : w.length = en - st := by
      rw [hw, List.length_take, List.length_drop]
      exact Nat.min_eq_left (Nat.sub_le_sub_right h2 st)
    have hst : en - w.length = st := by rw [hlen, Nat.sub_sub_self (Nat.le_of_lt h1)]
    refine ⟨⟨hlen ▸ Nat.sub_le en st, ?_⟩, hst⟩
    rw [hst, hlen]
    exact hw.symm

end V.C10L
