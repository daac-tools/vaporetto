import VModel.Cli
import VProofs.Lemmas.Iter
/-! Helper lemmas for C20 (`evaluate`): the two counting loops.  Each step of a loop adds a small vector to the
counters; what the loops compute (`--metric char`: four filter counts; `--metric word`: against `specSeg`) and how far
the counters can grow (so `i32` suffices) both follow from that. -/
namespace V

/-- what `evaluate` hands to its counters for one line: reference and system label vectors of the same length without
unknown labels, and one tag row per character on both sides -/
def EvalLineWF (l : EvalLine) : Prop :=
  l.sysB.length = l.refB.length ∧ l.refT.length = l.refB.length + 1 ∧ l.sysT.length = l.sysB.length + 1 ∧
  (∀ b ∈ l.refB, b ≠ B.U) ∧ (∀ b ∈ l.sysB, b ≠ B.U)

/-- the words of the reference that are also words of the system output (same start, same end) and carry the same tag row
(tag rows are compared at the last character of the word) -/
def corWords (l : EvalLine) : List (Nat × Nat) :=
  (specTokens l.refB).filter fun se => decide (se ∈ specTokens l.sysB) && decide (l.refT[se.2 - 1]? = l.sysT[se.2 - 1]?)

/-- the number of characters that `evaluate` compares: per line one more than the number of boundary positions -/
def evalChars (ls : List EvalLine) : Nat := (ls.map fun l => l.refB.length + 1).sum

namespace C20E

theorem tagRows_length (s : Sentence) (rows : List (List Tag)) (h : tagRows s = .ok rows) :
    rows.length = s.bounds.length + 1 := by
  unfold tagRows at h
  split at h
  · cases h
  · injection h with h
    rw [← h, List.length_map, List.length_range]

def charStep (acc : Nat × Nat × Nat × Nat) (x : B × B) : Nat × Nat × Nat × Nat :=
  if x.1 = x.2 then (if x.2 = B.W then (acc.1 + 1, acc.2.1, acc.2.2.1, acc.2.2.2) else (acc.1, acc.2.1 + 1, acc.2.2.1, acc.2.2.2))
  else if x.2 = B.W then (acc.1, acc.2.1, acc.2.2.1 + 1, acc.2.2.2) else (acc.1, acc.2.1, acc.2.2.1, acc.2.2.2 + 1)

def cTP (zs : List (B × B)) : Nat := (zs.filter fun x => decide (x.1 = x.2) && decide (x.2 = B.W)).length
def cTN (zs : List (B × B)) : Nat := (zs.filter fun x => decide (x.1 = x.2) && decide (x.2 ≠ B.W)).length
def cFP (zs : List (B × B)) : Nat := (zs.filter fun x => decide (x.1 ≠ x.2) && decide (x.2 = B.W)).length
def cFN (zs : List (B × B)) : Nat := (zs.filter fun x => decide (x.1 ≠ x.2) && decide (x.2 ≠ B.W)).length

theorem filter_length_cons {α : Type} (p : α → Bool) (x : α) (zs : List α) :
    ((x :: zs).filter p).length = ([x].filter p).length + (zs.filter p).length := by
  rw [← List.singleton_append, List.filter_append, List.length_append]

/-- a step adds one to exactly one counter: the one whose filter the pair passes -/
theorem charStep_eq (a b c d : Nat) (x : B × B) :
    charStep (a, b, c, d) x = (a + cTP [x], b + cTN [x], c + cFP [x], d + cFN [x]) ∧
      cTP [x] + cTN [x] + cFP [x] + cFN [x] = 1 := by
  obtain ⟨r, h⟩ := x
  cases r <;> cases h <;> exact ⟨rfl, rfl⟩

theorem charLine (zs : List (B × B)) (a b c d : Nat) :
    zs.foldl charStep (a, b, c, d) = (a + cTP zs, b + cTN zs, c + cFP zs, d + cFN zs) := by
  induction zs generalizing a b c d with
  | nil => rfl
  | cons x zs ih =>
    rw [List.foldl_cons, (charStep_eq a b c d x).1, ih]
    simp only [cTP, cTN, cFP, cFN, filter_length_cons _ x zs, Nat.add_assoc]

theorem count_total (zs : List (B × B)) : cTP zs + cTN zs + cFP zs + cFN zs = zs.length := by
  induction zs with
  | nil => rfl
  | cons x zs ih =>
    have h := (charStep_eq 0 0 0 0 x).2
    simp only [cTP, cTN, cFP, cFN, filter_length_cons _ x zs, List.length_cons] at h ih ⊢
    omega

theorem charCounts_eq_fold (ls : List EvalLine) :
    charCounts ls = ls.foldl (fun acc l => (l.refB.zip l.sysB).foldl charStep acc) (0, 0, 0, 0) := by
  unfold charCounts
  congr 1

theorem charLines (ls : List EvalLine) (a b c d : Nat) :
    ls.foldl (fun acc l => (l.refB.zip l.sysB).foldl charStep acc) (a, b, c, d) =
      (a + (ls.map fun l => cTP (l.refB.zip l.sysB)).sum, b + (ls.map fun l => cTN (l.refB.zip l.sysB)).sum,
       c + (ls.map fun l => cFP (l.refB.zip l.sysB)).sum, d + (ls.map fun l => cFN (l.refB.zip l.sysB)).sum) := by
  induction ls generalizing a b c d with
  | nil => rfl
  | cons l ls ih =>
    rw [List.foldl_cons, charLine, ih]
    simp only [List.map_cons, List.sum_cons, Nat.add_assoc]

theorem char_counts (ls : List EvalLine) :
    charCounts ls = ((ls.map fun l => cTP (l.refB.zip l.sysB)).sum, (ls.map fun l => cTN (l.refB.zip l.sysB)).sum,
      (ls.map fun l => cFP (l.refB.zip l.sysB)).sum, (ls.map fun l => cFN (l.refB.zip l.sysB)).sum) := by
  rw [charCounts_eq_fold, charLines]
  simp only [Nat.zero_add]

theorem char_total (ls : List EvalLine) :
    (charCounts ls).1 + (charCounts ls).2.1 + (charCounts ls).2.2.1 + (charCounts ls).2.2.2 ≤ evalChars ls := by
  rw [char_counts]
  induction ls with
  | nil => exact Nat.le_refl _
  | cons l ls ih =>
    have h := count_total (l.refB.zip l.sysB)
    have hz : (l.refB.zip l.sysB).length ≤ l.refB.length := by
      rw [List.length_zip]; exact Nat.min_le_left _ _
    simp only [evalChars, List.map_cons, List.sum_cons] at ih ⊢
    omega

def wordStep (st : Nat × Nat × Nat × Bool) (x : ((B × List Tag) × B) × List Tag) : Nat × Nat × Nat × Bool :=
  if x.1.1.1 = x.1.2 then
    if x.1.2 = B.W then ((if st.2.2.2 && x.1.1.2 = x.2 then st.1 + 1 else st.1), st.2.1 + 1, st.2.2.1 + 1, true)
    else (st.1, st.2.1, st.2.2.1, st.2.2.2)
  else
    if x.1.2 = B.W then (st.1, st.2.1 + 1, st.2.2.1, false) else (st.1, st.2.1, st.2.2.1 + 1, false)

def wordFin (rT sT : List (List Tag)) (st : Nat × Nat × Nat × Bool) : Nat × Nat × Nat :=
  ((if st.2.2.2 && rT.getLast? = sT.getLast? then st.1 + 1 else st.1), st.2.1 + 1, st.2.2.1 + 1)

def wordLine (rB : List B) (rT : List (List Tag)) (sB : List B) (sT : List (List Tag)) (st : Nat × Nat × Nat × Bool) :
    Nat × Nat × Nat :=
  wordFin rT sT ((((rB.zip rT).zip sB).zip sT).foldl wordStep st)

theorem wordCounts_eq_fold (ls : List EvalLine) :
    wordCounts ls = ls.foldl (fun acc l => wordLine l.refB l.refT l.sysB l.sysT (acc.1, acc.2.1, acc.2.2, true)) (0, 0, 0) := by
  unfold wordCounts
  congr 1

theorem specSeg_gt (rest : List B) (start pos : Nat) (dirty : Bool) (h : start ≤ pos) :
    ∀ se ∈ specSeg rest start pos dirty, pos < se.2 :=
  fun se hse => ((specSeg_bounds rest start pos dirty h).1 se hse).2.2.1

theorem not_mem_later (s : List B) (st rs pos : Nat) (h : st ≤ pos + 1) : (rs, pos + 1) ∉ specSeg s st (pos + 1) false :=
  fun hm => Nat.lt_irrefl _ (specSeg_gt s st (pos + 1) false h _ hm)

/-- the common-word predicate, relative to the current position -/
def corP (sSeg : List (Nat × Nat)) (rT sT : List (List Tag)) (pos : Nat) (se : Nat × Nat) : Bool :=
  decide (se ∈ sSeg) && decide (rT[se.2 - 1 - pos]? = sT[se.2 - 1 - pos]?)

theorem getLast?_cons_of_ne {α : Type} (a : α) (l : List α) (h : l ≠ []) : (a :: l).getLast? = l.getLast? := by
  cases l with
  | nil => exact absurd rfl h
  | cons b r => simp [List.getLast?_cons_cons]


theorem wordLine_cons (rb sb : B) (r s : List B) (a b : List Tag) (rT sT : List (List Tag))
    (hr : rT ≠ []) (hs : sT ≠ []) (st : Nat × Nat × Nat × Bool) :
    wordLine (rb :: r) (a :: rT) (sb :: s) (b :: sT) st = wordLine r rT s sT (wordStep st (((rb, a), sb), b)) := by
  simp only [wordLine, List.zip_cons_cons, List.foldl_cons, wordFin, getLast?_cons_of_ne _ _ hr,
    getLast?_cons_of_ne _ _ hs]

theorem mem_cons_later (ss pos : Nat) (S : List (Nat × Nat)) (se : Nat × Nat) (h : pos + 1 < se.2) :
    se ∈ (ss, pos + 1) :: S ↔ se ∈ S := by
  rw [List.mem_cons]
  constructor
  · rintro (e | e)
    · subst e; simp at h
    · exact e
  · exact Or.inr

/-- moving one position forward leaves the predicate on the segments that end later as it is -/
theorem filter_shift (R sSeg sSeg' : List (Nat × Nat)) (a b : List Tag) (rT sT : List (List Tag)) (pos : Nat)
    (hR : ∀ se ∈ R, pos + 1 < se.2) (hmem : ∀ se, pos + 1 < se.2 → (se ∈ sSeg ↔ se ∈ sSeg')) :
    R.filter (corP sSeg (a :: rT) (b :: sT) pos) = R.filter (corP sSeg' rT sT (pos + 1)) := by
  apply List.filter_congr
  intro se hse
  have hgt := hR se hse
  have e : se.2 - 1 - pos = (se.2 - 1 - (pos + 1)) + 1 := by omega
  unfold corP
  rw [e, List.getElem?_cons_succ, List.getElem?_cons_succ]
  simp only [hmem se hgt]

theorem add_one_add (a n : Nat) : a + 1 + n = a + (n + 1) := by
  rw [Nat.add_assoc, Nat.add_comm 1]

/-- the joint recursion: from position `pos` with the reference word starting at `rs` and the system word at `ss`,
`matched` holds exactly when the two starts coincide -/
theorem wordLine_spec (rB : List B) :
    ∀ (sB : List B) (rT sT : List (List Tag)) (rs ss pos cor sys ref : Nat),
      sB.length = rB.length → rT.length = rB.length + 1 → sT.length = sB.length + 1 →
      (∀ x ∈ rB, x ≠ B.U) → (∀ x ∈ sB, x ≠ B.U) → rs ≤ pos → ss ≤ pos →
      wordLine rB rT sB sT (cor, sys, ref, decide (rs = ss)) =
        (cor + ((specSeg rB rs pos false).filter (corP (specSeg sB ss pos false) rT sT pos)).length,
         sys + (specSeg sB ss pos false).length, ref + (specSeg rB rs pos false).length) := by
  induction rB with
  | nil =>
    intro sB rT sT rs ss pos cor sys ref h1 h2 h3 _ _ _ _
    cases sB with
    | cons _ _ => simp at h1
    | nil =>
      match rT, sT, h2, h3 with
      | [a], [b], _, _ =>
        by_cases e : rs = ss <;> by_cases e2 : a = b <;>
          simp [wordLine, wordFin, specSeg, corP, e, e2]
  | cons rb r ih =>
    intro sB rT sT rs ss pos cor sys ref h1 h2 h3 hru hsu hrs hss
    cases sB with
    | nil => simp at h1
    | cons sb s =>
      cases rT with
      | nil => simp at h2
      | cons a rT =>
        cases sT with
        | nil => simp at h3
        | cons b sT =>
          simp only [List.length_cons, Nat.add_right_cancel_iff] at h1 h2 h3
          have hr' : ∀ x ∈ r, x ≠ B.U := fun x hx => hru x (by simp [hx])
          have hs' : ∀ x ∈ s, x ≠ B.U := fun x hx => hsu x (by simp [hx])
          have hrne : rT ≠ [] := by intro e; rw [e] at h2; simp at h2
          have hsne : sT ≠ [] := by intro e; rw [e] at h3; simp at h3
          rw [wordLine_cons _ _ _ _ _ _ _ _ hrne hsne]
          cases rb with
          | U => exact absurd rfl (hru B.U (by simp))
          | N =>
            cases sb with
            | U => exact absurd rfl (hsu B.U (by simp))
            | N =>
              have hstep : wordStep (cor, sys, ref, decide (rs = ss)) (((B.N, a), B.N), b) =
                  (cor, sys, ref, decide (rs = ss)) := rfl
              rw [hstep, ih s rT sT rs ss (pos + 1) cor sys ref h1 h2 h3 hr' hs' (Nat.le_succ_of_le hrs) (Nat.le_succ_of_le hss)]
              simp only [specSeg]
              rw [filter_shift _ _ _ a b rT sT pos (specSeg_gt _ _ _ _ (Nat.le_succ_of_le hrs)) (fun _ _ => Iff.rfl)]
            | W =>
              have hne : ¬ rs = pos + 1 := Nat.ne_of_lt (Nat.lt_succ_of_le hrs)
              have hstep : wordStep (cor, sys, ref, decide (rs = ss)) (((B.N, a), B.W), b) =
                  (cor, sys + 1, ref, decide (rs = pos + 1)) := by rw [decide_eq_false hne]; rfl
              rw [hstep, ih s rT sT rs (pos + 1) (pos + 1) cor (sys + 1) ref h1 h2 h3 hr' hs' (Nat.le_succ_of_le hrs) (Nat.le_refl _)]
              simp only [specSeg, Bool.false_eq_true, if_false, List.singleton_append, List.length_cons]
              rw [filter_shift _ _ _ a b rT sT pos (specSeg_gt _ _ _ _ (Nat.le_succ_of_le hrs)) (fun se h => mem_cons_later ss pos _ se h)]
              simp only [add_one_add]
          | W =>
            cases sb with
            | U => exact absurd rfl (hsu B.U (by simp))
            | N =>
              have hne : ¬ pos + 1 = ss := Nat.ne_of_gt (Nat.lt_succ_of_le hss)
              have hstep : wordStep (cor, sys, ref, decide (rs = ss)) (((B.W, a), B.N), b) =
                  (cor, sys, ref + 1, decide (pos + 1 = ss)) := by rw [decide_eq_false hne]; rfl
              rw [hstep, ih s rT sT (pos + 1) ss (pos + 1) cor sys (ref + 1) h1 h2 h3 hr' hs' (Nat.le_refl _) (Nat.le_succ_of_le hss)]
              simp only [specSeg, Bool.false_eq_true, if_false, List.singleton_append, List.length_cons]
              have hhead : corP (specSeg s ss (pos + 1) false) (a :: rT) (b :: sT) pos (rs, pos + 1) = false := by
                simp [corP, not_mem_later _ _ _ _ (Nat.le_succ_of_le hss)]
              rw [List.filter_cons, hhead]
              simp only [Bool.false_eq_true, if_false]
              rw [filter_shift _ _ _ a b rT sT pos (specSeg_gt _ _ _ _ (Nat.le_refl _)) (fun _ _ => Iff.rfl)]
              simp only [add_one_add]
            | W =>
              have hstep : wordStep (cor, sys, ref, decide (rs = ss)) (((B.W, a), B.W), b) =
                  ((if decide (rs = ss) && decide (a = b) then cor + 1 else cor), sys + 1, ref + 1,
                    decide (pos + 1 = pos + 1)) := by rw [decide_eq_true rfl]; rfl
              rw [hstep, ih s rT sT (pos + 1) (pos + 1) (pos + 1) _ (sys + 1) (ref + 1) h1 h2 h3 hr' hs'
                (Nat.le_refl _) (Nat.le_refl _)]
              simp only [specSeg, Bool.false_eq_true, if_false, List.singleton_append, List.length_cons]
              have hhead : corP ((ss, pos + 1) :: specSeg s (pos + 1) (pos + 1) false) (a :: rT) (b :: sT) pos
                  (rs, pos + 1) = (decide (rs = ss) && decide (a = b)) := by
                simp [corP, not_mem_later _ _ _ _ (Nat.le_refl _)]
              rw [List.filter_cons, hhead]
              rw [filter_shift _ _ _ a b rT sT pos (specSeg_gt _ _ _ _ (Nat.le_refl _)) (fun se h => mem_cons_later ss pos _ se h)]
              cases (decide (rs = ss) && decide (a = b))
              · simp only [Bool.false_eq_true, if_false, add_one_add]
              · simp only [if_true, List.length_cons, add_one_add]


theorem wordLine_line (l : EvalLine) (h : EvalLineWF l) (c s r : Nat) :
    wordLine l.refB l.refT l.sysB l.sysT (c, s, r, true) =
      (c + (corWords l).length, s + (specTokens l.sysB).length, r + (specTokens l.refB).length) := by
  obtain ⟨h1, h2, h3, h4, h5⟩ := h
  have := wordLine_spec l.refB l.sysB l.refT l.sysT 0 0 0 c s r h1 h2 h3 h4 h5 (Nat.le_refl _) (Nat.le_refl _)
  simp only [decide_true] at this
  rw [this]
  rfl

theorem wordLines (ls : List EvalLine) (h : ∀ l ∈ ls, EvalLineWF l) (c s r : Nat) :
    ls.foldl (fun acc l => wordLine l.refB l.refT l.sysB l.sysT (acc.1, acc.2.1, acc.2.2, true)) (c, s, r) =
      (c + (ls.map fun l => (corWords l).length).sum, s + (ls.map fun l => (specTokens l.sysB).length).sum,
       r + (ls.map fun l => (specTokens l.refB).length).sum) := by
  induction ls generalizing c s r with
  | nil => simp
  | cons l ls ih =>
    rw [List.foldl_cons, wordLine_line l (h l (by simp)), ih (fun l' hl' => h l' (by simp [hl']))]
    simp only [List.map_cons, List.sum_cons, Nat.add_assoc]

/-- what a piece of the word loop may add to `(n_cor, n_sys, n_ref)` in `k` steps: at most `k` each, and to `n_cor` no
more than to either of the others -/
def Grows (k : Nat) (a b : Nat × Nat × Nat) : Prop :=
  ∃ dc ds dr, b = (a.1 + dc, a.2.1 + ds, a.2.2 + dr) ∧ dc ≤ ds ∧ dc ≤ dr ∧ ds ≤ k ∧ dr ≤ k

theorem Grows.trans {j k : Nat} {a b c : Nat × Nat × Nat} (h1 : Grows j a b) (h2 : Grows k b c) : Grows (j + k) a c := by
  obtain ⟨dc, ds, dr, rfl, h⟩ := h1
  obtain ⟨dc', ds', dr', rfl, h'⟩ := h2
  exact ⟨dc + dc', ds + ds', dr + dr', by simp only [Nat.add_assoc], by omega⟩

theorem Grows.mono {j k : Nat} {a b : Nat × Nat × Nat} (h : Grows j a b) (hjk : j ≤ k) : Grows k a b := by
  obtain ⟨dc, ds, dr, e, h1, h2, h3, h4⟩ := h
  exact ⟨dc, ds, dr, e, h1, h2, Nat.le_trans h3 hjk, Nat.le_trans h4 hjk⟩

def cnt (st : Nat × Nat × Nat × Bool) : Nat × Nat × Nat := (st.1, st.2.1, st.2.2.1)

theorem wordStep_grows (st : Nat × Nat × Nat × Bool) (x : ((B × List Tag) × B) × List Tag) :
    Grows 1 (cnt st) (cnt (wordStep st x)) := by
  unfold wordStep
  split
  · split
    · split
      · exact ⟨1, 1, 1, rfl, by decide⟩
      · exact ⟨0, 1, 1, rfl, by decide⟩
    · exact ⟨0, 0, 0, rfl, by decide⟩
  · split
    · exact ⟨0, 1, 0, rfl, by decide⟩
    · exact ⟨0, 0, 1, rfl, by decide⟩

theorem wordFin_grows (rT sT : List (List Tag)) (st : Nat × Nat × Nat × Bool) : Grows 1 (cnt st) (wordFin rT sT st) := by
  unfold wordFin
  split
  · exact ⟨1, 1, 1, rfl, by decide⟩
  · exact ⟨0, 1, 1, rfl, by decide⟩

theorem wordFold_grows (zs : List (((B × List Tag) × B) × List Tag)) : ∀ (st : Nat × Nat × Nat × Bool),
    Grows zs.length (cnt st) (cnt (zs.foldl wordStep st)) := by
  induction zs with
  | nil => exact fun st => ⟨0, 0, 0, rfl, by decide⟩
  | cons x zs ih =>
    intro st
    exact ((wordStep_grows st x).trans (ih _)).mono (by rw [List.length_cons, Nat.add_comm]; exact Nat.le_refl _)

theorem wordLine_grows (l : EvalLine) (a : Nat × Nat × Nat) :
    Grows (l.refB.length + 1) a (wordLine l.refB l.refT l.sysB l.sysT (a.1, a.2.1, a.2.2, true)) := by
  refine ((wordFold_grows _ (a.1, a.2.1, a.2.2, true)).trans (wordFin_grows l.refT l.sysT _)).mono ?_
  rw [List.length_zip, List.length_zip, List.length_zip]
  exact Nat.add_le_add_right
    (Nat.le_trans (Nat.min_le_left _ _) (Nat.le_trans (Nat.min_le_left _ _) (Nat.min_le_left _ _))) 1

theorem wordLines_grows (ls : List EvalLine) : ∀ (a : Nat × Nat × Nat), Grows (evalChars ls) a
    (ls.foldl (fun acc l => wordLine l.refB l.refT l.sysB l.sysT (acc.1, acc.2.1, acc.2.2, true)) a) := by
  induction ls with
  | nil => exact fun a => ⟨0, 0, 0, rfl, by decide⟩
  | cons l ls ih => exact fun a => (wordLine_grows l a).trans (ih _)

end C20E
end V
