import VProofs.Lemmas.ScoreWeights
import VProofs.Lemmas.ScoreSum
/-!
# Absolute values of finite sums (for the C01 overflow bound)

`iabs x` is `|x|` as an `Int`, so that the summation lemmas of `ScoreSum` (exchange of summation, filters, …) apply.
The key fact is `isum_abs_getZ_le`: reading a weight vector at pairwise different indices and summing the absolute values
never exceeds `absSum`, the sum of the absolute values of all its entries.
-/
namespace V

/-- sum of the absolute values of a weight vector -/
def absSum (w : List Int) : Nat := (w.map Int.natAbs).sum

namespace C01B
open C01L

/-- `|x|` as an integer -/
def iabs (x : Int) : Int := ((x.natAbs : Nat) : Int)

theorem iabs_nonneg (x : Int) : 0 ≤ iabs x := Int.natCast_nonneg _
theorem iabs_zero : iabs 0 = 0 := rfl
theorem iabs_add_le (a b : Int) : iabs (a + b) ≤ iabs a + iabs b := by
  unfold iabs
  rw [← Int.natCast_add]
  exact Int.ofNat_le.mpr (Int.natAbs_add_le a b)
theorem iabs_le_iff (x : Int) (M : Nat) : iabs x ≤ (M : Int) ↔ x.natAbs ≤ M := Int.ofNat_le

theorem natAbs_add_le (a b : Int) (A B : Nat) (ha : a.natAbs ≤ A) (hb : iabs b ≤ (B : Int)) :
    (a + b).natAbs ≤ A + B :=
  Nat.le_trans (Int.natAbs_add_le a b) (Nat.add_le_add ha ((iabs_le_iff b B).mp hb))

theorem iabs_sum_map_le {β : Type} (l : List β) (f : β → Int) : iabs (l.map f).sum ≤ (l.map fun a => iabs (f a)).sum := by
  induction l with
  | nil => exact Int.le_refl _
  | cons a l ih =>
    rw [List.map_cons, List.map_cons, List.sum_cons, List.sum_cons]
    exact Int.le_trans (iabs_add_le _ _) (Int.add_le_add_left ih _)

theorem iabs_sublist_sum_le {β : Type} (l es : List β) (f : β → Int) (h : l.Sublist es) :
    iabs (l.map f).sum ≤ (es.map fun a => iabs (f a)).sum :=
  Int.le_trans (iabs_sum_map_le l f) (isum_sublist_le l es (fun a => iabs (f a)) (fun _ _ => iabs_nonneg _) h)

theorem iabs_take_sum_le (l : List Int) (k : Nat) : iabs (l.take k).sum ≤ (l.map iabs).sum := by
  have := iabs_sublist_sum_le (l.take k) l id (List.take_sublist k l)
  rwa [List.map_id] at this

theorem isum_filter_le {β : Type} (l : List β) (p : β → Bool) (f : β → Int) (h : ∀ a ∈ l, 0 ≤ f a) :
    ((l.filter p).map f).sum ≤ (l.map f).sum :=
  isum_sublist_le _ l f h List.filter_sublist

theorem absSum_nil : absSum [] = 0 := rfl
theorem absSum_cons (x : Int) (w : List Int) : absSum (x :: w) = x.natAbs + absSum w := by
  unfold absSum
  rw [List.map_cons, List.sum_cons]

theorem absSum_cast (w : List Int) : ((absSum w : Nat) : Int) = (w.map iabs).sum := by
  unfold absSum
  rw [natsum_cast]
  rfl

theorem absSum_append (a b : List Int) : absSum (a ++ b) = absSum a + absSum b := by
  unfold absSum
  rw [List.map_append, List.sum_append]

theorem absSum_replicate_zero (k : Nat) : absSum (List.replicate k 0) = 0 := by
  induction k with
  | zero => rfl
  | succ k ih => rw [List.replicate_succ, absSum_cons, ih]; rfl

theorem natAbs_le_absSum_of_mem (w : List Int) (x : Int) (h : x ∈ w) : x.natAbs ≤ absSum w := by
  induction w with
  | nil => cases h
  | cons y w ih =>
    rw [absSum_cons]
    rcases List.mem_cons.mp h with h | h
    · rw [h]; exact Nat.le_add_right _ _
    · exact Nat.le_trans (ih h) (Nat.le_add_left _ _)

theorem getZ_cons (x : Int) (w : List Int) (i : Int) :
    getZ (x :: w) i = if i = 0 then x else getZ w (i - 1) := by
  cases i with
  | ofNat n =>
    cases n with
    | zero => rfl
    | succ n =>
      rw [Int.ofNat_eq_natCast, if_neg (by omega), show ((n + 1 : Nat) : Int) - 1 = (n : Int) by omega]
      exact (getZ_nat _ (n + 1)).trans (getZ_nat w n).symm
  | negSucc n =>
    rw [if_neg (by omega), getZ_neg _ _ (Int.negSucc_lt_zero n), getZ_neg _ _ (by omega)]

theorem getZ_mem_or_zero (w : List Int) (i : Int) : getZ w i = 0 ∨ getZ w i ∈ w := by
  by_cases h0 : 0 ≤ i
  · rw [getZ_eq_getD _ _ h0, List.getD_eq_getElem?_getD]
    cases h : w[i.toNat]? with
    | none => left; rfl
    | some v => right; exact List.mem_of_getElem? h
  · left; exact getZ_neg _ _ (by omega)

theorem iabs_getZ_le (w : List Int) (i : Int) : iabs (getZ w i) ≤ ((absSum w : Nat) : Int) := by
  rcases getZ_mem_or_zero w i with h | h
  · rw [h]; exact Int.natCast_nonneg _
  · exact Int.ofNat_le.mpr (natAbs_le_absSum_of_mem w _ h)

theorem isum_range_indicator (n : Nat) (c a : Int) (ha : 0 ≤ a) :
    ((List.range n).map fun (k : Nat) => if c - (k : Int) = 0 then a else 0).sum ≤ a := by
  induction n with
  | zero => exact ha
  | succ n ih =>
    rw [List.range_succ, List.map_append, isum_append, List.map_cons, List.map_nil, List.sum_cons, List.sum_nil]
    by_cases hc : c - (n : Int) = 0
    · rw [if_pos hc, isum_map_eq_zero _ _ fun k hk => if_neg (by have := List.mem_range.mp hk; omega)]
      omega
    · rw [if_neg hc]; omega

/-- **the counting argument**: reading `w` at the pairwise different indices `c, c − 1, …, c − (n − 1)` and adding up the
absolute values gives at most `absSum w` -/
theorem isum_abs_getZ_le (w : List Int) (c : Int) (n : Nat) :
    ((List.range n).map fun (k : Nat) => iabs (getZ w (c - (k : Int)))).sum ≤ ((absSum w : Nat) : Int) := by
  induction w generalizing c with
  | nil =>
    rw [isum_map_eq_zero _ _ (fun k _ => by rw [getZ_nil]; rfl)]
    exact Int.natCast_nonneg _
  | cons x w ih =>
    -- index 0 is read at most once (`isum_range_indicator`); the other reads are reads of `w` at `c − 1 − k`
    have hsplit : ∀ k ∈ List.range n, iabs (getZ (x :: w) (c - (k : Int)))
        ≤ (if c - (k : Int) = 0 then iabs x else 0) + iabs (getZ w (c - 1 - (k : Int))) := by
      intro k _
      rw [getZ_cons, show c - (k : Int) - 1 = c - 1 - (k : Int) by omega]
      have := iabs_nonneg (getZ w (c - 1 - (k : Int)))
      split <;> omega
    refine Int.le_trans (isum_map_le _ _ _ hsplit) ?_
    rw [isum_map_add, absSum_cons, Int.natCast_add]
    exact Int.add_le_add (isum_range_indicator n c (iabs x) (iabs_nonneg x)) (ih (c - 1))

theorem isum_abs_getZ_cond_le (w : List Int) (c : Int) (n : Nat) (p : Nat → Bool) :
    ((List.range n).map fun (k : Nat) => if p k then iabs (getZ w (c - (k : Int))) else 0).sum
      ≤ ((absSum w : Nat) : Int) := by
  refine Int.le_trans (isum_map_le _ _ (fun (k : Nat) => iabs (getZ w (c - (k : Int)))) ?_) (isum_abs_getZ_le w c n)
  intro k _
  have := iabs_nonneg (getZ w (c - (k : Int)))
  split <;> omega

end C01B
end V
