import VModel.Sentence
/-! The mirrored `TokenIterator` computes the specified segments. -/
namespace V

theorem drop_cons {α : Type} {l : List α} {n : Nat} {b : α} {r : List α} (h : l.drop n = b :: r) :
    n < l.length ∧ l[n]? = some b ∧ l.drop (n + 1) = r := by
  have h0 : l[n]? = some b := by
    have : (l.drop n)[0]? = some b := by rw [h]; rfl
    rwa [List.getElem?_drop] at this
  refine ⟨(List.getElem?_eq_some_iff.mp h0).1, h0, ?_⟩
  have h1 : (l.drop n).drop 1 = r := by rw [h]; rfl
  rwa [List.drop_drop] at h1

/-- what `iter_tokens()` yields after a `next()` call returned `r`, with `fuel` further calls -/
def contWith (bs : List B) (fuel : Nat) : Option (Nat × Nat) → List (Nat × Nat)
  | some (s, e') => (s, e') :: iterFrom bs fuel e'
  | none => []

theorem iterFrom_succ (bs : List B) (f e : Nat) :
    iterFrom bs (f + 1) e =
      if e ≤ bs.length then contWith bs f (iterLoop (bs.length + 1) e (bs.drop e) 0 e false) else [] := by
  simp only [iterFrom]
  split
  · cases h : iterLoop (bs.length + 1) e (bs.drop e) 0 e false with
    | none => simp [contWith]
    | some p => cases p; simp [contWith]
  · rfl

/-- one `next()` call followed by all later calls, against the specification scan -/
theorem iterLoop_spec (bs : List B) :
    ∀ (rest : List B) (fuel end0 i start : Nat) (skip : Bool),
      bs.drop (end0 + i) = rest → end0 + i ≤ bs.length → rest.length + 1 ≤ fuel →
      contWith bs fuel (iterLoop (bs.length + 1) end0 rest i start skip) = specSeg rest start (end0 + i) skip := by
  intro rest
  induction rest with
  | nil =>
    intro fuel end0 i start skip hrest hle hfuel
    have hlen : end0 + i = bs.length := by
      have := congrArg List.length hrest
      simp at this
      omega
    cases skip with
    | true => simp [iterLoop, specSeg, contWith]
    | false =>
      simp only [iterLoop, specSeg, Bool.false_eq_true, if_false, contWith]
      cases fuel with
      | zero => simp at hfuel
      | succ f =>
        rw [iterFrom_succ]
        have : ¬ (bs.length + 1 ≤ bs.length) := by omega
        simp only [this, if_false, hlen]
  | cons b r ih =>
    intro fuel end0 i start skip hrest hle hfuel
    obtain ⟨hk, _, hr⟩ := drop_cons hrest
    have hfuel' : r.length + 1 ≤ fuel := Nat.le_of_succ_le hfuel
    cases b with
    | N =>
      simp only [iterLoop, specSeg]
      exact ih fuel end0 (i + 1) start skip hr (by omega) hfuel'
    | U =>
      simp only [iterLoop, specSeg]
      exact ih fuel end0 (i + 1) start true hr (by omega) hfuel'
    | W =>
      cases skip with
      | true =>
        simp only [iterLoop, specSeg, if_true, List.nil_append]
        exact ih fuel end0 (i + 1) (end0 + i + 1) false hr (by omega) hfuel'
      | false =>
        simp only [iterLoop, specSeg, Bool.false_eq_true, if_false, List.singleton_append, contWith]
        congr 1
        cases fuel with
        | zero => simp at hfuel
        | succ f =>
          rw [iterFrom_succ]
          have hle' : end0 + i + 1 ≤ bs.length := by omega
          simp only [hle', if_true]
          have := ih f (end0 + i + 1) 0 (end0 + i + 1) false hr (by omega) (Nat.le_of_succ_le_succ hfuel)
          rw [hr]
          exact this

theorem iterTokens_eq_spec (bs : List B) : iterTokens bs = specTokens bs := by
  unfold iterTokens specTokens
  rw [iterFrom_succ]
  simp only [Nat.zero_le, if_true]
  have := iterLoop_spec bs (bs.drop 0) (bs.length + 1) 0 0 0 false rfl (by simp) (by simp)
  simpa using this

/-- tokens form an ordered, gap-free chain of non-empty spans from `a` to `z` -/
def IsChain : Nat → List (Nat × Nat) → Nat → Prop
  | _, [], _ => False
  | a, [(s, e)], z => s = a ∧ a < e ∧ e = z
  | a, (s, e) :: t :: r, z => s = a ∧ a < e ∧ IsChain e (t :: r) z

/-- positions (as character indices) of the word boundaries: `p + i + 1` for every `rest[i] = W` -/
def wPos : List B → Nat → List Nat
  | [], _ => []
  | .W :: r, p => (p + 1) :: wPos r (p + 1)
  | _ :: r, p => wPos r (p + 1)

def slice {α : Type} (text : List α) (se : Nat × Nat) : List α := (text.drop se.1).take (se.2 - se.1)

theorem isChain_cons (a z s e : Nat) (r : List (Nat × Nat)) :
    IsChain a ((s, e) :: r) z ↔ s = a ∧ a < e ∧ (r = [] ∧ e = z ∨ IsChain e r z) := by
  cases r with
  | nil => simp [IsChain]
  | cons t r => simp [IsChain]

theorem Sentence.substring_eq (s : Sentence) {st en : Nat} (h1 : st ≤ en) (h2 : en ≤ s.text.length) :
    s.substring st en = .ok (slice s.text (st, en)) := by
  rw [Sentence.substring, if_pos ⟨h1, h2⟩]
  rfl

theorem Sentence.tokenTags_eq (s : Sentence) {en : Nat} (h0 : 0 < en) (h1 : en * s.nTags ≤ s.tags.length) :
    s.tokenTags en = .ok ((s.tags.drop ((en - 1) * s.nTags)).take s.nTags) := by
  rw [Sentence.tokenTags, if_neg (Nat.ne_of_gt h0), if_pos h1]

/-- every segment starts at or after `start`, is non-empty and ends after `pos` within the text; the list is ordered
by position -/
theorem specSeg_bounds (rest : List B) :
    ∀ (start pos : Nat) (dirty : Bool), start ≤ pos →
      (∀ se ∈ specSeg rest start pos dirty,
        start ≤ se.1 ∧ se.1 < se.2 ∧ pos < se.2 ∧ se.2 ≤ pos + rest.length + 1) ∧
      List.Pairwise (fun a b : Nat × Nat => a.2 ≤ b.1) (specSeg rest start pos dirty) := by
  induction rest with
  | nil =>
    intro start pos dirty h
    cases dirty
    · simp only [specSeg, Bool.false_eq_true, if_false, List.mem_singleton, List.pairwise_cons,
        List.not_mem_nil, false_imp_iff, implies_true, List.Pairwise.nil, and_true, List.length_nil]
      intro se hse; subst hse; simp only; omega
    · simp [specSeg]
  | cons b r ih =>
    intro start pos dirty h
    have step : ∀ d, (∀ se ∈ specSeg r start (pos + 1) d,
          start ≤ se.1 ∧ se.1 < se.2 ∧ pos < se.2 ∧ se.2 ≤ pos + (b :: r).length + 1) ∧
        List.Pairwise (fun a b : Nat × Nat => a.2 ≤ b.1) (specSeg r start (pos + 1) d) := fun d =>
      have ⟨h1, h2⟩ := ih start (pos + 1) d (by omega)
      ⟨fun se hse => by have := h1 se hse; simp only [List.length_cons]; omega, h2⟩
    cases b with
    | N => exact step dirty
    | U => exact step true
    | W =>
      simp only [specSeg, List.length_cons]
      obtain ⟨ih1, ih2⟩ := ih (pos + 1) (pos + 1) false (Nat.le_refl _)
      have hhead : ∀ se ∈ (if dirty = true then [] else [(start, pos + 1)]),
          se.1 = start ∧ se.2 = pos + 1 := by
        intro se hse
        cases dirty
        · simp only [Bool.false_eq_true, if_false, List.mem_singleton] at hse
          subst hse; exact ⟨rfl, rfl⟩
        · simp at hse
      constructor
      · intro se hse
        rcases List.mem_append.mp hse with hse | hse
        · have := hhead se hse; omega
        · have := ih1 se hse; omega
      · rw [List.pairwise_append]
        refine ⟨by cases dirty <;> simp, ih2, ?_⟩
        intro a ha b' hb
        have h1 := hhead a ha
        have h2 := ih1 b' hb
        omega

theorem specSeg_range (rest : List B) (start pos : Nat) (dirty : Bool) (h : start ≤ pos) :
    ∀ se ∈ specSeg rest start pos dirty, se.1 < se.2 ∧ se.2 ≤ pos + rest.length + 1 := fun se hse =>
  have := (specSeg_bounds rest start pos dirty h).1 se hse
  ⟨this.2.1, this.2.2.2⟩

theorem specSeg_chain (rest : List B) (start pos : Nat) (h : ∀ x ∈ rest, x ≠ B.U) (hsp : start ≤ pos) :
    IsChain start (specSeg rest start pos false) (pos + rest.length + 1) := by
  induction rest generalizing start pos with
  | nil => simp [specSeg, IsChain]; omega
  | cons b r ih =>
    have hr : ∀ x ∈ r, x ≠ B.U := fun x hx => h x (by simp [hx])
    have e : pos + (b :: r).length + 1 = pos + 1 + r.length + 1 := by simp only [List.length_cons]; omega
    rw [e]
    cases b with
    | N => exact ih start (pos + 1) hr (by omega)
    | W =>
      simp only [specSeg, Bool.false_eq_true, if_false, List.singleton_append]
      exact (isChain_cons ..).mpr ⟨rfl, by omega, Or.inr (ih (pos + 1) (pos + 1) hr (Nat.le_refl _))⟩
    | U => exact absurd rfl (h B.U (by simp))

theorem specSeg_starts (rest : List B) (start pos : Nat) (h : ∀ x ∈ rest, x ≠ B.U) :
    (specSeg rest start pos false).map Prod.fst = start :: wPos rest pos := by
  induction rest generalizing start pos with
  | nil => simp [specSeg, wPos]
  | cons b r ih =>
    have hr : ∀ x ∈ r, x ≠ B.U := fun x hx => h x (by simp [hx])
    cases b with
    | N => simp only [specSeg, wPos]; exact ih _ _ hr
    | W => simp [specSeg, wPos, ih _ _ hr]
    | U => exact absurd rfl (h B.U (by simp))

theorem take_drop_append {α : Type} (t : List α) (a b c : Nat) (hab : a ≤ b) :
    (t.drop a).take (b - a) ++ (t.drop b).take c = (t.drop a).take (b - a + c) := by
  have : t.drop b = (t.drop a).drop (b - a) := by
    rw [List.drop_drop]; congr 1; omega
  rw [this, List.take_add]

theorem chain_concat {α : Type} (text : List α) : ∀ (toks : List (Nat × Nat)) (a z : Nat), IsChain a toks z →
    a < z ∧ toks.flatMap (slice text) = (text.drop a).take (z - a) := by
  intro toks
  induction toks with
  | nil => intro a z hc; exact absurd hc (by simp [IsChain])
  | cons x xs ih =>
    intro a z hc
    obtain ⟨s, e⟩ := x
    obtain ⟨rfl, hae, hc⟩ := (isChain_cons ..).mp hc
    rcases hc with ⟨rfl, rfl⟩ | hc
    · exact ⟨hae, by simp [slice]⟩
    · obtain ⟨hez, h⟩ := ih e z hc
      refine ⟨by omega, ?_⟩
      rw [List.flatMap_cons, h, slice, take_drop_append text s e (z - e) (by omega)]
      congr 1
      omega

theorem iterTokens_range (bs : List B) (se : Nat × Nat) (h : se ∈ iterTokens bs) :
    se.1 < se.2 ∧ se.2 ≤ bs.length + 1 := by
  rw [iterTokens_eq_spec] at h
  have := specSeg_range bs 0 0 false (Nat.le_refl _) se h
  omega

end V
