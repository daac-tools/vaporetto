import VModel.Basic
/-!
# Permutation invariance, generic part

`ResSim`: equal outcomes, except that two panics may differ in their site strings (which of several failing entries panics
first does depend on the iteration order).  Folds over permutations of independent steps; association lists with distinct keys.
-/
namespace V.PermL
open V

/-- equal outcomes; two panics are identified whatever their site strings are -/
def ResSim {σ : Type} (r₁ r₂ : Res σ) : Prop := r₁ = r₂ ∨ ∃ s₁ s₂, r₁ = .panic s₁ ∧ r₂ = .panic s₂

theorem ResSim.refl {σ : Type} (r : Res σ) : ResSim r r := Or.inl rfl

theorem ResSim.panic {σ : Type} (s₁ s₂ : String) : ResSim (.panic s₁ : Res σ) (.panic s₂) :=
  Or.inr ⟨s₁, s₂, rfl, rfl⟩

section
variable {σ τ : Type} {r₁ r₂ r₃ : Res σ}

theorem ResSim.symm (h : ResSim r₁ r₂) : ResSim r₂ r₁ := by
  rcases h with h | ⟨s₁, s₂, h₁, h₂⟩
  · exact Or.inl h.symm
  · exact Or.inr ⟨s₂, s₁, h₂, h₁⟩

theorem ResSim.trans (h : ResSim r₁ r₂) (h' : ResSim r₂ r₃) : ResSim r₁ r₃ := by
  rcases h with h | ⟨s₁, s₂, h₁, h₂⟩
  · rw [h]; exact h'
  · rcases h' with h' | ⟨t₁, t₂, g₁, g₂⟩
    · rw [← h']; exact Or.inr ⟨s₁, s₂, h₁, h₂⟩
    · exact Or.inr ⟨s₁, t₂, h₁, g₂⟩

theorem ResSim.bind2 (h : ResSim r₁ r₂) {f g : σ → Res τ} (hfg : ∀ a, ResSim (f a) (g a)) :
    ResSim (r₁.bind f) (r₂.bind g) := by
  rcases h with h | ⟨s₁, s₂, h₁, h₂⟩
  · rw [← h]
    cases r₁ with
    | ok a => exact hfg a
    | err _ => exact ResSim.refl _
    | panic _ => exact ResSim.refl _
    | ub _ => exact ResSim.refl _
  · rw [h₁, h₂]; exact ResSim.panic _ _

theorem ResSim.bind (h : ResSim r₁ r₂) (g : σ → Res τ) : ResSim (r₁.bind g) (r₂.bind g) :=
  h.bind2 fun a => ResSim.refl (g a)

theorem ResSim.map (h : ResSim r₁ r₂) (g : σ → τ) : ResSim (r₁.map g) (r₂.map g) := by
  rcases h with h | ⟨s₁, s₂, h₁, h₂⟩
  · rw [h]; exact ResSim.refl _
  · rw [h₁, h₂]; exact ResSim.panic _ _

theorem ResSim.ite (c : Prop) [Decidable c] {a a' b b' : Res σ} (ha : ResSim a a') (hb : ResSim b b') :
    ResSim (if c then a else b) (if c then a' else b') := by
  by_cases hc : c
  · rw [if_pos hc, if_pos hc]; exact ha
  · rw [if_neg hc, if_neg hc]; exact hb

theorem ResSim.congr {P : Res σ → Prop} (hP : ∀ s t, P (.panic s) ↔ P (.panic t)) (h : ResSim r₁ r₂) : P r₁ ↔ P r₂ := by
  rcases h with h | ⟨s₁, s₂, h₁, h₂⟩
  · rw [h]
  · rw [h₁, h₂]; exact hP s₁ s₂

theorem ResSim.ok_iff (h : ResSim r₁ r₂) (a : σ) : r₁ = .ok a ↔ r₂ = .ok a :=
  h.congr (P := (· = .ok a)) fun _ _ => ⟨nofun, nofun⟩

theorem ResSim.panic_iff (h : ResSim r₁ r₂) : (∃ s, r₁ = .panic s) ↔ (∃ s, r₂ = .panic s) :=
  h.congr (P := fun r => ∃ s, r = .panic s) fun s t => ⟨fun _ => ⟨t, rfl⟩, fun _ => ⟨s, rfl⟩⟩

end

theorem ResSim.err_iff {σ : Type} {r₁ r₂ : Res σ} (h : ResSim r₁ r₂) (e : Err) : r₁ = .err e ↔ r₂ = .err e :=
  h.congr (P := (· = .err e)) fun _ _ => ⟨nofun, nofun⟩

theorem ResSim.eq_of_ok {σ : Type} {r₁ r₂ : Res σ} (h : ResSim r₁ r₂) {a : σ} (h₁ : r₁ = .ok a) : r₁ = r₂ := by
  rw [h₁]; exact ((h.ok_iff a).mp h₁).symm

theorem foldl_inv_gen {σ τ : Type} (f : σ → τ → σ) (I : σ → Prop) (Istep : ∀ s x, I s → I (f s x)) :
    ∀ (l : List τ) (s : σ), I s → I (l.foldl f s)
  | [], _, h => h
  | x :: l, s, h => foldl_inv_gen f I Istep l (f s x) (Istep s x h)

/-- folds over two permutations of a list of pairwise independent (`R`) elements are related (`E`), when independent steps
commute up to `E` on states satisfying the invariant `I` -/
theorem foldl_perm_gen {σ τ : Type} (f : σ → τ → σ) (E : σ → σ → Prop) (I : σ → Prop) (R : τ → τ → Prop)
    (Erefl : ∀ s, E s s) (Etrans : ∀ a b c, E a b → E b c → E a c)
    (Econgr : ∀ s s' x, I s → I s' → E s s' → E (f s x) (f s' x))
    (Istep : ∀ s x, I s → I (f s x))
    (Rsymm : ∀ x y, R x y → R y x)
    (comm : ∀ s x y, I s → R x y → E (f (f s x) y) (f (f s y) x)) :
    ∀ {l₁ l₂ : List τ}, l₁.Perm l₂ → l₁.Pairwise R → ∀ s, I s → E (l₁.foldl f s) (l₂.foldl f s) := by
  intro l₁ l₂ p
  induction p with
  | nil => intro _ s _; exact Erefl _
  | cons x _ ih =>
    intro hp s hs
    exact ih (List.pairwise_cons.mp hp).2 (f s x) (Istep s x hs)
  | swap x y l =>
    intro hp s hs
    have hyx : R y x := (List.pairwise_cons.mp hp).1 x List.mem_cons_self
    exact (List.foldl_rel (r := fun s s' => I s ∧ I s' ∧ E s s')
      ⟨Istep _ _ (Istep _ _ hs), Istep _ _ (Istep _ _ hs), comm s y x hs hyx⟩
      fun x _ s s' ⟨a, b, c⟩ => ⟨Istep s x a, Istep s' x b, Econgr s s' x a b c⟩).2.2
  | trans p₁ _ ih₁ ih₂ =>
    intro hp s hs
    exact Etrans _ _ _ (ih₁ hp s hs) (ih₂ (p₁.pairwise hp (fun h => Rsymm _ _ h)) s hs)

section
variable {κ β : Type} [DecidableEq κ]

/-- the value stored for a key (first entry) -/
def lookupK (m : List (κ × β)) (k : κ) : Option β := (m.find? (fun e => e.1 = k)).map Prod.snd

theorem lookupK_nil (k : κ) : lookupK ([] : List (κ × β)) k = none := rfl

theorem lookupK_cons (e : κ × β) (m : List (κ × β)) (k : κ) :
    lookupK (e :: m) k = if e.1 = k then some e.2 else lookupK m k := by
  unfold lookupK
  rw [List.find?_cons]
  by_cases h : e.1 = k <;> simp [h]

theorem lookupK_eq_none {m : List (κ × β)} {k : κ} : lookupK m k = none ↔ ∀ e ∈ m, e.1 ≠ k := by
  simp only [lookupK, Option.map_eq_none_iff, List.find?_eq_none, decide_eq_true_eq, ne_eq]

theorem lookupK_append (m₁ m₂ : List (κ × β)) (k : κ) : lookupK (m₁ ++ m₂) k = (lookupK m₁ k).or (lookupK m₂ k) := by
  unfold lookupK
  rw [List.find?_append, Option.map_or]

theorem mem_of_lookupK {m : List (κ × β)} {k : κ} {v : β} (h : lookupK m k = some v) : (k, v) ∈ m := by
  obtain ⟨e, he, rfl⟩ := Option.map_eq_some_iff.mp h
  have hk := List.find?_some he
  rw [← of_decide_eq_true hk]
  exact List.mem_of_find?_eq_some he

theorem lookupK_of_mem {m : List (κ × β)} (hnd : (m.map Prod.fst).Nodup) {k : κ} {v : β} (h : (k, v) ∈ m) :
    lookupK m k = some v := by
  induction m with
  | nil => cases h
  | cons e m ih =>
    rw [List.map_cons, List.nodup_cons] at hnd
    rw [lookupK_cons]
    rcases List.mem_cons.mp h with h | h
    · rw [← h]; simp
    · have hne : e.1 ≠ k := by
        intro he
        exact hnd.1 (List.mem_map.mpr ⟨(k, v), h, he.symm⟩)
      rw [if_neg hne]
      exact ih hnd.2 h

theorem lookupK_iff_mem {m : List (κ × β)} (hnd : (m.map Prod.fst).Nodup) (k : κ) (v : β) :
    lookupK m k = some v ↔ (k, v) ∈ m :=
  ⟨mem_of_lookupK, lookupK_of_mem hnd⟩

omit [DecidableEq κ] in
theorem nodup_of_keys_nodup {m : List (κ × β)} (hnd : (m.map Prod.fst).Nodup) : m.Nodup := by
  induction m with
  | nil => exact List.nodup_nil
  | cons e m ih =>
    rw [List.map_cons, List.nodup_cons] at hnd
    rw [List.nodup_cons]
    exact ⟨fun h => hnd.1 (List.mem_map.mpr ⟨e, h, rfl⟩), ih hnd.2⟩

theorem perm_of_lookupK_eq {m₁ m₂ : List (κ × β)} (h₁ : (m₁.map Prod.fst).Nodup) (h₂ : (m₂.map Prod.fst).Nodup)
    (h : ∀ k, lookupK m₁ k = lookupK m₂ k) : m₁.Perm m₂ := by
  rw [List.perm_ext_iff_of_nodup (nodup_of_keys_nodup h₁) (nodup_of_keys_nodup h₂)]
  intro e
  obtain ⟨k, v⟩ := e
  rw [← lookupK_iff_mem h₁, ← lookupK_iff_mem h₂, h k]

theorem lookupK_perm {m₁ m₂ : List (κ × β)} (p : m₁.Perm m₂) (h₁ : (m₁.map Prod.fst).Nodup) (k : κ) :
    lookupK m₁ k = lookupK m₂ k :=
  Option.ext fun v => by
    rw [lookupK_iff_mem h₁, lookupK_iff_mem ((p.map Prod.fst).nodup_iff.mp h₁), p.mem_iff]

theorem lookupK_reverse {m : List (κ × β)} (h : (m.map Prod.fst).Nodup) (k : κ) : lookupK m.reverse k = lookupK m k :=
  (lookupK_perm (List.reverse_perm m).symm h k).symm

theorem lookupK_reverse_perm {m₁ m₂ : List (κ × β)} (p : m₁.Perm m₂) (h₁ : (m₁.map Prod.fst).Nodup) (k : κ) :
    lookupK m₁.reverse k = lookupK m₂.reverse k := by
  rw [lookupK_reverse h₁, lookupK_reverse ((p.map Prod.fst).nodup_iff.mp h₁), lookupK_perm p h₁]

def KSorted (lt : κ → κ → Bool) (m : List (κ × β)) : Prop := m.Pairwise fun x y => lt x.1 y.1 = true

omit [DecidableEq κ] in
theorem keys_nodup_of_sorted (lt : κ → κ → Bool) (irrefl : ∀ a, lt a a = false) {m : List (κ × β)}
    (hs : KSorted lt m) : (m.map Prod.fst).Nodup := by
  rw [List.nodup_iff_pairwise_ne, List.pairwise_map]
  refine hs.imp ?_
  intro a b hab heq
  rw [heq, irrefl] at hab
  exact Bool.noConfusion hab

theorem eq_of_sorted_lookupK_eq (lt : κ → κ → Bool) (irrefl : ∀ a, lt a a = false)
    (trans : ∀ a b c, lt a b = true → lt b c = true → lt a c = true)
    {m₁ m₂ : List (κ × β)} (s₁ : KSorted lt m₁) (s₂ : KSorted lt m₂)
    (h : ∀ k, lookupK m₁ k = lookupK m₂ k) : m₁ = m₂ := by
  refine List.Perm.eq_of_pairwise ?_ s₁ s₂
    (perm_of_lookupK_eq (keys_nodup_of_sorted lt irrefl s₁) (keys_nodup_of_sorted lt irrefl s₂) h)
  intro a b _ _ hab hba
  have := trans _ _ _ hab hba
  rw [irrefl] at this
  exact Bool.noConfusion this

end

end V.PermL
