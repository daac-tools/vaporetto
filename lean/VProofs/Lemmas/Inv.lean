import VProofs.Lemmas.TokNul
import VProofs.Lemmas.PartInv
import VProofs.Lemmas.TokWrite
/-! Constructors and in-place updates agree, their results are consistent sentences,
and every accessor / writer works on a consistent sentence. -/
namespace V

/-- the invariant `Inv` of C05 as a conjunction, for the lemma files that `C05.lean` imports -/
def InvC (s : Sentence) : Prop :=
  s.text ≠ [] ∧ s.types = typesOf s.text ∧ s.bounds.length + 1 = s.text.length ∧
  s.tags.length = s.text.length * s.nTags ∧ (s.scores = [] ∨ s.padding + s.bounds.length ≤ s.scores.length)

theorem invC_default : InvC Sentence.default := by
  refine ⟨by simp [Sentence.default], by decide, rfl, rfl, Or.inl rfl⟩

theorem typesOf_length (t : List Char) : (typesOf t).length = t.length := by simp [typesOf]

theorem invC_resetTags (s : Sentence) (k : Nat) (h : InvC s) : InvC (s.resetTags k) := by
  obtain ⟨h1, h2, h3, _, h5⟩ := h
  refine ⟨h1, h2, h3, ?_, h5⟩
  simp only [Sentence.resetTags, List.length_replicate, h2, typesOf_length]
  exact Nat.mul_comm _ _

/-- joint behaviour of a constructor and the matching update on one input: both reject (the update then leaves the
default sentence and reports `false`), or both accept and produce the same consistent, score-free sentence -/
def Paired (ctor : Res Sentence) (upd : Sentence → Res (Sentence × Bool)) : Prop :=
  (∃ e, ctor = .err e ∧ ∀ s, upd s = .ok (Sentence.default, false)) ∨
  (∃ t, InvC t ∧ t.scores = [] ∧ ctor = .ok t ∧ ∀ s, upd s = .ok (t, true))

/-- the sentence both `from_raw` and `update_raw` build -/
def Sentence.mkRaw (x : List Char) : Sentence :=
  { Sentence.default with text := x, types := typesOf x, bounds := List.replicate (x.length - 1) B.U }

/-- the sentence both annotated constructors and updates build from an accepted parse -/
def Sentence.mkParsed (p : Parsed) : Sentence :=
  { Sentence.default with text := p.text, types := typesOf p.text, bounds := p.bounds, tags := p.tags,
                          nTags := p.tags.length / p.text.length }

theorem invC_mkRaw (x : List Char) (h : x ≠ []) : InvC (Sentence.mkRaw x) := by
  have hpos : 0 < x.length := List.length_pos_iff.mpr h
  refine ⟨h, rfl, ?_, rfl, Or.inl rfl⟩
  simp only [Sentence.mkRaw, List.length_replicate]
  omega

theorem invC_mkParsed (p : Parsed) (h : GoodParsed p) : InvC (Sentence.mkParsed p) :=
  ⟨h.text_ne, rfl, h.bounds_len, h.divTags.2, Or.inl rfl⟩

/-- `parse_raw` accepts exactly the non-empty NUL-free strings -/
theorem parseRaw_eq (x : List Char) :
    parseRaw x = if x ≠ [] ∧ '\x00' ∉ x then .ok (typesOf x, List.replicate (x.length - 1) B.U)
      else .err .invalidArgument := by
  rw [parseRaw]
  by_cases h0 : x.contains '\x00' = true
  · rw [if_pos h0, if_neg (fun h => h.2 (List.contains_iff_mem.mp h0))]
  · rw [if_neg h0]
    by_cases he : x.isEmpty = true
    · rw [if_pos he, if_neg (fun h => h.1 (List.isEmpty_iff.mp he))]
    · rw [if_neg he, if_pos ⟨fun e => he (List.isEmpty_iff.mpr e), fun m => h0 (List.contains_iff_mem.mpr m)⟩]

theorem fromRaw_eq (x : List Char) :
    Sentence.fromRaw x = if x ≠ [] ∧ '\x00' ∉ x then .ok (Sentence.mkRaw x) else .err .invalidArgument := by
  rw [Sentence.fromRaw, parseRaw_eq]
  by_cases h : x ≠ [] ∧ '\x00' ∉ x
  · rw [if_pos h, if_pos h]; rfl
  · rw [if_neg h, if_neg h]

/-- `update_raw` forgets what the sentence held -/
theorem updateRaw_eq (s : Sentence) (x : List Char) :
    s.updateRaw x = .ok (if x ≠ [] ∧ '\x00' ∉ x then (Sentence.mkRaw x, true) else (Sentence.default, false)) := by
  rw [Sentence.updateRaw, parseRaw_eq]
  by_cases h : x ≠ [] ∧ '\x00' ∉ x
  · rw [if_pos h, if_pos h]; rfl
  · rw [if_neg h, if_neg h]; rfl

theorem paired_raw (x : List Char) : Paired (Sentence.fromRaw x) (fun s => s.updateRaw x) := by
  simp only [Paired, fromRaw_eq, updateRaw_eq]
  split
  · next h => exact Or.inr ⟨Sentence.mkRaw x, invC_mkRaw x h.1, rfl, rfl, fun _ => rfl⟩
  · exact Or.inl ⟨_, rfl, fun _ => rfl⟩

/-- the common tail of `from_tokenized` / `from_partial_annotation` -/
def ofParsedRes (r : Res Parsed) : Res Sentence :=
  match r with
  | .ok p => Sentence.ofParsed p
  | .err e => .err e
  | .panic s => .panic s
  | .ub s => .ub s

theorem paired_parsed (r : Res Parsed) (h : r.All GoodParsed) :
    Paired (ofParsedRes r) (fun s => s.updateParsed r) := by
  cases r with
  | ok p =>
    have hp : GoodParsed p := h
    refine Or.inr ⟨Sentence.mkParsed p, invC_mkParsed p hp, rfl, ?_, ?_⟩
    · simp only [ofParsedRes, Sentence.ofParsed, hp.divTags.1]
      rfl
    · intro s
      simp only [Sentence.updateParsed, hp.divTags.1]
      rfl
  | err e => exact Or.inl ⟨e, rfl, fun _ => rfl⟩
  | panic p => exact absurd h (by simp [Res.All])
  | ub p => exact absurd h (by simp [Res.All])

theorem paired_tokenized (x : List Char) : Paired (Sentence.fromTokenized x) (fun s => s.updateTokenized x) :=
  paired_parsed (parseTokenized x) (parseTokenized_all x)

theorem paired_partial (x : List Char) : Paired (Sentence.fromPartial x) (fun s => s.updatePartial x) :=
  paired_parsed (parsePartial x) (parsePartial_all x)

section
variable {ctor : Res Sentence} {upd : Sentence → Res (Sentence × Bool)}

theorem Paired.ctor_safe (h : Paired ctor upd) : ctor.Safe := by
  rcases h with ⟨e, h1, _⟩ | ⟨t, _, _, h1, _⟩ <;> rw [h1] <;> trivial

theorem Paired.upd_safe (h : Paired ctor upd) (s : Sentence) : (upd s).Safe := by
  rcases h with ⟨e, _, h2⟩ | ⟨t, _, _, _, h2⟩ <;> rw [h2] <;> trivial

theorem Paired.upd_returns (h : Paired ctor upd) (s : Sentence) : ∃ s' ok, upd s = .ok (s', ok) := by
  rcases h with ⟨e, _, h2⟩ | ⟨t, _, _, _, h2⟩
  · exact ⟨_, _, h2 s⟩
  · exact ⟨_, _, h2 s⟩

theorem Paired.err_default (h : Paired ctor upd) {s s' : Sentence} (hs : upd s = .ok (s', false)) :
    s' = Sentence.default := by
  rcases h with ⟨e, _, h2⟩ | ⟨t, _, _, _, h2⟩ <;> rw [h2] at hs <;> cases hs
  rfl

theorem Paired.ok_describes (h : Paired ctor upd) {s s' : Sentence} (hs : upd s = .ok (s', true)) :
    ctor = .ok s' := by
  rcases h with ⟨e, _, h2⟩ | ⟨t, _, _, h1, h2⟩ <;> rw [h2] at hs <;> cases hs
  exact h1

theorem Paired.ctor_inv (h : Paired ctor upd) {s : Sentence} (hs : ctor = .ok s) : InvC s ∧ s.scores = [] := by
  rcases h with ⟨e, h1, _⟩ | ⟨t, hi, hsc, h1, _⟩ <;> rw [h1] at hs <;> cases hs
  exact ⟨hi, hsc⟩

theorem Paired.step_inv (h : Paired ctor upd) {s s' : Sentence} {ok : Bool} (hs : upd s = .ok (s', ok)) :
    InvC s' := by
  rcases h with ⟨e, _, h2⟩ | ⟨t, hi, _, _, h2⟩ <;> rw [h2] at hs <;> cases hs
  · exact invC_default
  · exact hi
end

theorem token_safe (s : Sentence) (h : InvC s) (se : Nat × Nat) (hse : se ∈ iterTokens s.bounds) :
    (s.substring se.1 se.2).Safe ∧ (s.tokenTags se.2).Safe := by
  obtain ⟨_, _, h3, h4, _⟩ := h
  have := iterTokens_range s.bounds se hse
  rw [s.substring_eq (by omega) (by omega),
    s.tokenTags_eq (by omega) (by rw [h4]; exact Nat.mul_le_mul_right _ (by omega))]
  exact ⟨trivial, trivial⟩

theorem writeTokenized_safe (s : Sentence) (h : InvC s) : s.writeTokenized.Safe := by
  obtain ⟨_, _, h3, h4, _⟩ := h
  rw [Sentence.writeTokenized, C03L.writeTokBody_eq s h4 _ true fun se hse => by
    have := iterTokens_range s.bounds se hse
    omega]
  trivial

theorem writePartial_safe (s : Sentence) (h : InvC s) : s.writePartial.Safe := by
  obtain ⟨h1, _, _, h4, _⟩ := h
  unfold Sentence.writePartial
  cases ht : s.text with
  | nil => exact absurd ht h1
  | cons c cs =>
    simp only
    split
    · next hn =>
      -- one chunk per character, and there is a character
      obtain ⟨hl, _⟩ := chunks_spec s.nTags hn s.text.length s.tags h4
      cases hc : chunks s.nTags s.tags with
      | nil => rw [hc, ht] at hl; cases hl
      | cons ts tss => trivial
    · trivial

theorem boundaryScores_safe (s : Sentence) (h : InvC s) : s.boundaryScores.Safe := by
  obtain ⟨_, _, _, _, h5⟩ := h
  unfold Sentence.boundaryScores
  split
  · trivial
  · next hne =>
    rcases h5 with h5 | h5
    · rw [h5] at hne; simp at hne
    · rw [if_pos h5]; trivial

end V
