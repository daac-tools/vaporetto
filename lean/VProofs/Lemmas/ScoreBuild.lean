import VProofs.Lemmas.ScorePma
/-!
# A scorer built from summed and merged entries adds, at every end position, the weights of all entries whose key
is a suffix of the text read so far (for C01) — generic in the weight type (`PW` or `PWT`)
-/
namespace V

/-- `sc` is the scorer that `…Boundary::new` / `…BoundaryTag::new` builds from the entries `es`: patterns and weights are
those of `merger.add` over `es` followed by `merger.merge()`, the boundary parts (`g`) converted to the configured layout -/
def BuiltFrom {α : Type} [DecidableEq α] {W : Type} (cfg : Cfg) (add : W → W → W) (d : W) (g : W → Option PW)
    (es : List (List α × W)) (sc : PmaScorer α) : Prop :=
  sc.pats = (Merge.mergeEntries add d (addAll add es [])).map Prod.fst ∧
  sc.weights = (Merge.mergeEntries add d (addAll add es [])).map (fun e => (g e.2).map (PW.toPWV cfg)) ∧
  pmaBuildOk sc.pats = true

namespace C01L
variable {α : Type} [DecidableEq α] {W : Type}

/-- value at relative position `x` of the boundary part `g w` of a weight -/
def evg (g : W → Option PW) (x : Int) (w : W) : Int :=
  match g w with
  | some pw => pw.denote x
  | none => 0

/-- `Pinv` for the boundary part of a weight, if it has one -/
def Pg (g : W → Option PW) (k : List α) (w : W) : Prop := ∀ pw, g w = some pw → Pinv k pw

/-- `add` acts on the boundary part like `PositionalWeightWithTag::add_assign` -/
def AddOK (add : W → W → W) (g : W → Option PW) : Prop :=
  ∀ a b, g (add a b) = match g a, g b with
    | some y, some x => some (y.add x)
    | some y, none => some y
    | none, w => w

theorem evg_add (add : W → W → W) (g : W → Option PW) (hg : AddOK add g) (x : Int) (a b : W) :
    evg g x (add a b) = evg g x a + evg g x b := by
  unfold evg
  rw [hg a b]
  cases g a <;> cases g b <;> simp [PW_add_denote]

omit [DecidableEq α] in
theorem Pg_add (add : W → W → W) (g : W → Option PW) (hg : AddOK add g) (k q : List α) (a b : W)
    (hlen : q.length ≤ k.length) (ha : Pg g k a) (hb : Pg g q b) : Pg g k (add a b) := by
  intro pw hpw
  rw [hg a b] at hpw
  cases hga : g a with
  | none =>
    rw [hga] at hpw
    simp only at hpw
    obtain ⟨h1, h2⟩ := hb pw hpw
    exact ⟨h1, fun h8 => by have := h2 h8; omega⟩
  | some y =>
    rw [hga] at hpw
    cases hgb : g b with
    | none =>
      rw [hgb] at hpw
      simp only [Option.some.injEq] at hpw
      subst hpw
      exact ha y hga
    | some z =>
      rw [hgb] at hpw
      simp only [Option.some.injEq] at hpw
      subst hpw
      exact Pinv_add k q y z hlen (ha y hga) (hb z hgb)

theorem pmaBuildOk_spec (pats : List (List α)) (h : pmaBuildOk pats = true) : [] ∉ pats ∧ pats.Nodup := by
  unfold pmaBuildOk at h
  simp only [Bool.and_eq_true, decide_eq_true_eq, List.all_eq_true, Bool.not_eq_true'] at h
  refine ⟨fun hmem => ?_, h.2⟩
  have := h.1.2 [] hmem
  simp at this

/-- the stored weights are the boundary parts of the merged entries, every match meets the side conditions of `go_spec`,
and a match adds to slot `j` what all entries add whose key is a suffix of the text read so far -/
theorem match_entry (cfg : Cfg) (add : W → W → W) (d : W) (g : W → Option PW) (hg : AddOK add g)
    (es : List (List α × W)) (hes : ∀ e ∈ es, Pg g e.1 e.2) (sc : PmaScorer α)
    (hsc : BuiltFrom cfg add d g es sc) (seq : List α) :
    ∃ optw : List (Option PW), sc.weights = optw.map (Option.map (PW.toPWV cfg)) ∧
      (∀ m ∈ matchesNoSuffix sc.pats seq, 1 ≤ m.1 ∧ m.1 ≤ seq.length ∧ ∃ ow, optw[m.2]? = some ow ∧
        ∀ pw, ow = some pw → pw.offset ≤ -1 ∧ (pw.weight.length ≤ 8 → 0 ≤ (m.1 : Int) + 6 + pw.offset)) ∧
      ∀ (j k : Nat), k < seq.length → ∀ id, longestMatch sc.pats (seq.take (k + 1)) = some id →
        contrib optw j (k + 1, id)
          = ((es.filter fun e => e.1.isSuffixOf (seq.take (k + 1))).map fun e =>
              evg g ((j : Int) - ((k : Int) + 7)) e.2).sum := by
  obtain ⟨hpats, hweights, hok⟩ := hsc
  have hMk := Merge.mergeEntries_keys add d (addAll add es [])
  have hpk : ∀ q, q ∈ sc.pats ↔ q ∈ es.map Prod.fst := fun q => by rw [hpats, hMk, addAll_keys]
  have hne : [] ∉ es.map Prod.fst := fun h => (pmaBuildOk_spec sc.pats hok).1 ((hpk []).mpr h)
  have hmerge := fun x : Int => mergeEntries_addAll add d (evg g x) (Pg g)
    (fun k q a b hs ha hb => Pg_add add g hg k q a b (List.isSuffixOf_iff_suffix.mp hs).length_le ha hb)
    (fun _ _ a b _ _ _ => evg_add add g hg x a b) es hes hne
  generalize Merge.mergeEntries add d (addAll add es []) = M at hpats hweights hMk hmerge
  have hMnd : (M.map Prod.fst).Nodup := hMk ▸ addAll_nodup add es
  -- every match is an entry of `M`
  have hmatch : ∀ (pre : List α) (id : Nat), longestMatch sc.pats pre = some id →
      ∃ mw : List α × W, (M.map fun e => g e.2)[id]? = some (g mw.2) ∧ mw.1.isSuffixOf pre = true ∧
        Merge.lookupD d M mw.1 = mw.2 ∧ mw.1 ∈ es.map Prod.fst ∧
        ∀ q ∈ sc.pats, q.isSuffixOf pre = q.isSuffixOf mw.1 := by
    intro pre id hlm
    obtain ⟨p, hp, hps, hall⟩ := longestMatch_some sc.pats pre id hlm
    rw [hpats, List.getElem?_map] at hp
    cases hMi : M[id]? with
    | none => rw [hMi] at hp; cases hp
    | some mw =>
      rw [hMi] at hp
      simp only [Option.map_some, Option.some.injEq] at hp
      subst hp
      refine ⟨mw, ?_, hps, lookupD_getElem d M hMnd id mw.1 mw.2 hMi, ?_, hall⟩
      · rw [List.getElem?_map, hMi]
        rfl
      · rw [← addAll_keys add, ← hMk]
        exact List.mem_map.mpr ⟨mw, List.mem_of_getElem? hMi, rfl⟩
  refine ⟨M.map fun e => g e.2, by rw [hweights, List.map_map]; rfl, ?_, ?_⟩
  · intro m hm
    obtain ⟨k, hk, hkm⟩ := List.mem_filterMap.mp hm
    have hkn : k < seq.length := List.mem_range.mp hk
    cases hlm : longestMatch sc.pats (seq.take (k + 1)) with
    | none => rw [hlm] at hkm; cases hkm
    | some id =>
      rw [hlm] at hkm
      simp only [Option.map_some, Option.some.injEq] at hkm
      subst hkm
      obtain ⟨mw, hoi, hsuf, hlk, hmem, _⟩ := hmatch _ id hlm
      refine ⟨Nat.le_add_left 1 k, hkn, g mw.2, hoi, fun pw hpw => ?_⟩
      have hP := (hmerge 0 mw.1 hmem).1
      rw [hlk] at hP
      obtain ⟨h1, h2⟩ := hP pw hpw
      have hle := suffix_take_length mw.1 seq (k + 1) hsuf
      refine ⟨h1, fun h8 => ?_⟩
      have := h2 h8
      show 0 ≤ ((k + 1 : Nat) : Int) + 6 + pw.offset
      omega
  · intro j k hkn id hlm
    obtain ⟨mw, hoi, hsuf, hlk, hmem, hall⟩ := hmatch _ id hlm
    have hx : (j : Int) - (((k + 1 : Nat) : Int) + 6) = (j : Int) - ((k : Int) + 7) := by omega
    have hc : contrib (M.map fun e => g e.2) j (k + 1, id) = evg g ((j : Int) - ((k : Int) + 7)) mw.2 := by
      unfold contrib evg
      simp only [List.getD_eq_getElem?_getD, hoi, Option.getD_some, hx]
      cases g mw.2 <;> rfl
    rw [hc, ← hlk, (hmerge _ mw.1 hmem).2]
    exact isum_filter_congr es _ _ _
      (fun e he => (hall e.1 ((hpk e.1).mpr (List.mem_map.mpr ⟨e, he, rfl⟩))).symm)

theorem scorer_correct (cfg : Cfg) (add : W → W → W) (d : W) (g : W → Option PW) (hg : AddOK add g)
    (es : List (List α × W)) (hes : ∀ e ∈ es, Pg g e.1 e.2) (sc : PmaScorer α)
    (hsc : BuiltFrom cfg add d g es sc)
    (seq : List α) (buf : List Int) (hbuf : buf.length = seq.length + 13) (states : List (Option Nat)) :
    ∃ r st, pmaAddScores sc seq buf states = .ok (r, st) ∧ r.length = buf.length ∧
      ∀ j, j < buf.length → r.getD j 0 = buf.getD j 0 +
        ((List.range seq.length).map fun (k : Nat) =>
          ((es.filter fun e => e.1.isSuffixOf (seq.take (k + 1))).map fun e =>
            evg g ((j : Int) - ((k : Int) + 7)) e.2).sum).sum := by
  obtain ⟨optw, hw, hms, hc⟩ := match_entry cfg add d g hg es hes sc hsc seq
  obtain ⟨r, st', hgo, hlen, hval⟩ := go_spec cfg sc optw hw seq.length (matchesNoSuffix sc.pats seq) hms buf hbuf
    (if sc.tagWeight.isSome then List.replicate seq.length none else states)
    (fun h => by rw [if_pos h, List.length_replicate])
  refine ⟨r, st', hgo, hlen, fun j hj => ?_⟩
  rw [hval j hj]
  congr 1
  unfold matchesNoSuffix
  rw [isum_filterMap]
  apply isum_map_congr
  intro k hk
  cases hlm : longestMatch sc.pats (seq.take (k + 1)) with
  | none =>
    -- no pattern ends here, hence no entry
    have hnone := longestMatch_none sc.pats _ hlm
    have hnil : (es.filter fun e => e.1.isSuffixOf (seq.take (k + 1))) = [] := by
      apply List.filter_eq_nil_iff.mpr
      intro e he
      have : e.1 ∈ sc.pats := by
        rw [hsc.1, Merge.mergeEntries_keys, addAll_keys]
        exact List.mem_map.mpr ⟨e, he, rfl⟩
      rw [hnone e.1 this]
      exact Bool.false_ne_true
    rw [hnil]
    rfl
  | some id => exact hc j k (List.mem_range.mp hk) id hlm

end C01L
end V
