import VProofs.Lemmas.CsvFileRecord
import VProofs.Lemmas.CsvSplit
/-!
# Dictionary files (`csvDumpFile`, `csvLoadFile`)
-/
namespace V.C19F
open V

theorem header_record : csvRecord csvHeader =
    'w' :: ['o', 'r', 'd', ',', 'w', 'e', 'i', 'g', 'h', 't', 's', ',', 'c', 'o', 'm', 'm', 'e', 'n', 't', '\n'] := by
  decide +kernel

theorem stripBom_header (rest : List Char) : csvStripBom (csvRecord csvHeader ++ rest) = csvRecord csvHeader ++ rest := by
  rw [header_record]
  rfl

theorem hasBom_header (rest : List Char) : csvHasBom (csvRecord csvHeader ++ rest) = false := by
  rw [header_record]
  rfl

theorem written_file {recs : List (List (List Char))} (hne : ∀ r ∈ recs, r ≠ []) :
    csvGo .startRecord [] [] (csvRecord csvHeader ++ recs.flatMap csvRecord) = csvHeader :: recs ∧
      csvStrictGo .startRecord (csvRecord csvHeader ++ recs.flatMap csvRecord) = true := by
  have h := written_run (csvHeader :: recs) (List.forall_mem_cons.2 ⟨List.cons_ne_nil _ _, hne⟩) []
  rw [List.append_nil, List.flatMap_cons] at h
  exact ⟨h.1.trans (List.append_nil _), h.2⟩

theorem rowFields_ne_nil {rows : List (List Char × List Char × List Char)} : ∀ r ∈ rows.map csvRowFields, r ≠ [] := by
  intro r hr
  obtain ⟨x, _, e⟩ := List.mem_map.1 hr
  rw [← e]
  exact List.cons_ne_nil _ _

theorem mapM_rowOf (rows : List (List Char × List Char × List Char)) :
    (rows.map csvRowFields).mapM csvRowOf? = some rows := by
  rw [List.mapM_map, C19L.mapM_some (csvRowOf? ∘ csvRowFields) id rows (fun _ _ => rfl), List.map_id]

theorem rowOf_none {r : List (List Char)} (h : r.length ≠ 3) : csvRowOf? r = none := by
  match r, h with
  | [], _ => rfl
  | [_], _ => rfl
  | [_, _], _ => rfl
  | [_, _, _], h => exact absurd rfl h
  | _ :: _ :: _ :: _ :: _, _ => rfl

theorem mapM_rowOf_none : ∀ recs : List (List (List Char)), (∃ r ∈ recs, r.length ≠ 3) →
    recs.mapM csvRowOf? = none := by
  intro recs
  induction recs with
  | nil => intro ⟨r, hr, _⟩; cases hr
  | cons x xs ih =>
    intro ⟨r, hr, hl⟩
    rw [List.mapM_cons]
    by_cases hx : x.length ≠ 3
    · rw [rowOf_none hx]; rfl
    · have hrx : r ∈ xs := (List.mem_cons.1 hr).resolve_left fun e => hx (e ▸ hl)
      rw [ih ⟨r, hrx, hl⟩]
      cases csvRowOf? x <;> rfl

theorem load_written_records (recs : List (List (List Char))) (hne : ∀ r ∈ recs, r ≠ []) :
    csvLoadFile (csvRecord csvHeader ++ recs.flatMap csvRecord) =
      match recs.mapM csvRowOf? with
      | some rows => loadRows rows
      | none => .err .invalidArgument := by
  unfold csvLoadFile csvParse
  rw [stripBom_header, (written_file hne).1]
  simp only [if_true]
  cases recs.mapM csvRowOf? <;> rfl

theorem dumpFile_eq (d : List DictWord) (hne : d ≠ []) :
    csvDumpFile d = csvRecord csvHeader ++ (d.map dumpRow).flatMap fun r => csvRecord (csvRowFields r) := by
  cases d with
  | nil => exact absurd rfl hne
  | cons e es => rw [List.flatMap_map]; rfl

theorem loadRow_cases (r : List Char × List Char × List Char) :
    (∃ d, loadRow r = .ok d) ∨ loadRow r = .err .invalidArgument := by
  unfold loadRow
  cases parseWeights r.2.1 with
  | none => exact Or.inr rfl
  | some ws =>
    show (∃ d, wordRecordNew r.1 ws r.2.2 = .ok d) ∨ wordRecordNew r.1 ws r.2.2 = .err .invalidArgument
    unfold wordRecordNew
    by_cases h : ws.length ≠ r.1.length + 1
    · rw [if_pos h]; exact Or.inr rfl
    · rw [if_neg h]; exact Or.inl ⟨_, rfl⟩

theorem loadRows_cases : ∀ rows : List (List Char × List Char × List Char),
    (∃ ds, loadRows rows = .ok ds) ∨ loadRows rows = .err .invalidArgument := by
  intro rows
  induction rows with
  | nil => exact Or.inl ⟨[], rfl⟩
  | cons r rs ih =>
    rw [loadRows]
    rcases loadRow_cases r with ⟨d, e⟩ | e
    · rw [e]
      rcases ih with ⟨ds, e2⟩ | e2
      · rw [e2]; exact Or.inl ⟨_, rfl⟩
      · rw [e2]; exact Or.inr rfl
    · rw [e]; exact Or.inr rfl

theorem loadRow_bad {r : List Char × List Char × List Char}
    (h : ∀ ws, parseWeights r.2.1 = some ws → ws.length ≠ r.1.length + 1) : loadRow r = .err .invalidArgument := by
  unfold loadRow
  cases hp : parseWeights r.2.1 with
  | none => rfl
  | some ws =>
    show wordRecordNew r.1 ws r.2.2 = .err .invalidArgument
    unfold wordRecordNew
    rw [if_pos (h ws hp)]

theorem loadRows_bad : ∀ rows : List (List Char × List Char × List Char),
    (∃ r ∈ rows, ∀ ws, parseWeights r.2.1 = some ws → ws.length ≠ r.1.length + 1) →
    loadRows rows = .err .invalidArgument := by
  intro rows
  induction rows with
  | nil => intro ⟨r, hr, _⟩; cases hr
  | cons x xs ih =>
    intro ⟨r, hr, hb⟩
    rw [loadRows]
    rcases loadRow_cases x with ⟨d, e⟩ | e
    · have hrx : r ∈ xs := (List.mem_cons.1 hr).resolve_left fun e' => by
        rw [← e', loadRow_bad hb] at e
        cases e
      rw [e, ih ⟨r, hrx, hb⟩]
    · rw [e]

end V.C19F
