import VModel.Sentence
/-!
# Character type codes lie in 1..6
-/
namespace V.C01L

theorem lookupRange_bounds (n : Nat) (tbl : List (Nat × Nat × Nat))
    (h : tbl.all (fun r => decide (1 ≤ r.2.2 ∧ r.2.2 ≤ 6)) = true) :
    1 ≤ Gen.lookupRange n tbl ∧ Gen.lookupRange n tbl ≤ 6 := by
  induction tbl with
  | nil => simp [Gen.lookupRange]
  | cons r tbl ih =>
    obtain ⟨lo, hi, code⟩ := r
    simp only [List.all_cons, Bool.and_eq_true, decide_eq_true_eq] at h
    unfold Gen.lookupRange
    split
    · exact h.1
    · exact ih h.2

theorem getType_bounds (c : Char) : 1 ≤ Gen.getType c ∧ Gen.getType c ≤ 6 :=
  lookupRange_bounds _ _ (by decide)

theorem typesOf_bounds (text : List Char) : ∀ t ∈ typesOf text, 1 ≤ t ∧ t ≤ 6 := by
  intro t ht
  unfold typesOf at ht
  obtain ⟨c, _, hc⟩ := List.mem_map.mp ht
  rw [← hc]; exact getType_bounds c

end V.C01L
