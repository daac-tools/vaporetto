import VProofs.Lemmas.EvalFmtDigits
import VProofs.Lemmas.EvalFloatProps
/-!
# The printed text determines the double: `digitsToDecStr` is injective on digit strings without leading and trailing zero;
the shape of the three numbers `evaluate` prints
-/
namespace V.FmtL
open V V.F64 V.QuantL

theorem digitChar_facts : ∀ d < 10, digitChar d ≠ '.' ∧ digitChar d ≠ '-' ∧ (digitChar d = '0' → d = 0) ∧
    ∀ d' < 10, digitChar d = digitChar d' → d = d' := by decide

theorem map_digitChar_inj (ds ds' : List Nat) (h : ∀ d ∈ ds, d < 10) (h' : ∀ d ∈ ds', d < 10)
    (e : ds.map digitChar = ds'.map digitChar) : ds = ds' := by
  induction ds generalizing ds' with
  | nil =>
    cases ds' with
    | nil => rfl
    | cons b t => simp at e
  | cons a t ih =>
    cases ds' with
    | nil => simp at e
    | cons b t' =>
      simp only [List.map_cons, List.cons.injEq] at e
      have hab := (digitChar_facts a (h a List.mem_cons_self)).2.2.2 b (h' b List.mem_cons_self) e.1
      rw [hab, ih t' (fun d hd => h d (List.mem_cons_of_mem _ hd)) (fun d hd => h' d (List.mem_cons_of_mem _ hd)) e.2]

theorem replicate_append_inj {α : Type} (c : α) (z z' : Nat) (l l' : List α) (h : l.head? ≠ some c) (h' : l'.head? ≠ some c)
    (e : List.replicate z c ++ l = List.replicate z' c ++ l') : z = z' ∧ l = l' := by
  induction z generalizing z' with
  | zero =>
    cases z' with
    | zero => exact ⟨rfl, by simpa using e⟩
    | succ k =>
      exfalso
      simp only [List.replicate_zero, List.nil_append, List.replicate_succ, List.cons_append] at e
      rw [e] at h
      exact h rfl
  | succ k ih =>
    cases z' with
    | zero =>
      exfalso
      simp only [List.replicate_zero, List.nil_append, List.replicate_succ, List.cons_append] at e
      rw [← e] at h'
      exact h' rfl
    | succ k' =>
      simp only [List.replicate_succ, List.cons_append, List.cons.injEq, true_and] at e
      obtain ⟨e1, e2⟩ := ih k' e
      exact ⟨by rw [e1], e2⟩

theorem split_at_inj {α : Type} (c : α) (l1 l2 l1' l2' : List α) (h : c ∉ l1) (h' : c ∉ l1')
    (e : l1 ++ c :: l2 = l1' ++ c :: l2') : l1 = l1' ∧ l2 = l2' := by
  induction l1 generalizing l1' with
  | nil =>
    cases l1' with
    | nil => exact ⟨rfl, by simpa using e⟩
    | cons b t =>
      exfalso
      simp only [List.nil_append, List.cons_append, List.cons.injEq] at e
      exact h' (by rw [e.1]; exact List.mem_cons_self)
  | cons a t ih =>
    cases l1' with
    | nil =>
      exfalso
      simp only [List.nil_append, List.cons_append, List.cons.injEq] at e
      exact h (by rw [← e.1]; exact List.mem_cons_self)
    | cons b t' =>
      simp only [List.cons_append, List.cons.injEq] at e
      obtain ⟨e1, e2⟩ := ih t' (fun hm => h (List.mem_cons_of_mem _ hm)) (fun hm => h' (List.mem_cons_of_mem _ hm)) e.2
      exact ⟨by rw [e.1, e1], e2⟩

structure NormDigits (ds : List Nat) : Prop where
  ne : ds ≠ []
  lt : ∀ d ∈ ds, d < 10
  head : ds.head? ≠ some 0
  last : ds.getLast? ≠ some 0

structure NormChars (cs : List Char) : Prop where
  ne : cs ≠ []
  nodot : '.' ∉ cs
  nominus : '-' ∉ cs
  head : cs.head? ≠ some '0'
  last : cs.getLast? ≠ some '0'

theorem normChars_of (ds : List Nat) (g : NormDigits ds) : NormChars (ds.map digitChar) := by
  refine ⟨?_, ?_, ?_, ?_, ?_⟩
  · intro h; exact g.ne (List.map_eq_nil_iff.mp h)
  · intro h
    obtain ⟨d, hd, e⟩ := List.mem_map.mp h
    exact (digitChar_facts d (g.lt d hd)).1 e
  · intro h
    obtain ⟨d, hd, e⟩ := List.mem_map.mp h
    exact (digitChar_facts d (g.lt d hd)).2.1 e
  · intro h
    rw [List.head?_map] at h
    cases hh : ds.head? with
    | none => rw [hh] at h; simp at h
    | some d =>
      rw [hh] at h
      simp only [Option.map_some, Option.some.injEq] at h
      have hd : d ∈ ds := List.mem_of_mem_head? hh
      have := (digitChar_facts d (g.lt d hd)).2.2.1 h
      exact g.head (by rw [hh, this])
  · intro h
    rw [List.getLast?_map] at h
    cases hh : ds.getLast? with
    | none => rw [hh] at h; simp at h
    | some d =>
      rw [hh] at h
      simp only [Option.map_some, Option.some.injEq] at h
      have hd : d ∈ ds := List.mem_of_getLast? hh
      have := (digitChar_facts d (g.lt d hd)).2.2.1 h
      exact g.last (by rw [hh, this])

/-- `digitsToDecStr` on the characters -/
def decStrC (cs : List Char) (e : Int) : List Char :=
  if e ≤ 0 then '0' :: '.' :: (List.replicate (-e).toNat '0' ++ cs)
  else if cs.length ≤ e.toNat then cs ++ List.replicate (e.toNat - cs.length) '0'
  else cs.take e.toNat ++ '.' :: cs.drop e.toNat

theorem digitsToDecStr_eq (ds : List Nat) (e : Int) : digitsToDecStr ds e = decStrC (ds.map digitChar) e := by
  unfold digitsToDecStr decStrC
  simp only [List.length_map]

/-- the three layouts `0.000ddd`, `ddd000`, `dd.ddd`: only the first starts with `0`, only the second has no point -/
theorem decStrC_cases (cs : List Char) (g : NormChars cs) (e : Int) :
    (e ≤ 0 ∧ decStrC cs e = '0' :: '.' :: (List.replicate (-e).toNat '0' ++ cs)) ∨
    (0 < e ∧ (decStrC cs e).head? = cs.head? ∧
      ((cs.length ≤ e.toNat ∧ decStrC cs e = cs ++ List.replicate (e.toNat - cs.length) '0' ∧ '.' ∉ decStrC cs e) ∨
        (e.toNat < cs.length ∧ decStrC cs e = cs.take e.toNat ++ '.' :: cs.drop e.toNat))) := by
  by_cases hA : e ≤ 0
  · left
    unfold decStrC
    rw [if_pos hA]
    exact ⟨hA, rfl⟩
  · refine Or.inr ⟨by omega, ?_⟩
    obtain ⟨a, t, hcs⟩ := List.exists_cons_of_ne_nil g.ne
    by_cases hB : cs.length ≤ e.toNat
    · have e1 : decStrC cs e = cs ++ List.replicate (e.toNat - cs.length) '0' := by
        unfold decStrC; rw [if_neg hA, if_pos hB]
      refine ⟨by rw [e1, hcs]; rfl, Or.inl ⟨hB, e1, ?_⟩⟩
      rw [e1, List.mem_append]
      rintro (h | h)
      · exact g.nodot h
      · exact absurd (List.mem_replicate.mp h).2 (by decide)
    · have e1 : decStrC cs e = cs.take e.toNat ++ '.' :: cs.drop e.toNat := by
        unfold decStrC; rw [if_neg hA, if_neg hB]
      refine ⟨?_, Or.inr ⟨by omega, e1⟩⟩
      obtain ⟨k, hk⟩ : ∃ k, e.toNat = k + 1 := ⟨e.toNat - 1, by omega⟩
      rw [e1, hk, hcs]
      rfl

theorem decStrC_inj (cs cs' : List Char) (g : NormChars cs) (g' : NormChars cs') (e e' : Int)
    (h : decStrC cs e = decStrC cs' e') : cs = cs' ∧ e = e' := by
  rcases decStrC_cases cs g e with ⟨hA, a1⟩ | ⟨hpos, hh, hBC⟩ <;>
    rcases decStrC_cases cs' g' e' with ⟨hA', a2⟩ | ⟨hpos', hh', hBC'⟩
  · rw [a1, a2] at h
    simp only [List.cons.injEq, true_and] at h
    obtain ⟨z, c⟩ := replicate_append_inj '0' _ _ cs cs' g.head g'.head h
    exact ⟨c, by omega⟩
  · exact absurd (by rw [← hh', ← h, a1]; rfl) g'.head
  · exact absurd (by rw [← hh, h, a2]; rfl) g.head
  · rcases hBC with ⟨hB, b1, b2⟩ | ⟨hC, c1⟩ <;> rcases hBC' with ⟨hB', b1', b2'⟩ | ⟨hC', c1'⟩
    · -- trailing zeros: compare the reversed strings
      rw [b1, b1'] at h
      have hr := congrArg List.reverse h
      rw [List.reverse_append, List.reverse_append, List.reverse_replicate, List.reverse_replicate] at hr
      obtain ⟨z, c⟩ := replicate_append_inj '0' _ _ cs.reverse cs'.reverse
        (by rw [List.head?_reverse]; exact g.last) (by rw [List.head?_reverse]; exact g'.last) hr
      have c' : cs = cs' := by rw [← List.reverse_reverse cs, c, List.reverse_reverse]
      refine ⟨c', ?_⟩
      rw [c'] at z hB
      omega
    · exact absurd (by rw [h, c1']; exact List.mem_append_right _ List.mem_cons_self) b2
    · exact absurd (by rw [← h, c1]; exact List.mem_append_right _ List.mem_cons_self) b2'
    · rw [c1, c1'] at h
      obtain ⟨t1, t2⟩ := split_at_inj '.' _ _ _ _ (fun hm => g.nodot (List.mem_of_mem_take hm))
        (fun hm => g'.nodot (List.mem_of_mem_take hm)) h
      have c' : cs = cs' := by rw [← List.take_append_drop e.toNat cs, t1, t2, List.take_append_drop]
      refine ⟨c', ?_⟩
      have hl := congrArg List.length t1
      rw [List.length_take, List.length_take] at hl
      omega

theorem digitsToDecStr_inj (ds ds' : List Nat) (g : NormDigits ds) (g' : NormDigits ds') (e e' : Int)
    (h : digitsToDecStr ds e = digitsToDecStr ds' e') : ds = ds' ∧ e = e' := by
  rw [digitsToDecStr_eq, digitsToDecStr_eq] at h
  obtain ⟨c, he⟩ := decStrC_inj _ _ (normChars_of ds g) (normChars_of ds' g') e e' h
  exact ⟨map_digitChar_inj ds ds' g.lt g'.lt c, he⟩

theorem decStrC_ne_zero (cs : List Char) (g : NormChars cs) (e : Int) :
    decStrC cs e ≠ ['0'] ∧ (decStrC cs e).head? ≠ some '-' := by
  rcases decStrC_cases cs g e with ⟨_, a1⟩ | ⟨_, hh, _⟩
  · rw [a1]
    exact ⟨by simp, by simp⟩
  · rw [hh]
    exact ⟨fun h => g.head (by rw [← hh, h]; rfl), fun h => g.nominus (List.mem_of_mem_head? h)⟩

theorem decDigits_norm (m : Nat) (h0 : m ≠ 0) (h10 : m % 10 ≠ 0) : NormDigits (decDigits m) := by
  obtain ⟨f1, f2, _⟩ := decDigits_facts m
  obtain ⟨d, t, ht, hd0⟩ := decDigits_head m (Nat.pos_of_ne_zero h0)
  refine ⟨?_, f1, ?_, ?_⟩
  · rw [ht]; exact List.cons_ne_nil _ _
  · rw [ht]; intro h; exact hd0 (Option.some.inj h)
  · rw [f2]; intro h; exact h10 (Option.some.inj h)

theorem shortestDigits_norm (a : Nat) (ha : 0 < a) (hrep : repUnits a = true) : NormDigits (f64ShortestDigits a).1 := by
  obtain ⟨h0, h10⟩ := shortestDec_mant a ha hrep
  exact decDigits_norm _ h0 h10

def magText (a : Nat) : List Char :=
  if a = 0 then ['0'] else digitsToDecStr (f64ShortestDigits a).1 (f64ShortestDigits a).2

theorem f64Display_fin (s : Bool) (a : Nat) : f64Display (.fin s a) = (if s then ['-'] else []) ++ magText a := rfl

theorem magText_head (a : Nat) (hrep : repUnits a = true) : (magText a).head? ≠ some '-' := by
  unfold magText
  by_cases h0 : a = 0
  · rw [if_pos h0]; decide
  · rw [if_neg h0, digitsToDecStr_eq]
    exact (decStrC_ne_zero _ (normChars_of _ (shortestDigits_norm a (by omega) hrep)) _).2

theorem magText_inj (a b : Nat) (hra : repUnits a = true) (hrb : repUnits b = true) (hat : a < top) (hbt : b < top)
    (h : magText a = magText b) : a = b := by
  unfold magText at h
  by_cases ha0 : a = 0
  · by_cases hb0 : b = 0
    · rw [ha0, hb0]
    · exfalso
      rw [if_pos ha0, if_neg hb0, digitsToDecStr_eq] at h
      exact (decStrC_ne_zero _ (normChars_of _ (shortestDigits_norm b (by omega) hrb)) _).1 h.symm
  · by_cases hb0 : b = 0
    · exfalso
      rw [if_neg ha0, if_pos hb0, digitsToDecStr_eq] at h
      exact (decStrC_ne_zero _ (normChars_of _ (shortestDigits_norm a (by omega) hra)) _).1 h
    · rw [if_neg ha0, if_neg hb0] at h
      obtain ⟨e1, e2⟩ := digitsToDecStr_inj _ _ (shortestDigits_norm a (by omega) hra)
        (shortestDigits_norm b (by omega) hrb) _ _ h
      have r1 := display_roundtrip a (by omega) hat hra
      have r2 := display_roundtrip b (by omega) hbt hrb
      rw [e1, e2, r2] at r1
      exact (F64.fin.inj r1).2.symm

theorem display_fin_inj (s t : Bool) (a b : Nat) (hra : repUnits a = true) (hrb : repUnits b = true)
    (h : f64Display (.fin s a) = f64Display (.fin t b)) : s = t ∧ magText a = magText b := by
  rw [f64Display_fin, f64Display_fin] at h
  have h1 := magText_head a hra
  have h2 := magText_head b hrb
  cases s <;> cases t
  · exact ⟨rfl, by simpa using h⟩
  · exfalso
    simp only [Bool.false_eq_true, if_false, List.nil_append, if_true, List.cons_append] at h
    exact h1 (by rw [h]; rfl)
  · exfalso
    simp only [Bool.false_eq_true, if_false, List.nil_append, if_true, List.cons_append] at h
    exact h2 (by rw [← h]; rfl)
  · exact ⟨rfl, by simpa using h⟩

end V.FmtL

namespace V

/-- the texts that `evaluate` can print for a metric: `NaN`, `0`, `1`, or `0.` followed by zeros and at least one more digit,
the last digit not `0` (never an exponent, never a sign, never `inf`) -/
def UnitText (cs : List Char) : Prop :=
  cs = ['N', 'a', 'N'] ∨ cs = ['0'] ∨ cs = ['1'] ∨
    ∃ (z : Nat) (ds : List Nat) (last : Nat), cs = '0' :: '.' :: (List.replicate z '0' ++ ds.map digitChar) ∧
      (∀ d ∈ ds, d < 10) ∧ ds.getLast? = some last ∧ last ≠ 0

end V

namespace V.FmtL
open V V.F64 V.QuantL

theorem display_shape (a : Nat) (hd : F64.IsDouble (.fin false a)) :
    (a = 0 → f64Display (.fin false a) = ['0']) ∧ (a = F64.unit → f64Display (.fin false a) = ['1']) ∧
    (0 < a → a < F64.unit → ∃ (z : Nat) (ds : List Nat) (last : Nat),
      f64Display (.fin false a) = '0' :: '.' :: (List.replicate z '0' ++ ds.map digitChar) ∧
        (∀ d ∈ ds, d < 10) ∧ ds.getLast? = some last ∧ last ≠ 0) ∧
    f64Display .nan = ['N', 'a', 'N'] := by
  refine ⟨?_, ?_, ?_, rfl⟩
  · intro h; rw [h]; decide +kernel
  · intro h; rw [h]; decide +kernel
  · intro ha hlt
    have he := shortest_exp_nonpos a ha hlt hd.2
    obtain ⟨_, hm10⟩ := shortestDec_mant a ha hd.2
    obtain ⟨f1, f2, _⟩ := decDigits_facts (f64ShortestDec a).1
    refine ⟨(-(f64ShortestDigits a).2).toNat, (f64ShortestDigits a).1, (f64ShortestDec a).1 % 10, ?_, f1, f2, hm10⟩
    unfold f64Display digitsToDecStr
    simp only [if_neg (Nat.ne_of_gt ha), if_pos he, Bool.false_eq_true, if_false, List.nil_append]

theorem unitText_of_le_one (x : F64) (h1 : x ≠ .nan → x.Finite ∧ x.sign = false ∧ x.IsDouble)
      (h2 : x ≠ .nan → f64Le x (f64OfNat 1) = true) : UnitText (f64Display x) := by
    by_cases hn : x = .nan
    · subst hn; exact Or.inl rfl
    · obtain ⟨hf, hs, hdbl⟩ := h1 hn
      have hle := h2 hn
      cases x with
      | nan => exact absurd rfl hn
      | inf s => exact absurd hf (by simp [F64.Finite])
      | fin s a =>
        simp only [F64.sign] at hs
        subst hs
        rw [EvalF.f64OfNat_one, QuantL.f64Le_nonneg, decide_eq_true_eq] at hle
        obtain ⟨c0, c1, c2, _⟩ := display_shape a hdbl
        rcases Nat.eq_zero_or_pos a with h0 | h0
        · exact Or.inr (Or.inl (c0 h0))
        · rcases Nat.eq_or_lt_of_le hle with h1 | h1
          · exact Or.inr (Or.inr (Or.inl (c1 h1)))
          · exact Or.inr (Or.inr (Or.inr (c2 h0 h1)))

end V.FmtL
