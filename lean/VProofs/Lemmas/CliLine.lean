import VModel.Cli
import VProofs.Lemmas.Inv
import VProofs.Lemmas.Base
/-!
# CliLine — one iteration of `predict`'s loop equals the library pipeline on a fresh sentence; the loop concatenates blocks
-/
namespace V.C20L
open V

theorem raw_cases (x : List Char) :
    (Sentence.fromRaw x = .err .invalidArgument ∧ ∀ s : Sentence, s.updateRaw x = .ok (Sentence.default, false)) ∨
    ((x ≠ [] ∧ '\x00' ∉ x) ∧ Sentence.fromRaw x = .ok (Sentence.mkRaw x) ∧
      ∀ s : Sentence, s.updateRaw x = .ok (Sentence.mkRaw x, true)) := by
  rw [fromRaw_eq]
  simp only [updateRaw_eq]
  split
  · next h => exact Or.inr ⟨h, rfl, fun _ => rfl⟩
  · exact Or.inl ⟨rfl, fun _ => rfl⟩

theorem fromRaw_ok (x : List Char) (hne : x ≠ []) (hnul : '\x00' ∉ x) :
    Sentence.fromRaw x = .ok (Sentence.mkRaw x) := by
  rw [fromRaw_eq, if_pos ⟨hne, hnul⟩]

theorem updateRaw_ok (s : Sentence) (x : List Char) (hne : x ≠ []) (hnul : '\x00' ∉ x) :
    s.updateRaw x = .ok (Sentence.mkRaw x, true) := by
  rw [updateRaw_eq, if_pos ⟨hne, hnul⟩]

theorem updateRaw_rejected (s : Sentence) (x : List Char) (h : x = [] ∨ '\x00' ∈ x) :
    s.updateRaw x = .ok (Sentence.default, false) := by
  rw [updateRaw_eq, if_neg fun c => h.elim c.1 c.2]

theorem fromRaw_rejected (x : List Char) (h : x = [] ∨ '\x00' ∈ x) : Sentence.fromRaw x = .err .invalidArgument := by
  rw [fromRaw_eq, if_neg fun c => h.elim c.1 c.2]

theorem map_bindR {α β γ : Type} (r : Res α) (f : α → Res β) (g : β → γ) :
    (bindR r f).map g = bindR r (fun a => (f a).map g) := by
  cases r <;> rfl

theorem bindR_ok {α β : Type} (a : α) (f : α → Res β) : bindR (.ok a) f = f a := rfl
theorem bindR_err {α β : Type} (e : Err) (f : α → Res β) : bindR (.err e) f = .err e := rfl

theorem bindR_congr {α β : Type} (r : Res α) (f g : α → Res β) (h : ∀ a, r = .ok a → f a = g a) : bindR r f = bindR r g := by
  cases r with
  | ok a => exact h a rfl
  | err e => rfl
  | panic q => rfl
  | ub q => rfl

/-- the sentence the tokenised line is written from: with normalisation, the un-normalised characters with the predicted
boundaries and tags copied over -/
def origCopy (fl : PredictFlags) (line : List Char) (s3 : Sentence) : Res Sentence :=
  if fl.noNorm then .ok s3 else
    match Sentence.fromRaw line with
    | .ok o =>
      if o.bounds.length ≠ s3.bounds.length then .panic "boundaries_mut().copy_from_slice: length mismatch"
      else if s3.nTags * o.types.length ≠ s3.tags.length then .panic "tags_mut().clone_from_slice: length mismatch"
      else .ok { o with bounds := s3.bounds, tags := s3.tags, nTags := s3.nTags }
    | .err e => .err e
    | .panic q => .panic q
    | .ub q => .ub q

/-- the specification block of one line: `V.libLine` of `VProofs/C20.lean` with its copy step named (`origCopy`), so that
the lemmas can speak of that step; `libLine` unfolds to this -/
def libLine' (fl : PredictFlags) (p : Predictor) (filters : List PostFilter) (line : List Char) : Res (List Char) :=
  match Sentence.fromRaw (if fl.noNorm then line else Gen.fullwidth line) with
  | .err _ => .ok ['\n']
  | .panic q => .panic q
  | .ub q => .ub q
  | .ok s0 =>
    bindR (p.predict 0 s0) fun s1 =>
    bindR (applyWsconst filters s1) fun s2 =>
    bindR (if fl.predictTags then p.predictTags s2 else .ok s2) fun s3 =>
    bindR (origCopy fl line s3) fun shown =>
    bindR shown.writeTokenized fun w =>
    bindR (if fl.scores then printScores s3 else .ok []) fun sc =>
    bindR (if fl.tagScores && fl.predictTags then printTagScores s3 else .ok []) fun ts =>
    .ok (w ++ ['\n'] ++ sc ++ ts)

/-- reusing `s` and `s_orig` is invisible -/
theorem line_eq_library (fl : PredictFlags) (p : Predictor) (filters : List PostFilter) (st : PredictState)
    (line : List Char) :
    (predictLine fl p filters st line).map (·.out) = (libLine' fl p filters line).map (st.out ++ ·) := by
  unfold predictLine libLine' origCopy
  rcases raw_cases (if fl.noNorm then line else Gen.fullwidth line) with ⟨h1, h2⟩ | ⟨_, h1, h2⟩
  · simp only [h1, h2, bindR_ok]
    rfl
  · simp only [h1, h2, bindR_ok, Bool.not_true, Bool.false_eq_true, if_false, map_bindR]
    refine bindR_congr _ _ _ fun s1 _ => bindR_congr _ _ _ fun s2 _ => bindR_congr _ _ _ fun s3 _ => ?_
    cases hn : fl.noNorm
    · simp only [Bool.false_eq_true, if_false]
      rcases raw_cases line with ⟨g1, g2⟩ | ⟨_, g1, g2⟩
      · simp only [g1, g2, bindR_ok]
        rfl
      · simp only [g1, g2, bindR_ok, Bool.not_true, Bool.false_eq_true, if_false, Sentence.resetTags,
          List.length_replicate]
        by_cases c1 : (Sentence.mkRaw line).bounds.length ≠ s3.bounds.length
        · simp only [if_pos c1]
          rfl
        · by_cases c2 : s3.nTags * (Sentence.mkRaw line).types.length ≠ s3.tags.length
          · simp only [if_neg c1, if_pos c2]
            rfl
          · simp only [if_neg c1, if_neg c2, bindR_ok, Res.map, List.append_assoc]
    · simp only [if_true, bindR_ok, Res.map, List.append_assoc]

theorem go_nil (fl : PredictFlags) (p : Predictor) (cl : List (List Nat)) (st : PredictState) :
    predictCli.go fl p [] cl st = .ok st := rfl

theorem go_cons (fl : PredictFlags) (p : Predictor) (l : List Char) (ls : List (List Char)) (cl : List (List Nat))
    (st : PredictState) :
    predictCli.go fl p (l :: ls) cl st =
      bindR (buildPostFilters fl.wsconst (cl.headD [])) fun filters =>
        bindR (predictLine fl p filters st l) fun st' => predictCli.go fl p ls cl.tail st' := rfl

/-- the loop writes one specification block per line, in order, each with the filters built for its line -/
theorem go_blocks (fl : PredictFlags) (p : Predictor) :
    ∀ (ls : List (List Char)) (cl : List (List Nat)) (st st' : PredictState), predictCli.go fl p ls cl st = .ok st' →
      ∃ blocks : List (List Char), blocks.length = ls.length ∧ st'.out = st.out ++ blocks.flatten ∧
        ∀ i, i < blocks.length →
          ∃ filters, buildPostFilters fl.wsconst ((cl.drop i).headD []) = .ok filters ∧
            libLine' fl p filters (ls.getD i []) = .ok (blocks.getD i [])
  | [], cl, st, st', h => by
    rw [go_nil] at h
    injection h with h
    subst h
    exact ⟨[], rfl, by simp, fun i hi => absurd hi (Nat.not_lt_zero _)⟩
  | l :: ls, cl, st, st', h => by
    rw [go_cons] at h
    obtain ⟨filters, hf, h⟩ := Res.bind_eq_ok h
    obtain ⟨st1, h1, h⟩ := Res.bind_eq_ok h
    have e := line_eq_library fl p filters st l
    rw [h1] at e
    obtain ⟨b, hb, hout⟩ := Res.map_eq_ok e.symm
    have hout : st.out ++ b = st1.out := hout
    obtain ⟨blocks, hlen, hout', hall⟩ := go_blocks fl p ls cl.tail st1 st' h
    refine ⟨b :: blocks, by simp [hlen], by rw [hout', ← hout]; simp, fun i hi => ?_⟩
    cases i with
    | zero => exact ⟨filters, by simpa using hf, by simpa using hb⟩
    | succ i =>
      obtain ⟨f, hf', hl'⟩ := hall i (by simpa using hi)
      refine ⟨f, ?_, by simpa using hl'⟩
      have e : List.drop (i + 1) cl = List.drop i cl.tail := by cases cl <;> simp
      rw [e]; exact hf'

theorem predictCli_eq (cfg : Cfg) (fl : PredictFlags) (m : WModel) (stdin : List Char) (clusters : List (List Nat)) :
    predictCli cfg fl m stdin clusters =
      bindR (Predictor.new cfg m fl.predictTags) fun p0 =>
        (predictCli.go fl { p0 with storeTagScores := fl.tagScores } (splitLines stdin) clusters {}).map (·.out) := rfl

theorem go_total (fl : PredictFlags) (p : Predictor)
    (hline : ∀ (cl : List Nat) (line : List Char), ∃ filters, buildPostFilters fl.wsconst cl = .ok filters ∧
      ∃ b, libLine' fl p filters line = .ok b) :
    ∀ (ls : List (List Char)) (cl : List (List Nat)) (st : PredictState), ∃ st', predictCli.go fl p ls cl st = .ok st'
  | [], cl, st => ⟨st, rfl⟩
  | l :: ls, cl, st => by
    obtain ⟨filters, hf, b, hb⟩ := hline (cl.headD []) l
    have e := line_eq_library fl p filters st l
    rw [hb] at e
    obtain ⟨st1, h1, _⟩ := Res.map_eq_ok e
    obtain ⟨st2, h2⟩ := go_total fl p hline ls cl.tail st1
    exact ⟨st2, by rw [go_cons, hf, bindR_ok, h1, bindR_ok, h2]⟩

end V.C20L
