import VProofs.Lemmas.TagAsmTokens
import VProofs.Lemmas.MapRes
/-!
# Assembling tag models: totality and well-formedness of the result (for C11)
-/
namespace V.C11L
open V.C12L V.PermL

theorem foldl_res_total {σ τ : Type} (P : σ → Prop) (Q : τ → Prop) (f : Res σ → τ → Res σ)
    (hf : ∀ s t, P s → Q t → ∃ s', f (.ok s) t = .ok s' ∧ P s') :
    ∀ (l : List τ) (s : σ), P s → (∀ t ∈ l, Q t) → ∃ s', l.foldl f (.ok s) = .ok s' ∧ P s' := by
  intro l
  induction l with
  | nil => intro s hs _; exact ⟨s, rfl, hs⟩
  | cons t r ih =>
    intro s hs hq
    obtain ⟨s1, h1, hp1⟩ := hf s t hs (hq t List.mem_cons_self)
    rw [List.foldl_cons, h1]
    exact ih s1 hp1 (fun x hx => hq x (List.mem_cons_of_mem _ hx))

theorem foldl_res_inv_mem {σ τ : Type} (P : σ → Prop) (f : Res σ → τ → Res σ) :
    ∀ (l : List τ), (∀ acc, ∀ t ∈ l, (∀ s, acc = .ok s → P s) → ∀ s, f acc t = .ok s → P s) →
      ∀ (acc : Res σ), (∀ s, acc = .ok s → P s) → ∀ s, l.foldl f acc = .ok s → P s := by
  intro l
  induction l with
  | nil => intro _ acc h s hs; exact h s hs
  | cons t r ih =>
    intro hf acc h s hs
    exact ih (fun acc' t' ht' => hf acc' t' (List.mem_cons_of_mem _ ht')) (f acc t)
      (hf acc t List.mem_cons_self h) s hs

theorem biasFold_total (n : Nat) (l : List TagTraceItem) (hl : ∀ t ∈ l, t.offset + t.cls < n) :
    ∃ b, l.foldl biasStep (.ok (List.replicate n 0)) = .ok b := by
  refine (foldl_res_total (fun b : List Int => b.length = n) (fun t => t.offset + t.cls < n) biasStep ?_ l
    (List.replicate n 0) List.length_replicate hl).imp fun _ h => h.1
  intro b t hb ht
  rw [biasStep_eq]
  split
  · rw [Res.bind_ok, biasSet, if_pos (hb ▸ ht)]
    exact ⟨_, rfl, (List.length_set ..).trans hb⟩
  · exact ⟨b, rfl, hb⟩

section
variable {κ : Type} [DecidableEq κ]

theorem gfold_total (lt : κ → κ → Bool) (n : Nat) (sel : TagTraceItem → Option κ) (l : List TagTraceItem)
    (hl : ∀ t ∈ l, t.offset + t.cls < n) : ∃ c, l.foldl (gstep lt n sel) (.ok []) = .ok c := by
  refine (foldl_res_total (VecLen n) (fun t => t.offset + t.cls < n) (gstep lt n sel) ?_ l []
    (fun _ he => nomatch he) hl).imp fun _ h => h.1
  intro m t hm ht
  unfold gstep
  split
  · exact ⟨m, rfl, hm⟩
  · split
    · exact ⟨m, rfl, hm⟩
    · rw [Res.bind_ok, tagUpsert_eq_insK lt _ _ _ hm, if_pos ht]
      exact ⟨_, rfl, insK_all lt _ _ (fun v : List Int => v.length = n) (slotF_length n _ _) m hm⟩

theorem gfold_keys (lt : κ → κ → Bool) (n : Nat) (sel : TagTraceItem → Option κ) (R : κ → Prop) (l : List TagTraceItem)
    (hl : ∀ t ∈ l, ∀ k, sel t = some k → R k) (c : List (κ × List Int))
    (h : l.foldl (gstep lt n sel) (.ok []) = .ok c) : ∀ e ∈ c, R e.1 := by
  refine (foldl_res_inv_mem (fun c => VecLen n c ∧ ∀ e ∈ c, R e.1) (gstep lt n sel) l ?_ _ ?_ c h).2
  · intro acc t ht hacc s hs
    unfold gstep at hs
    split at hs
    · exact hacc s hs
    · next k hk =>
      split at hs
      · exact hacc s hs
      · obtain ⟨m, rfl, hu⟩ := Res.bind_eq_ok hs
        obtain ⟨hv, hr⟩ := hacc m rfl
        refine ⟨tagUpsert_len lt n k _ _ m s hv hu, ?_⟩
        rw [tagUpsert_eq_insK lt k _ _ hv] at hu
        split at hu
        · cases hu
          intro e he
          rcases mem_insK lt k _ m e he with h | rfl | ⟨v, _, rfl⟩
          · exact hr e h
          · exact hl t ht k hk
          · exact hl t ht k hk
        · cases hu
  · intro s hs
    cases hs
    exact ⟨fun _ he => (nomatch he), fun _ he => (nomatch he)⟩

end

theorem selC_some {t : TagTraceItem} {k : List Char × Nat} (h : selC t = some k) : t.feat = some (.charNgram k.1 k.2) := by
  unfold selC at h
  split at h
  · cases h; assumption
  · cases h

theorem selT_some {t : TagTraceItem} {k : List Nat × Nat} (h : selT t = some k) : t.feat = some (.typeNgram k.1 k.2) := by
  unfold selT at h
  split at h
  · cases h; assumption
  · cases h

theorem groupTagWeights_keys {β : Type} [DecidableEq β] (R : List β → Prop) :
    ∀ (m : List ((List β × Nat) × List Int)), (∀ e ∈ m, R e.1.1) →
      ∀ d ∈ groupTagWeights m, R d.ngram ∧ d.weights ≠ [] := by
  intro m
  induction m with
  | nil => intro _ d hd; simp [groupTagWeights] at hd
  | cons x r ih =>
    intro hm d hd
    obtain ⟨⟨g, rel⟩, v⟩ := x
    have hg0 : R g := hm ((g, rel), v) List.mem_cons_self
    have ih' := ih (fun e he => hm e (List.mem_cons_of_mem _ he))
    unfold groupTagWeights at hd
    cases hg : groupTagWeights r with
    | nil =>
      rw [hg] at hd
      simp only [List.mem_singleton] at hd
      subst hd
      exact ⟨hg0, by simp⟩
    | cons d0 ds =>
      rw [hg] at hd ih'
      simp only at hd
      split at hd
      · rcases List.mem_cons.mp hd with hd | hd
        · subst hd; exact ⟨hg0, by simp⟩
        · exact ih' d (List.mem_cons_of_mem _ hd)
      · rcases List.mem_cons.mp hd with hd | hd
        · subst hd; exact ⟨hg0, by simp⟩
        · exact ih' d hd

theorem assembleTag_keys (token : List Char) (examples : List (List Tag)) (trace : List TagTraceItem) (tm : TagModel)
    (RC : List Char → Prop) (RT : List Nat → Prop)
    (hC : ∀ t ∈ trace, ∀ g rel, t.feat = some (.charNgram g rel) → RC g)
    (hT : ∀ t ∈ trace, ∀ g rel, t.feat = some (.typeNgram g rel) → RT g)
    (h : assembleTag token examples trace = .ok tm) :
    (∀ d ∈ tm.charNgrams, RC d.ngram ∧ d.weights ≠ []) ∧ (∀ d ∈ tm.typeNgrams, RT d.ngram ∧ d.weights ≠ []) := by
  obtain ⟨b, c, t, _, hc, ht, rfl⟩ := assembleTag_ok token examples trace tm h
  rw [charStep_eq] at hc
  rw [typeStep_eq] at ht
  exact ⟨groupTagWeights_keys RC c (gfold_keys _ _ selC (fun k => RC k.1) _
      (fun t ht k hk => hC t (List.mem_filter.mp ht).1 _ _ (selC_some hk)) c hc),
    groupTagWeights_keys RT t (gfold_keys _ _ selT (fun k => RT k.1) _
      (fun t ht k hk => hT t (List.mem_filter.mp ht).1 _ _ (selT_some hk)) t ht)⟩

theorem assembleTags_mem (corpus : List TagExample) (dict : List (List Char × List Tag)) (trace : List TagTraceItem)
    (tms : List TagModel) (h : assembleTags corpus dict trace = .ok tms) :
    ∀ tm ∈ tms, ∃ token examples, assembleTag token examples trace = .ok tm := by
  rw [assembleTags_eq] at h
  intro tm htm
  obtain ⟨p, _, hp⟩ := V.mapRes_mem h htm
  exact ⟨p.1, p.2, hp⟩

end V.C11L
