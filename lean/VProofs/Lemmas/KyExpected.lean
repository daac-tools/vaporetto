import VProofs.Lemmas.KyOrder
/-!
# C17 — what `expectedModel` contains
-/
namespace V.C17L
open V V.Ky

theorem filterMapOpt_eq {α β : Type} (f : α → Option (Option β)) : ∀ (l : List α),
    filterMapOpt f l = (mapOpt f l).map (·.filterMap id)
  | [] => rfl
  | x :: xs => by
    rw [filterMapOpt, mapOpt, filterMapOpt_eq f xs]
    cases f x with
    | none => rfl
    | some y => cases mapOpt f xs with
      | none => rfl
      | some ys => cases y <;> rfl

theorem mapOpt_eq_map {α β : Type} {f : α → Option β} {h : α → β} (hf : ∀ x y, f x = some y → y = h x) :
    ∀ {l : List α} {ys : List β}, mapOpt f l = some ys → ys = l.map h
  | [], _, e => (Option.some.inj e).symm
  | x :: xs, ys, e => by
    simp only [mapOpt, Option.bind_eq_some_iff] at e
    obtain ⟨y, hy, ys', hys, e⟩ := e
    rw [← Option.some.inj e, hf x y hy, mapOpt_eq_map hf hys, List.map_cons]

theorem mem_mapOpt {α β : Type} {f : α → Option β} {h : α → β} (hf : ∀ x y, f x = some y → y = h x)
    {l : List α} {ys : List β} (e : mapOpt f l = some ys) (y : β) : y ∈ ys ↔ ∃ x ∈ l, y = h x := by
  rw [mapOpt_eq_map hf e, List.mem_map]
  exact exists_congr fun x => and_congr_right fun _ => eq_comm

theorem mem_filterMapOpt {α β : Type} {f : α → Option (Option β)} {h : α → Option β}
    (hf : ∀ x y, f x = some y → y = h x) {l : List α} {ys : List β} (e : filterMapOpt f l = some ys) (y : β) :
    y ∈ ys ↔ ∃ x ∈ l, h x = some y := by
  rw [filterMapOpt_eq, Option.map_eq_some_iff] at e
  obtain ⟨zs, hzs, rfl⟩ := e
  rw [mapOpt_eq_map hf hzs, List.filterMap_map, List.mem_filterMap]
  rfl

/-- the left, inside and right sums over the dictionaries of `js` whose bit is set in `mask` -/
def sums (dictN idx : Nat) (dv : List Int) (mask : Nat) (js : List Nat) (c : Nat) : Int :=
  ((js.filter fun j => (mask >>> j) % 2 = 1).map fun j => dv.getD (3 * dictN * j + 3 * idx + c) 0).sum

theorem sums_cons_pos {dictN idx : Nat} {dv : List Int} {mask j : Nat} (h : (mask >>> j) % 2 = 1) (js : List Nat) (c : Nat) :
    sums dictN idx dv mask (j :: js) c = dv.getD (3 * dictN * j + 3 * idx + c) 0 + sums dictN idx dv mask js c := by
  unfold sums
  rw [List.filter_cons_of_pos (p := fun j => decide ((mask >>> j) % 2 = 1)) (decide_eq_true h)]
  rfl

theorem sums_cons_neg {dictN idx : Nat} {dv : List Int} {mask j : Nat} (h : ¬ (mask >>> j) % 2 = 1) (js : List Nat) (c : Nat) :
    sums dictN idx dv mask (j :: js) c = sums dictN idx dv mask js c := by
  unfold sums
  rw [List.filter_cons_of_neg (p := fun j => decide ((mask >>> j) % 2 = 1)) (by rw [decide_eq_true_eq]; exact h)]

theorem expDictSum_totals (dictN idx : Nat) (dv : List Int) (mask : Nat) : ∀ (js : List Nat) (acc r : Int × Int × Int),
    expDictSum dictN idx dv mask js acc = some r →
    r = (acc.1 + sums dictN idx dv mask js 0, acc.2.1 + sums dictN idx dv mask js 1,
         acc.2.2 + sums dictN idx dv mask js 2) := by
  intro js
  induction js with
  | nil => intro acc r h; cases h; simp [sums]
  | cons j js ih =>
    intro acc r h
    simp only [expDictSum] at h
    by_cases hbit : (mask >>> j) % 2 = 1
    · rw [if_pos hbit] at h
      split at h
      · next l i rr h1 h2 h3 =>
        rw [ih _ _ h, sums_cons_pos hbit, sums_cons_pos hbit, sums_cons_pos hbit]
        simp only [List.getD_eq_getElem?_getD, Nat.add_zero, h1, h2, h3, Option.getD_some, Int.add_assoc]
      · cases h
    · rw [if_neg hbit] at h
      rw [ih _ _ h, sums_cons_neg hbit, sums_cons_neg hbit, sums_cons_neg hbit]

theorem expectedModel_parts {k : AbsKytea} {m : WModel} (h : expectedModel k = some m) :
    mapOpt (expCharNgram k) (sortByKey k.charNgrams) = some m.charNgrams ∧
    filterMapOpt (expTypeNgram k) (sortByKey k.typeNgrams) = some m.typeNgrams ∧
    mapOpt (expWord k) (sortByKey k.words) = some m.dict ∧
    m.charW = k.charW ∧ m.typeW = k.typeW ∧ m.bias = k.bias ∧ m.tagModels = [] := by
  simp only [expectedModel, Option.bind_eq_some_iff] at h
  obtain ⟨cn, hcn, tn, htn, dw, hdw, hm⟩ := h
  cases hm
  exact ⟨hcn, htn, hdw, rfl, rfl, rfl, rfl⟩

theorem expWeights_some {w len : Nat} {v ws : List Int} (h : expWeights w len v = some ws) :
    ws = v.take (2 * w + 1 - len) := by
  simp only [expWeights] at h
  split at h
  · cases h
  · split at h
    · cases h
    · cases h; rfl

theorem expCharNgram_some {k : AbsKytea} {e : List Char × List Int} {y : NgramData Char} (h : expCharNgram k e = some y) :
    y = ⟨e.1, e.2.take (2 * k.charW + 1 - e.1.length)⟩ := by
  simp only [expCharNgram, Option.map_eq_some_iff] at h
  obtain ⟨ws, hws, rfl⟩ := h
  rw [expWeights_some hws]

theorem expTypeNgram_some {k : AbsKytea} {e : List Char × List Int} {y : Option (NgramData Nat)}
    (h : expTypeNgram k e = some y) :
    y = if Char.ofNat 4 ∈ e.1 then none else some ⟨e.1.map letterCode, e.2.take (2 * k.typeW + 1 - e.1.length)⟩ := by
  simp only [expTypeNgram] at h
  by_cases h4 : Char.ofNat 4 ∈ e.1
  · rw [if_pos h4] at h ⊢
    exact (Option.some.inj h).symm
  · rw [if_neg h4, Option.map_eq_some_iff] at h
    obtain ⟨ws, hws, rfl⟩ := h
    rw [if_neg h4, expWeights_some hws]

theorem expWord_some {k : AbsKytea} {e : List Char × Nat} {y : DictWord} (h : expWord k e = some y) :
    y = ⟨e.1, wordWeights e.1.length (dictTotals k e.2 (min e.1.length k.dictN - 1)), []⟩ := by
  simp only [expWord] at h
  split at h
  · cases h
  · rw [Option.map_eq_some_iff] at h
    obtain ⟨r, hr, rfl⟩ := h
    rw [expDictSum_totals _ _ _ _ _ _ _ hr]
    simp only [dictTotals, sums, Int.zero_add, Nat.add_zero]

end V.C17L
