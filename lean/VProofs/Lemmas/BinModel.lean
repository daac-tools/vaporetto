import VProofs.Lemmas.BinUtf8
/-!
# Containers, the structs of the model and the model itself are strict and safe decoders; the readers of a model file
-/
namespace V.BinL
open V V.Bin

theorem encVarint_length_lt_bound (n : Nat) : (encVarint n).length < bound := by
  have := encVarint_length_le n
  simp only [bound]; omega

/-- A `u64` length `len v`, then a payload `body v` of at least that many bytes, read by `k (len v)`: strict if `k (len v)`
gives the value back from the payload and rejects its proper prefixes. -/
theorem Strict.lenPrefix {α : Type} {len : α → Nat} {body : α → Bytes} {dec : Dec α} {k : Nat → Dec α} {P : α → Prop}
    (hok : ∀ bs n r, decVarint true bs = .ok (n, r) → dec bs = k n r)
    (herr : ∀ bs e, decVarint true bs = .err e → ∃ e', dec bs = .err e')
    (hle : ∀ v, len v ≤ (body v).length)
    (hrt : ∀ v r, P v → (body v).length < bound → k (len v) (body v ++ r) = .ok (v, r))
    (hpref : ∀ v q, P v → (body v).length < bound → q <+: body v → q ≠ body v → ∃ e, k (len v) q = .err e) :
    Strict (fun v => encVarint (len v) ++ body v) dec P := by
  have hv := strict_varint64
  have hn : ∀ v, (encVarint (len v) ++ body v).length < bound → len v < 2 ^ 64 ∧ (body v).length < bound := by
    intro v hlen
    have := hle v
    simp only [List.length_append, bound] at hlen ⊢
    omega
  constructor
  · intro v r hP hlen
    rw [List.append_assoc, hok _ _ _ (hv.rt _ _ (hn v hlen).1 (encVarint_length_lt_bound _))]
    exact hrt v r hP (hn v hlen).2
  · intro v p hP hlen hp hne
    rcases proper_prefix_append hp hne with ⟨h1, h2⟩ | ⟨q, rfl, hq, hq'⟩
    · obtain ⟨e, he⟩ := hv.pref _ p (hn v hlen).1 (encVarint_length_lt_bound _) h1 h2
      exact herr p e he
    · rw [hok _ _ _ (hv.rt _ q (hn v hlen).1 (encVarint_length_lt_bound _))]
      exact hpref v q hP (hn v hlen).2 hq hq'
  · intro v
    have := encVarint_nonempty (len v)
    simp only [List.length_append]; omega

theorem Strict.vec {α : Type} {e : α → Bytes} {d : Dec α} {P : α → Prop} (h : Strict e d P) :
    Strict (encVec e) (decVec d) (fun xs => ∀ x ∈ xs, P x) := by
  refine Strict.lenPrefix (len := List.length) (body := encList e)
    (k := fun n r => if r.length < n then derr else decN d n r)
    (fun bs n r hd => by simp only [decVec, hd]) (fun bs e hd => ⟨.decode, by simp only [decVec, hd, derr]⟩)
    (length_le_encList h.nonempty) ?_ ?_
  · intro xs r hP hlen
    have := length_le_encList h.nonempty xs
    rw [if_neg (by rw [List.length_append]; omega)]
    exact decN_rt h xs r hP hlen
  · intro xs q hP hlen hq hne
    split
    · exact ⟨_, rfl⟩
    · exact decN_pref h xs q hP hlen hq hne

theorem SafeDec.vec {α : Type} {d : Dec α} (h : SafeDec d) : SafeDec (decVec d) := by
  intro bs
  simp only [decVec]
  split
  · split
    · trivial
    · exact SafeDec.decN h _ _
  · trivial

theorem strict_string : Strict encString decString (fun _ => True) := by
  refine Strict.lenPrefix (len := fun s => (utf8Encode s).length) (body := utf8Encode)
    (k := fun n r => match takeN n r with
      | .ok (x, r') => match utf8Decode? x with
        | some s => .ok (s, r')
        | none => derr
      | _ => derr)
    (fun bs n r hd => by simp only [decString, hd]; rfl) (fun bs e hd => ⟨.decode, by simp only [decString, hd, derr]⟩)
    (fun _ => Nat.le_refl _) ?_ ?_
  · intro s r _ _
    simp only [takeN_append rfl, utf8Decode_encode]
  · intro s q _ _ hq hne
    simp only [takeN_short (prefix_length_lt hq hne)]
    exact ⟨_, rfl⟩

theorem safe_string : SafeDec decString := by
  intro bs
  simp only [decString]
  repeat' split
  all_goals trivial

/-! `Ok…`: every number of the value is in the range of its wire type (the `P` of `Strict` for each struct). -/

def OkNgramC (d : NgramData Char) : Prop := ∀ w ∈ d.weights, OkI32 w
def OkNgramT (d : NgramData Nat) : Prop := (∀ c ∈ d.ngram, c < 256) ∧ ∀ w ∈ d.weights, OkI32 w
def OkWord (d : DictWord) : Prop := ∀ w ∈ d.weights, OkI32 w
def OkTagWeight (w : TagWeight) : Prop := w.rel < 256 ∧ ∀ x ∈ w.weights, OkI32 x
def OkTagNgramC (d : TagNgramData Char) : Prop := ∀ w ∈ d.weights, OkTagWeight w
def OkTagNgramT (d : TagNgramData Nat) : Prop := (∀ c ∈ d.ngram, c < 256) ∧ ∀ w ∈ d.weights, OkTagWeight w
def OkTagModel (t : TagModel) : Prop :=
  (∀ g ∈ t.charNgrams, OkTagNgramC g) ∧ (∀ g ∈ t.typeNgrams, OkTagNgramT g) ∧ ∀ w ∈ t.bias, OkI32 w
def OkModel (m : WModel) : Prop :=
  (∀ g ∈ m.charNgrams, OkNgramC g) ∧ (∀ g ∈ m.typeNgrams, OkNgramT g) ∧ (∀ d ∈ m.dict, OkWord d) ∧ OkI32 m.bias ∧
    m.charW < 256 ∧ m.typeW < 256 ∧ ∀ t ∈ m.tagModels, OkTagModel t

theorem strict_ngramC : Strict encNgramC decNgramC OkNgramC :=
  (strict_string.pair strict_i32.vec).conv _ (fun d => (d.ngram, d.weights)) (fun _ => rfl) (fun _ => rfl)
    (fun _ h => ⟨trivial, h⟩)

theorem strict_ngramT : Strict encNgramT decNgramT OkNgramT :=
  (strict_u8.vec.pair strict_i32.vec).conv _ (fun d => (d.ngram, d.weights)) (fun _ => rfl) (fun _ => rfl)
    (fun _ h => h)

theorem strict_word : Strict encWord decWord OkWord :=
  (strict_string.pair (strict_i32.vec.pair strict_string)).conv _ (fun d => (d.word, d.weights, d.comment))
    (fun _ => rfl) (fun _ => by simp [encWord, encPair]) (fun _ h => ⟨trivial, h, trivial⟩)

theorem strict_tagWeight : Strict encTagWeight decTagWeight OkTagWeight :=
  (strict_u8.pair strict_i32.vec).conv _ (fun d => (d.rel, d.weights)) (fun _ => rfl) (fun _ => rfl)
    (fun _ h => h)

theorem strict_tagNgramC : Strict encTagNgramC decTagNgramC OkTagNgramC :=
  (strict_string.pair strict_tagWeight.vec).conv _ (fun d => (d.ngram, d.weights)) (fun _ => rfl) (fun _ => rfl)
    (fun _ h => ⟨trivial, h⟩)

theorem strict_tagNgramT : Strict encTagNgramT decTagNgramT OkTagNgramT :=
  (strict_u8.vec.pair strict_tagWeight.vec).conv _ (fun d => (d.ngram, d.weights)) (fun _ => rfl) (fun _ => rfl)
    (fun _ h => h)

theorem strict_tagModel : Strict encTagModel decTagModel OkTagModel :=
  (strict_string.pair (strict_string.vec.vec.pair (strict_tagNgramC.vec.pair
      (strict_tagNgramT.vec.pair strict_i32.vec)))).conv _
    (fun t => (t.token, t.tags, t.charNgrams, t.typeNgrams, t.bias))
    (fun _ => rfl) (fun _ => by simp [encTagModel, encPair])
    (fun _ h => ⟨trivial, fun _ _ _ _ => trivial, h.1, h.2.1, h.2.2⟩)

theorem strict_modelData : Strict encModelData decModelData OkModel :=
  (strict_ngramC.vec.pair (strict_ngramT.vec.pair (strict_word.vec.pair (strict_i32.pair
      (strict_u8.pair (strict_u8.pair strict_tagModel.vec)))))).conv _
    (fun m => (m.charNgrams, m.typeNgrams, m.dict, m.bias, m.charW, m.typeW, m.tagModels))
    (fun _ => rfl) (fun _ => by simp [encModelData, encPair])
    (fun _ h => h)

theorem safe_modelData : SafeDec decModelData := by
  have hw : SafeDec decTagWeight := (safe_u8.pair safe_i32.vec).map _
  have hc : SafeDec decTagNgramC := (safe_string.pair hw.vec).map _
  have ht : SafeDec decTagNgramT := (safe_u8.vec.pair hw.vec).map _
  have htm : SafeDec decTagModel :=
    (safe_string.pair (safe_string.vec.vec.pair (hc.vec.pair (ht.vec.pair safe_i32.vec)))).map _
  have h1 : SafeDec decNgramC := (safe_string.pair safe_i32.vec).map _
  have h2 : SafeDec decNgramT := (safe_u8.vec.pair safe_i32.vec).map _
  have h3 : SafeDec decWord := (safe_string.pair (safe_i32.vec.pair safe_string)).map _
  exact (h1.vec.pair (h2.vec.pair (h3.vec.pair (safe_i32.pair (safe_u8.pair (safe_u8.pair htm.vec)))))).map _

theorem okModel_of_encodable {m : WModel} (h : Encodable m) : OkModel m := by
  have i32 := h.i32
  have codes := h.codes
  have rels := h.rels
  simp only [List.mem_flatMap, List.mem_append, List.mem_map] at i32 codes rels
  refine ⟨fun g hg w hw => i32 w (.inl ⟨g, hg, hw⟩),
    fun g hg => ⟨fun c hc => codes c (.inl ⟨g, hg, hc⟩), fun w hw => i32 w (.inr (.inl ⟨g, hg, hw⟩))⟩,
    fun g hg w hw => i32 w (.inr (.inr (.inl ⟨g, hg, hw⟩))), h.bias, h.charW, h.typeW, fun t ht => ⟨?_, ?_, ?_⟩⟩
  · exact fun g hg tw htw => ⟨rels _ ⟨t, ht, .inl ⟨g, hg, tw, htw, rfl⟩⟩,
      fun x hx => i32 x (.inr (.inr (.inr ⟨t, ht, .inl (.inr ⟨g, hg, tw, htw, hx⟩)⟩)))⟩
  · exact fun g hg => ⟨fun c hc => codes c (.inr ⟨t, ht, g, hg, hc⟩), fun tw htw =>
      ⟨rels _ ⟨t, ht, .inr ⟨g, hg, tw, htw, rfl⟩⟩,
        fun x hx => i32 x (.inr (.inr (.inr ⟨t, ht, .inr ⟨g, hg, tw, htw, hx⟩⟩)))⟩⟩
  · exact fun w hw => i32 w (.inr (.inr (.inr ⟨t, ht, .inl (.inl hw)⟩)))

theorem magic_length : magic.length = 25 := rfl

theorem decModelData_rt {m : WModel} (h : Encodable m) (r : Bytes) :
    decModelData (encModelData m ++ r) = .ok (m, r) :=
  strict_modelData.rt m r (okModel_of_encodable h) h.size

theorem decModelData_pref {m : WModel} (h : Encodable m) {p : Bytes} (hp : p <+: encModelData m)
    (hne : p ≠ encModelData m) : ∃ e, decModelData p = .err e :=
  strict_modelData.pref m p (okModel_of_encodable h) h.size hp hne

theorem readers_magic_ok {x : Bytes} {m : WModel} {r : Bytes} (h : decModelData x = .ok (m, r)) :
    readSlice (magic ++ x) = .ok (m, r) ∧ Bin.read (magic ++ x) = .ok m := by
  simp [readSlice, Bin.read, h]

theorem readers_magic_err {x : Bytes} {e : Err} (h : decModelData x = .err e) :
    readSlice (magic ++ x) = .err .decode ∧ Bin.read (magic ++ x) = .err .decode := by
  simp [readSlice, Bin.read, h]

theorem readSlice_bad_header {bs : Bytes} (h : bs.take magic.length ≠ magic) :
    readSlice bs = .err .invalidModel := by
  unfold readSlice; rw [if_pos h]

theorem read_bad_header {bs : Bytes} (hl : magic.length ≤ bs.length) (h : bs.take magic.length ≠ magic) :
    Bin.read bs = .err .invalidModel := by
  unfold Bin.read; rw [if_neg (by omega), if_pos h]

theorem read_short {bs : Bytes} (hl : bs.length < magic.length) : Bin.read bs = .err .io := by
  unfold Bin.read; rw [if_pos hl]

theorem take_ne_magic_of_short {bs : Bytes} (hl : bs.length < magic.length) : bs.take magic.length ≠ magic := by
  intro h
  have := congrArg List.length h
  simp only [List.length_take] at this
  omega

theorem readers_safe (bs : Bytes) : (readSlice bs).Safe ∧ (Bin.read bs).Safe := by
  have hs := (safe_modelData (bs.drop magic.length)).cases
  unfold readSlice Bin.read
  constructor
  · split
    · trivial
    · rcases hs with ⟨⟨m, r⟩, e⟩ | ⟨e, e⟩ <;> rw [e] <;> trivial
  · split
    · trivial
    · split
      · trivial
      · rcases hs with ⟨⟨m, r⟩, e⟩ | ⟨e, e⟩ <;> rw [e] <;> trivial

end V.BinL
