import VModel.Tantivy
/-!
# TkOffsets — byte offsets of character boundaries, `sliceBytes`, `boundaryPos`, `advanceAll`
-/
namespace V

/-- tokens tile the text: the first starts at byte 0, each starts where the previous one ended, each is non-empty, lies on
character boundaries of the ORIGINAL text and carries exactly that substring, positions count 0, 1, 2, …, and the last one
ends at the byte length of the text -/
def StreamChain (text : List Char) : List StreamToken → Nat → Nat → Prop
  | [], off, _ => off = utf8Len text
  | t :: r, off, pos =>
    t.offsetFrom = off ∧ off < t.offsetTo ∧ t.position = pos ∧ sliceBytes text off t.offsetTo = some t.text ∧
      StreamChain text r t.offsetTo (pos + 1)

namespace C16L

theorem charToStrFrom_length (p : Nat) (t : List Char) : (charToStrFrom p t).length = t.length + 1 := by
  induction t generalizing p with
  | nil => rfl
  | cons c cs ih => simp only [charToStrFrom, List.length_cons, ih]

theorem charToStrFrom_ge (p : Nat) (t : List Char) : ∀ x ∈ charToStrFrom p t, p ≤ x := by
  induction t generalizing p with
  | nil => intro x hx; simp only [charToStrFrom, List.mem_singleton] at hx; omega
  | cons c cs ih =>
    intro x hx
    simp only [charToStrFrom, List.mem_cons] at hx
    rcases hx with hx | hx
    · omega
    · have := ih _ x hx; omega

theorem charToStrFrom_pairwise (p : Nat) (t : List Char) : (charToStrFrom p t).Pairwise (· < ·) := by
  induction t generalizing p with
  | nil => simp [charToStrFrom]
  | cons c cs ih =>
    simp only [charToStrFrom]
    refine List.pairwise_cons.mpr ⟨fun x hx => ?_, ih _⟩
    have := charToStrFrom_ge _ cs x hx
    have := Char.utf8Size_pos c
    omega

theorem charToStrFrom_last (p : Nat) (t : List Char) : (charToStrFrom p t)[t.length]? = some (p + utf8Len t) := by
  induction t generalizing p with
  | nil => simp [charToStrFrom, utf8Len]
  | cons c cs ih =>
    simp only [charToStrFrom, List.length_cons, List.getElem?_cons_succ, ih]
    simp only [utf8Len, List.map_cons, List.sum_cons, Nat.add_assoc]

theorem charToStr_length (t : List Char) : (charToStr t).length = t.length + 1 := charToStrFrom_length 0 t

theorem charToStr_zero (t : List Char) : (charToStr t)[0]? = some 0 := by
  cases t <;> rfl

theorem charToStr_last (t : List Char) : (charToStr t)[t.length]? = some (utf8Len t) := by
  have := charToStrFrom_last 0 t
  rwa [Nat.zero_add] at this

theorem charToStr_mono (t : List Char) {i j x y : Nat} (hi : (charToStr t)[i]? = some x)
    (hj : (charToStr t)[j]? = some y) (hij : i < j) : x < y := by
  obtain ⟨hi', rfl⟩ := List.getElem?_eq_some_iff.mp hi
  obtain ⟨hj', rfl⟩ := List.getElem?_eq_some_iff.mp hj
  exact List.pairwise_iff_getElem.mp (charToStrFrom_pairwise 0 t) i j hi' hj' hij

theorem idxOf?_of_mem {x : Nat} : ∀ {l : List Nat}, x ∈ l → ∃ i, l.idxOf? x = some i ∧ l[i]? = some x
  | [], h => by simp at h
  | a :: l, h => by
    rw [List.idxOf?_cons]
    by_cases hax : a = x
    · subst hax
      exact ⟨0, by simp, by simp⟩
    · have hm : x ∈ l := by
        rcases List.mem_cons.mp h with h | h
        · exact absurd h.symm hax
        · exact h
      obtain ⟨i, h1, h2⟩ := idxOf?_of_mem hm
      refine ⟨i + 1, ?_, by simpa using h2⟩
      rw [if_neg (by simpa using hax), h1]
      rfl

theorem sliceBytes_some (text : List Char) {lo hi : Nat} (hlo : lo ∈ charToStr text) (hhi : hi ∈ charToStr text)
    (hlt : lo < hi) : ∃ t, sliceBytes text lo hi = some t := by
  obtain ⟨a, ha, ha'⟩ := idxOf?_of_mem hlo
  obtain ⟨b, hb, hb'⟩ := idxOf?_of_mem hhi
  have hab : a ≤ b := by
    rcases Nat.lt_or_ge b a with h | h
    · have := charToStr_mono text hb' ha' h; omega
    · exact h
  refine ⟨(text.drop a).take (b - a), ?_⟩
  unfold sliceBytes strToChar?
  simp only [ha, hb, if_pos hab]

theorem advanceAll_spec (text : List Char) : ∀ (offs : List Nat) (frm pos : Nat),
    frm ∈ charToStr text → (∀ o ∈ offs, o ∈ charToStr text) → (frm :: offs).Pairwise (· < ·) →
    (frm :: offs).getLast? = some (utf8Len text) →
    ∃ toks, advanceAll text offs frm pos = .ok toks ∧ StreamChain text toks frm pos ∧
      toks.map (·.offsetFrom) = (frm :: offs).dropLast ∧ toks.length = offs.length
  | [], frm, pos, _, _, _, hl => by
    refine ⟨[], rfl, ?_, rfl, rfl⟩
    simpa [StreamChain] using hl
  | to :: r, frm, pos, hf, ho, hp, hl => by
    have hp' := List.pairwise_cons.mp hp
    have hlt : frm < to := hp'.1 to List.mem_cons_self
    obtain ⟨t, ht⟩ := sliceBytes_some text hf (ho to List.mem_cons_self) hlt
    obtain ⟨toks, h1, h2, h3, h4⟩ := advanceAll_spec text r to (pos + 1) (ho to List.mem_cons_self)
      (fun o h => ho o (List.mem_cons_of_mem _ h)) hp'.2 (by rwa [List.getLast?_cons_cons] at hl)
    refine ⟨⟨frm, to, pos, t⟩ :: toks, ?_, ⟨rfl, hlt, rfl, ht, h2⟩, ?_, ?_⟩
    · simp only [advanceAll, ht, h1]
    · rw [List.map_cons, h3, List.dropLast_cons_cons]
    · rw [List.length_cons, h4, List.length_cons]

/-- the break offsets, by boundary index -/
def breaks (text : List Char) (bounds : List B) : List Nat :=
  (List.range bounds.length).filterMap fun i =>
    if bounds[i]? = some B.W then (charToStr text)[i + 1]? else none

theorem zipFilter_eq : ∀ (xs : List Nat) (bs : List B),
    ((xs.zip bs).filterMap fun (o, b) => if b = B.W then some o else none) =
      (List.range bs.length).filterMap fun i => if bs[i]? = some B.W then xs[i]? else none
  | [], bs => by
    rw [List.zip_nil_left, List.filterMap_nil]
    symm
    apply List.filterMap_eq_nil_iff.mpr
    intro i _
    simp
  | x :: xs, [] => by simp
  | x :: xs, b :: bs => by
    rw [List.zip_cons_cons, List.filterMap_cons, List.length_cons, List.range_succ_eq_map, List.filterMap_cons,
      List.filterMap_map, zipFilter_eq xs bs]
    have : ((fun i => if (b :: bs)[i]? = some B.W then (x :: xs)[i]? else none) ∘ Nat.succ) =
        fun i => if bs[i]? = some B.W then xs[i]? else none := by
      funext i
      simp only [Function.comp, Nat.succ_eq_add_one, List.getElem?_cons_succ]
    rw [this]
    by_cases hb : b = B.W
    · simp [hb]
    · simp [hb]

theorem boundaryPos_eq (text : List Char) (bounds : List B) :
    boundaryPos text bounds = breaks text bounds ++ [utf8Len text] := by
  unfold boundaryPos breaks
  simp only [zipFilter_eq, List.getElem?_drop, Nat.add_comm 1]

theorem breaks_mem (text : List Char) (bounds : List B) {x : Nat} (hx : x ∈ breaks text bounds) :
    ∃ i, i < bounds.length ∧ (charToStr text)[i + 1]? = some x := by
  obtain ⟨i, hi, he⟩ := List.mem_filterMap.mp hx
  refine ⟨i, List.mem_range.mp hi, ?_⟩
  split at he
  · exact he
  · exact absurd he (by simp)

theorem breaks_pairwise (text : List Char) (bounds : List B) : (breaks text bounds).Pairwise (· < ·) := by
  refine List.Pairwise.filterMap _ (fun i j hij x hx y hy => ?_) List.pairwise_lt_range
  split at hx
  · split at hy
    · exact charToStr_mono text hx hy (by omega)
    · exact absurd hy (by simp)
  · exact absurd hx (by simp)

theorem advance_boundaryPos (text : List Char) (hne : text ≠ []) (bounds : List B)
    (hb : bounds.length + 1 ≤ text.length) :
    ∃ toks, advanceAll text (boundaryPos text bounds) 0 0 = .ok toks ∧ toks ≠ [] ∧ StreamChain text toks 0 0 ∧
      (toks.drop 1).map (·.offsetFrom) = breaks text bounds := by
  have hn : 0 < text.length := List.length_pos_iff.mpr hne
  have h0 := charToStr_zero text
  have hu := charToStr_last text
  have hu0 : 0 < utf8Len text := charToStr_mono text h0 hu hn
  have hbr : ∀ x ∈ breaks text bounds, x ∈ charToStr text ∧ 0 < x ∧ x < utf8Len text := by
    intro x hx
    obtain ⟨i, hi, he⟩ := breaks_mem text bounds hx
    exact ⟨List.mem_of_getElem? he, charToStr_mono text h0 he (by omega), charToStr_mono text he hu (by omega)⟩
  obtain ⟨toks, h1, h2, h3, h4⟩ := advanceAll_spec text (boundaryPos text bounds) 0 0 (List.mem_of_getElem? h0)
    (by
      intro o ho
      rw [boundaryPos_eq, List.mem_append, List.mem_singleton] at ho
      rcases ho with ho | ho
      · exact (hbr o ho).1
      · rw [ho]; exact List.mem_of_getElem? hu)
    (by
      rw [boundaryPos_eq]
      refine List.pairwise_cons.mpr ⟨fun x hx => ?_, List.pairwise_append.mpr ⟨breaks_pairwise text bounds, by simp, ?_⟩⟩
      · rw [List.mem_append, List.mem_singleton] at hx
        rcases hx with hx | hx
        · exact (hbr x hx).2.1
        · rw [hx]; exact hu0
      · intro a ha b hb
        rw [List.mem_singleton] at hb
        rw [hb]; exact (hbr a ha).2.2)
    (by rw [boundaryPos_eq, ← List.cons_append, List.getLast?_concat])
  refine ⟨toks, h1, ?_, h2, ?_⟩
  · intro he
    rw [he, boundaryPos_eq] at h4
    simp at h4
  · rw [boundaryPos_eq, ← List.cons_append, List.dropLast_concat] at h3
    rw [List.map_drop, h3, List.drop_one, List.tail_cons]

end C16L
end V
