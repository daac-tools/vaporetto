import VModel.Bincode
import VProofs.Lemmas.Base
/-!
# Strict decoders (C07)

`Strict enc dec P`: for every value `v` with `P v` whose encoding is shorter than `2^64` bytes
* `dec (enc v ++ r) = .ok (v, r)` (round trip, the rest is returned untouched),
* every proper prefix of `enc v` is rejected with an error,
and every encoding occupies at least one byte.  The notion is closed under sequencing (`Strict.pair`),
re-packing into a struct (`Strict.conv`) and length-prefixed repetition (`Strict.vec`, in `BinModel`).
-/
namespace V.BinL
open V V.Bin

/-- the size bound under which every length prefix fits the u64 varint -/
abbrev bound : Nat := 2 ^ 64

structure Strict {α : Type} (enc : α → Bytes) (dec : Dec α) (P : α → Prop) : Prop where
  rt : ∀ v r, P v → (enc v).length < bound → dec (enc v ++ r) = .ok (v, r)
  pref : ∀ v p, P v → (enc v).length < bound → p <+: enc v → p ≠ enc v → ∃ e, dec p = .err e
  nonempty : ∀ v, 1 ≤ (enc v).length

/-- the decoder returns a value or an error on every input -/
def SafeDec {α : Type} (dec : Dec α) : Prop := ∀ bs, (dec bs).Safe

theorem prefix_append_cases {α : Type} {p a b : List α} (h : p <+: a ++ b) :
    (p <+: a ∧ p ≠ a) ∨ ∃ q, p = a ++ q ∧ q <+: b := by
  rcases List.prefix_or_prefix_of_prefix h (List.prefix_append a b) with h1 | h1
  · by_cases hp : p = a
    · right; exact ⟨[], by simp [hp], List.nil_prefix⟩
    · left; exact ⟨h1, hp⟩
  · obtain ⟨q, rfl⟩ := h1
    right; exact ⟨q, rfl, (List.prefix_append_right_inj a).1 h⟩

theorem proper_prefix_append {α : Type} {p a b : List α} (h : p <+: a ++ b) (hne : p ≠ a ++ b) :
    (p <+: a ∧ p ≠ a) ∨ ∃ q, p = a ++ q ∧ q <+: b ∧ q ≠ b := by
  rcases prefix_append_cases h with h1 | ⟨q, rfl, hq⟩
  · exact .inl h1
  · exact .inr ⟨q, rfl, hq, fun e => hne (e ▸ rfl)⟩

theorem prefix_length_lt {α : Type} {p a : List α} (h : p <+: a) (hne : p ≠ a) : p.length < a.length := by
  rcases Nat.lt_or_ge p.length a.length with h1 | h1
  · exact h1
  · exact absurd (List.IsPrefix.eq_of_length_le h h1) hne

theorem cons_prefix_cases {α : Type} {b : α} {x p : List α} (hp : p <+: b :: x) (hne : p ≠ b :: x) :
    p = [] ∨ ∃ q, p = b :: q ∧ q <+: x ∧ q ≠ x := by
  cases p with
  | nil => left; rfl
  | cons c q =>
    right
    rw [List.cons_prefix_cons] at hp
    obtain ⟨rfl, hq⟩ := hp
    exact ⟨q, rfl, hq, fun h => hne (h ▸ rfl)⟩

/-- the encoder that `decPair da db` reads back -/
def encPair {α β : Type} (ea : α → Bytes) (eb : β → Bytes) (x : α × β) : Bytes := ea x.1 ++ eb x.2

theorem Strict.pair {α β : Type} {ea : α → Bytes} {eb : β → Bytes} {da : Dec α} {db : Dec β}
    {P : α → Prop} {Q : β → Prop} (ha : Strict ea da P) (hb : Strict eb db Q) :
    Strict (encPair ea eb) (decPair da db) (fun x => P x.1 ∧ Q x.2) := by
  constructor
  · rintro ⟨a, b⟩ r ⟨hp, hq⟩ hlen
    simp only [encPair, List.length_append] at hlen
    simp only [encPair, decPair, List.append_assoc]
    rw [ha.rt a _ hp (by omega)]; simp only []; rw [hb.rt b r hq (by omega)]
  · rintro ⟨a, b⟩ p ⟨hp, hq⟩ hlen hpre hne
    simp only [encPair, List.length_append] at hlen
    simp only [encPair] at hpre hne
    simp only [decPair]
    rcases proper_prefix_append hpre hne with ⟨h1, h2⟩ | ⟨q, rfl, hq2, hq3⟩
    · obtain ⟨e, he⟩ := ha.pref a p hp (by omega) h1 h2
      rw [he]; exact ⟨e, rfl⟩
    · rw [ha.rt a q hp (by omega)]; simp only []
      obtain ⟨e, he⟩ := hb.pref b q hq (by omega) hq2 hq3
      rw [he]; exact ⟨e, rfl⟩
  · rintro ⟨a, b⟩
    have := ha.nonempty a
    simp only [encPair, List.length_append]; omega

theorem Strict.conv {α β : Type} {enc : α → Bytes} {dec : Dec α} {P : α → Prop} (h : Strict enc dec P)
    {enc' : β → Bytes} {P' : β → Prop} (f : α → β) (g : β → α) (hfg : ∀ v, f (g v) = v)
    (henc : ∀ v, enc' v = enc (g v)) (hP : ∀ v, P' v → P (g v)) :
    Strict enc' (decMap f dec) P' := by
  constructor
  · intro v r hp hlen
    rw [henc] at hlen ⊢
    simp only [decMap]; rw [h.rt (g v) r (hP v hp) hlen]; simp only [hfg]
  · intro v p hp hlen hpre hne
    rw [henc] at hlen hpre hne
    obtain ⟨e, he⟩ := h.pref (g v) p (hP v hp) hlen hpre hne
    simp only [decMap]; rw [he]; exact ⟨e, rfl⟩
  · intro v; rw [henc]; exact h.nonempty (g v)

theorem Strict.weaken {α : Type} {enc enc' : α → Bytes} {dec : Dec α} {P P' : α → Prop} (h : Strict enc dec P)
    (henc : ∀ v, enc' v = enc v) (hP : ∀ v, P' v → P v) : Strict enc' dec P' := by
  cases (funext henc : enc' = enc)
  exact ⟨fun v r hp hl => h.rt v r (hP v hp) hl, fun v p hp hl => h.pref v p (hP v hp) hl, h.nonempty⟩

theorem encList_cons {α : Type} (e : α → Bytes) (x : α) (xs : List α) :
    encList e (x :: xs) = e x ++ encList e xs := by
  simp [encList]

theorem encList_nil {α : Type} (e : α → Bytes) : encList e ([] : List α) = [] := rfl

theorem length_le_encList {α : Type} {e : α → Bytes} (hne : ∀ v, 1 ≤ (e v).length) (xs : List α) :
    xs.length ≤ (encList e xs).length := by
  induction xs with
  | nil => simp
  | cons x xs ih =>
    have := hne x
    simp only [encList_cons, List.length_cons, List.length_append]; omega

theorem mem_length_le_encList {α : Type} (e : α → Bytes) {x : α} {xs : List α} (hx : x ∈ xs) :
    (e x).length ≤ (encList e xs).length := by
  induction xs with
  | nil => cases hx
  | cons y ys ih =>
    simp only [encList_cons, List.length_append]
    rcases List.mem_cons.1 hx with rfl | h
    · omega
    · have := ih h; omega

theorem decN_rt {α : Type} {e : α → Bytes} {d : Dec α} {P : α → Prop} (h : Strict e d P) :
    ∀ (xs : List α) r, (∀ x ∈ xs, P x) → (encList e xs).length < bound →
      decN d xs.length (encList e xs ++ r) = .ok (xs, r) := by
  intro xs; induction xs with
  | nil => intro r _ _; simp [decN, encList]
  | cons x xs ih =>
    intro r hP hlen
    simp only [encList_cons, List.length_append] at hlen
    simp only [List.length_cons, decN, encList_cons, List.append_assoc]
    rw [h.rt x _ (hP x (by simp)) (by omega)]; simp only []
    rw [ih r (fun y hy => hP y (by simp [hy])) (by omega)]

theorem decN_pref {α : Type} {e : α → Bytes} {d : Dec α} {P : α → Prop} (h : Strict e d P) :
    ∀ (xs : List α) p, (∀ x ∈ xs, P x) → (encList e xs).length < bound → p <+: encList e xs →
      p ≠ encList e xs → ∃ er, decN d xs.length p = .err er := by
  intro xs; induction xs with
  | nil => intro p _ _ hp hne; simp [encList] at hp hne; exact absurd hp hne
  | cons x xs ih =>
    intro p hP hlen hp hne
    simp only [encList_cons, List.length_append] at hlen
    simp only [encList_cons] at hp hne
    simp only [List.length_cons, decN]
    rcases proper_prefix_append hp hne with ⟨h1, h2⟩ | ⟨q, rfl, hq2, hq3⟩
    · obtain ⟨er, he⟩ := h.pref x p (hP x (by simp)) (by omega) h1 h2
      rw [he]; exact ⟨er, rfl⟩
    · rw [h.rt x q (hP x (by simp)) (by omega)]; simp only []
      obtain ⟨er, he⟩ := ih q (fun y hy => hP y (by simp [hy])) (by omega) hq2 hq3
      rw [he]; exact ⟨er, rfl⟩

theorem SafeDec.pair {α β : Type} {da : Dec α} {db : Dec β} (ha : SafeDec da) (hb : SafeDec db) :
    SafeDec (decPair da db) := by
  intro bs
  simp only [decPair]
  rcases (ha bs).cases with ⟨⟨a, r⟩, e⟩ | ⟨e, he⟩
  · rw [e]
    rcases (hb r).cases with ⟨⟨b, r'⟩, e'⟩ | ⟨e', he'⟩
    · simp only [e']; trivial
    · simp only [he']; trivial
  · rw [he]; trivial

theorem SafeDec.map {α β : Type} {d : Dec α} (f : α → β) (h : SafeDec d) : SafeDec (decMap f d) := by
  intro bs
  simp only [decMap]
  rcases (h bs).cases with ⟨⟨a, r⟩, e⟩ | ⟨e, he⟩
  · rw [e]; trivial
  · rw [he]; trivial

theorem SafeDec.decN {α : Type} {d : Dec α} (h : SafeDec d) : ∀ n, SafeDec (decN d n) := by
  intro n; induction n with
  | zero => intro bs; trivial
  | succ n ih =>
    intro bs
    simp only [Bin.decN]
    rcases (h bs).cases with ⟨⟨a, r⟩, e⟩ | ⟨e, he⟩
    · rw [e]
      rcases (ih r).cases with ⟨⟨b, r'⟩, e'⟩ | ⟨e', he'⟩
      · simp only [e']; trivial
      · simp only [he']; trivial
    · rw [he]; trivial

end V.BinL
