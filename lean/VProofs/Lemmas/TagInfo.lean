import VModel.Scorer
import VProofs.Lemmas.ScoreWeights
import VProofs.Lemmas.PermBase
/-!
# The tag part of `PositionalWeightWithTag`: `tagInfoAdd`, `PWT.add` under one-class evaluations (for C06)
-/
namespace V.C06L
open V.C01L V.PermL

abbrev TI := List ((Nat × Nat) × List Int)

/-- invariant of a tag-info map: distinct keys; the vectors of token id `t` have length `L t` -/
def TIok (L : Nat → Nat) (l : TI) : Prop :=
  (l.map Prod.fst).Nodup ∧ ∀ kv ∈ l, kv.2.length = L kv.1.1

/-- class `c` of the vector under `k` (0 when absent) -/
def tval (k : Nat × Nat) (c : Nat) (l : TI) : Int := getZ ((lookupK l k).getD []) (c : Int)

theorem foldl_ge {β : Type} (g : Nat → β → Nat) (hg : ∀ a x, a ≤ g a x) (l : List β) :
    ∀ a, a ≤ l.foldl g a ∧ ∀ x ∈ l, ∀ b, (∀ a', b ≤ g a' x) → b ≤ l.foldl g a := by
  induction l with
  | nil => intro a; exact ⟨Nat.le_refl _, fun x h => by cases h⟩
  | cons y r ih =>
    intro a
    obtain ⟨i1, i2⟩ := ih (g a y)
    refine ⟨Nat.le_trans (hg a y) i1, fun x hx b hb => ?_⟩
    rcases List.mem_cons.mp hx with h | h
    · exact Nat.le_trans (h ▸ hb a) i1
    · exact i2 x h b hb

theorem lookupK_tagInfoAdd (l : TI) (k' : Nat × Nat) (v : List Int) (k : Nat × Nat) :
    lookupK (tagInfoAdd l k' v) k
      = if k' = k then some (match lookupK l k with | some w => zipAdd w v | none => v) else lookupK l k := by
  induction l with
  | nil => simp only [tagInfoAdd, lookupK_cons, lookupK_nil]
  | cons e r ih =>
    obtain ⟨k'', w⟩ := e
    simp only [tagInfoAdd]
    by_cases h1 : k'' = k'
    · rw [if_pos h1]
      simp only [lookupK_cons]
      by_cases h2 : k' = k
      · rw [if_pos h2, if_pos (h1.trans h2), if_pos (h1.trans h2)]
      · rw [if_neg h2, if_neg (fun e => h2 (h1.symm.trans e)), if_neg (fun e => h2 (h1.symm.trans e))]
    · rw [if_neg h1]
      simp only [lookupK_cons]
      by_cases h3 : k'' = k
      · rw [if_pos h3, if_pos h3, if_neg (fun e => h1 (h3.trans e.symm))]
      · rw [if_neg h3, if_neg h3, ih]

theorem tagInfoAdd_keys (l : TI) (k : Nat × Nat) (v : List Int) :
    (tagInfoAdd l k v).map Prod.fst = if k ∈ l.map Prod.fst then l.map Prod.fst else l.map Prod.fst ++ [k] := by
  induction l with
  | nil => simp [tagInfoAdd]
  | cons e r ih =>
    obtain ⟨k', w⟩ := e
    simp only [tagInfoAdd]
    by_cases h : k' = k
    · subst h
      simp
    · rw [if_neg h]
      simp only [List.map_cons, ih, List.mem_cons]
      have hk : ¬ k = k' := fun e => h e.symm
      by_cases hm : k ∈ r.map Prod.fst
      · simp [hm]
      · simp [hm, hk]

theorem TIok_add (L : Nat → Nat) (l : TI) (k : Nat × Nat) (v : List Int) (hl : TIok L l) (hv : v.length = L k.1) :
    TIok L (tagInfoAdd l k v) := by
  refine ⟨?_, ?_⟩
  · rw [tagInfoAdd_keys]
    split
    · exact hl.1
    · rename_i hm
      rw [List.nodup_append]
      refine ⟨hl.1, by simp, ?_⟩
      intro a ha b hb
      simp only [List.mem_singleton] at hb
      subst hb
      intro e; subst e; exact hm ha
  · have hl2 := hl.2
    clear hl
    induction l with
    | nil =>
      intro kv hkv
      simp only [tagInfoAdd, List.mem_singleton] at hkv
      subst hkv; exact hv
    | cons e r ih =>
      obtain ⟨k', w⟩ := e
      intro kv hkv
      simp only [tagInfoAdd] at hkv
      by_cases h : k' = k
      · rw [if_pos h] at hkv
        rcases List.mem_cons.mp hkv with e | e
        · subst e
          simp only [zipAdd_length]
          exact hl2 (k', w) List.mem_cons_self
        · exact hl2 kv (List.mem_cons_of_mem _ e)
      · rw [if_neg h] at hkv
        rcases List.mem_cons.mp hkv with e | e
        · subst e; exact hl2 (k', w) List.mem_cons_self
        · exact ih (fun x hx => hl2 x (List.mem_cons_of_mem _ hx)) kv e

theorem getZ_zipAdd (w v : List Int) (h : w.length = v.length) (c : Nat) :
    getZ (zipAdd w v) (c : Int) = getZ w (c : Int) + getZ v (c : Int) := by
  by_cases hc : c < w.length
  · rw [getZ_nat, getZ_nat, getZ_nat, zipAdd_getD w v c hc]
  · rw [getZ_ge _ _ (by rw [zipAdd_length]; omega), getZ_ge w _ (by omega), getZ_ge v _ (by omega)]; rfl

theorem tval_none (k : Nat × Nat) (c : Nat) (l : TI) (h : lookupK l k = none) : tval k c l = 0 := by
  unfold tval; rw [h]; exact getZ_nil _

theorem fold_add (L : Nat → Nat) (k : Nat × Nat) (c : Nat) (b : TI) :
    ∀ (a : TI), TIok L a → TIok L b →
      TIok L (b.foldl (fun acc kv => tagInfoAdd acc kv.1 kv.2) a) ∧
      tval k c (b.foldl (fun acc kv => tagInfoAdd acc kv.1 kv.2) a) = tval k c a + tval k c b := by
  induction b with
  | nil =>
    intro a ha _
    refine ⟨ha, ?_⟩
    simp only [List.foldl_nil]
    rw [tval_none k c [] rfl]; omega
  | cons e b ih =>
    obtain ⟨k', v⟩ := e
    intro a ha hb
    have hv : v.length = L k'.1 := hb.2 (k', v) List.mem_cons_self
    have hb' : TIok L b := by
      refine ⟨?_, fun x hx => hb.2 x (List.mem_cons_of_mem _ hx)⟩
      have := hb.1
      simp only [List.map_cons, List.nodup_cons] at this
      exact this.2
    have hk' : k' ∉ b.map Prod.fst := by
      have := hb.1
      simp only [List.map_cons, List.nodup_cons] at this
      exact this.1
    have ha' := TIok_add L a k' v ha hv
    obtain ⟨i1, i2⟩ := ih (tagInfoAdd a k' v) ha' hb'
    refine ⟨i1, ?_⟩
    simp only [List.foldl_cons]
    rw [i2]
    unfold tval
    rw [lookupK_tagInfoAdd]
    simp only [lookupK_cons]
    by_cases h : k' = k
    · subst h
      rw [if_pos rfl, if_pos rfl, lookupK_eq_none.mpr fun e he h => hk' (List.mem_map.mpr ⟨e, he, h⟩)]
      simp only [Option.getD_some, Option.getD_none]
      rw [getZ_nil]
      cases hla : lookupK a k' with
      | none => simp only [Option.getD_none]; rw [getZ_nil]; omega
      | some w =>
        simp only [Option.getD_some]
        have hw : w.length = L k'.1 := ha.2 (k', w) (mem_of_lookupK hla)
        rw [getZ_zipAdd w v (by omega)]; omega
    · rw [if_neg h, if_neg h]

theorem PWT_add_tagInfo (a b : PWT) :
    (a.add b).tagInfo = b.tagInfo.foldl (fun acc kv => tagInfoAdd acc kv.1 kv.2) a.tagInfo := rfl

theorem mem_tagInfoAdd_keys (l : TI) (k : Nat × Nat) (v : List Int) (K : Nat × Nat) :
    K ∈ (tagInfoAdd l k v).map Prod.fst ↔ K ∈ l.map Prod.fst ∨ K = k := by
  rw [tagInfoAdd_keys]
  split
  · rename_i h
    exact ⟨Or.inl, fun h' => h'.elim id (fun e => e ▸ h)⟩
  · simp only [List.mem_append, List.mem_singleton]

theorem mem_fold_keys (b : TI) (K : Nat × Nat) :
    ∀ a : TI, K ∈ (b.foldl (fun acc kv => tagInfoAdd acc kv.1 kv.2) a).map Prod.fst
      ↔ K ∈ a.map Prod.fst ∨ K ∈ b.map Prod.fst := by
  induction b with
  | nil => intro a; simp
  | cons e b ih =>
    intro a
    rw [List.foldl_cons, ih, mem_tagInfoAdd_keys, List.map_cons, List.mem_cons, or_assoc]

theorem mem_PWT_add_keys (a b : PWT) (K : Nat × Nat) :
    K ∈ (a.add b).tagInfo.map Prod.fst ↔ K ∈ a.tagInfo.map Prod.fst ∨ K ∈ b.tagInfo.map Prod.fst := by
  rw [PWT_add_tagInfo]; exact mem_fold_keys _ _ _

theorem PWT_add_ok (L : Nat → Nat) (a b : PWT) (ha : TIok L a.tagInfo) (hb : TIok L b.tagInfo) :
    TIok L (a.add b).tagInfo := by
  rw [PWT_add_tagInfo]; exact (fold_add L (0, 0) 0 b.tagInfo a.tagInfo ha hb).1

theorem PWT_add_tval (L : Nat → Nat) (k : Nat × Nat) (c : Nat) (a b : PWT) (ha : TIok L a.tagInfo)
    (hb : TIok L b.tagInfo) :
    tval k c (a.add b).tagInfo = tval k c a.tagInfo + tval k c b.tagInfo := by
  rw [PWT_add_tagInfo]; exact (fold_add L k c b.tagInfo a.tagInfo ha hb).2

theorem TIok_nil (L : Nat → Nat) : TIok L [] := ⟨by simp, by simp⟩

theorem TIok_single (L : Nat → Nat) (k : Nat × Nat) (v : List Int) (h : v.length = L k.1) : TIok L [(k, v)] :=
  ⟨by simp, by intro kv hkv; simp only [List.mem_singleton] at hkv; subst hkv; exact h⟩

theorem filter_key (l : TI) (hnd : (l.map Prod.fst).Nodup) (k : Nat × Nat) :
    l.filter (fun kv => decide (kv.1 = k)) = ((lookupK l k).map fun v => (k, v)).toList := by
  induction l with
  | nil => rfl
  | cons e r ih =>
    obtain ⟨k', v⟩ := e
    simp only [List.map_cons, List.nodup_cons] at hnd
    simp only [lookupK_cons]
    by_cases h : k' = k
    · subst h
      rw [List.filter_cons_of_pos (by simp), if_pos rfl]
      have : r.filter (fun kv => decide (kv.1 = k')) = [] := by
        rw [ih hnd.2, lookupK_eq_none.mpr fun e he h => hnd.1 (List.mem_map.mpr ⟨e, he, h⟩)]; rfl
      rw [this]; rfl
    · rw [List.filter_cons_of_neg (by simpa using h), if_neg h]
      exact ih hnd.2

end V.C06L
