import VProofs.Lemmas.ScoreBoundSum
import VProofs.Lemmas.ScoreBoundMerge
import VProofs.Lemmas.ScoreModel
/-!
# The weight merger and the specification score stay within the mass (for the C01 overflow bound)

Every coordinate of every weight that the merger holds at any moment is, for some relative position `x`, a sum of `evg g x e`
over *different* entries `e` (`addAll_correct`, the loop invariant `Merge.Inv`), hence within `emass g es`.  For the
specification score, different occurrences of one entry end at different positions, so they read its weight vector at
different indices: for one boundary every weight is counted at most once (`isum_abs_getZ_cond_le`).
-/
namespace V

def ngramMass {α : Type} (tbl : List (NgramData α)) : Nat := (tbl.map fun d => absSum d.weights).sum

def dictMass (tbl : List DictWord) : Nat := (tbl.map fun d => absSum d.weights).sum

/-- `|bias|` plus the absolute values of all boundary weights of the model -/
def WModel.mass (m : WModel) : Nat :=
  m.bias.natAbs + ngramMass m.charNgrams + ngramMass m.typeNgrams + dictMass m.dict

theorem WModel.charMass_le (m : WModel) : ngramMass m.charNgrams + dictMass m.dict ≤ m.mass :=
  Nat.add_le_add (Nat.le_trans (Nat.le_add_left _ _) (Nat.le_add_right _ _)) (Nat.le_refl _)

theorem WModel.typeMass_le (m : WModel) : ngramMass m.typeNgrams ≤ m.mass :=
  Nat.le_trans (Nat.le_add_left _ _) (Nat.le_add_right _ _)

theorem WModel.mass_eq (m : WModel) :
    m.mass = m.bias.natAbs + (ngramMass m.charNgrams + dictMass m.dict) + ngramMass m.typeNgrams :=
  (Nat.add_right_comm _ _ _).trans (congrArg (· + _) (Nat.add_assoc _ _ _))

/-- the range of a Rust `i32` -/
def I32 (x : Int) : Prop := -2 ^ 31 ≤ x ∧ x < 2 ^ 31

instance (x : Int) : Decidable (I32 x) := by unfold I32; exact inferInstance

namespace C01B
open C01L Merge
variable {α : Type} [DecidableEq α] {W : Type}

/-- `absSum` of the boundary part of a weight, 0 when it has none -/
def absW : Option PW → Nat
  | some pw => absSum pw.weight
  | none => 0

/-- the mass of a list of merger entries: the sum of `absW` of their boundary parts `g` -/
def emass (g : W → Option PW) (es : List (List α × W)) : Nat := (es.map fun e => absW (g e.2)).sum

omit [DecidableEq α] in
theorem emass_append (g : W → Option PW) (a b : List (List α × W)) : emass g (a ++ b) = emass g a + emass g b := by
  simp [emass, List.map_append, List.sum_append]

omit [DecidableEq α] in
theorem emass_zero (g : W → Option PW) (es : List (List α × W)) (h : ∀ e ∈ es, g e.2 = none) : emass g es = 0 := by
  induction es with
  | nil => rfl
  | cons e r ih =>
    simp only [emass, List.map_cons, List.sum_cons] at ih ⊢
    rw [h e (by simp), ih (fun x hx => h x (by simp [hx]))]
    rfl

theorem evg_abs_le (g : W → Option PW) (x : Int) (w : W) : iabs (evg g x w) ≤ ((absW (g w) : Nat) : Int) := by
  unfold evg absW
  cases g w with
  | none => simp only [iabs_zero]; omega
  | some pw => exact iabs_getZ_le _ _

omit [DecidableEq α] in
theorem sum_evg_le (g : W → Option PW) (x : Int) (l es : List (List α × W)) (h : l.Sublist es) :
    iabs (l.map fun e => evg g x e.2).sum ≤ ((emass g es : Nat) : Int) := by
  unfold emass
  rw [natsum_cast]
  exact Int.le_trans (iabs_sublist_sum_le l es _ h) (isum_map_le _ _ _ fun e _ => evg_abs_le g x e.2)

/-- the test on a weight: all coordinates of its boundary part `g w` satisfy `P` -/
def okW (P : Int → Bool) (g : W → Option PW) (w : W) : Bool :=
  match g w with
  | some pw => pw.weight.all P
  | none => true

theorem mem_eq_denote (pw : PW) (y : Int) (hy : y ∈ pw.weight) : ∃ x, y = pw.denote x := by
  obtain ⟨i, hi, rfl⟩ := List.mem_iff_getElem.mp hy
  refine ⟨(i : Int) + pw.offset, ?_⟩
  unfold PW.denote
  have : (i : Int) + pw.offset - pw.offset = (i : Int) := by omega
  rw [this, getZ_nat, List.getD_eq_getElem?_getD, List.getElem?_eq_getElem hi]
  rfl

theorem okW_of_evg (P : Int → Bool) (M : Nat) (hP : ∀ x : Int, x.natAbs ≤ M → P x = true) (g : W → Option PW) (w : W)
    (h : ∀ x, iabs (evg g x w) ≤ ((M : Nat) : Int)) : okW P g w = true := by
  unfold okW
  cases hg : g w with
  | none => rfl
  | some pw =>
    simp only [List.all_eq_true]
    intro y hy
    obtain ⟨x, rfl⟩ := mem_eq_denote pw y hy
    apply hP
    have := h x
    unfold evg at this
    rw [hg] at this
    exact (iabs_le_iff _ _).mp this

theorem okW_spec (P : Int → Bool) (g : W → Option PW) (w : W) (h : okW P g w = true) :
    ∀ pw, g w = some pw → ∀ x ∈ pw.weight, P x = true := by
  intro pw hpw x hx
  unfold okW at h
  rw [hpw] at h
  exact List.all_eq_true.mp h x hx

theorem S_entries (d : W) (ev : W → Int) (entries : List (List α × W)) (hnd : (entries.map Prod.fst).Nodup)
    (k : List α) :
    S (entries.map Prod.fst) (fun q => ev (lookupD d entries q)) k
      = ((entries.filter (fun e => e.1.isSuffixOf k)).map (fun e => ev e.2)).sum := by
  unfold S
  rw [List.filter_map, List.map_map]
  congr 1
  apply List.map_congr_left
  intro e he
  have he' : e ∈ entries := (List.mem_filter.1 he).1
  simp [lookupD_of_mem d entries hnd e he']

/-- `ev i` are evaluations of the weights that are additive under the invariant `P`; the test `ok` holds for every weight with
the invariant all of whose evaluations are within the bounds `B i`; every sum of an evaluation over a sublist of the entries is
within its bound.  Then running `merger.add` over `es` and `merger.merge()` with the checked `+=` returns the unchecked weights,
unpoisoned, and all results pass the test. -/
theorem merger_chk_gen {ι : Type} (i0 : ι) (ok : W → Bool) (B : ι → Nat) (add : W → W → W) (d : W) (ev : ι → W → Int)
    (P : List α → W → Prop)
    (hPm : ∀ k q a b, P k a → P q b → P k (add a b))
    (hadd : ∀ i k q a b, P k a → P q b → ev i (add a b) = ev i a + ev i b)
    (hok : ∀ k w, P k w → (∀ i, iabs (ev i w) ≤ ((B i : Nat) : Int)) → ok w = true)
    (es : List (List α × W)) (hes : ∀ e ∈ es, P e.1 e.2)
    (hM : ∀ i (l : List (List α × W)), l.Sublist es → iabs (l.map fun e => ev i e.2).sum ≤ ((B i : Nat) : Int))
    (hne : [] ∉ es.map Prod.fst) :
    addAll (addC ok add) (liftE es) [] = liftE (addAll add es []) ∧
    mergeEntries (addC ok add) none (liftE (addAll add es [])) = liftE (mergeEntries add d (addAll add es [])) ∧
    ∀ e ∈ mergeEntries add d (addAll add es []), ok e.2 = true := by
  have hPs : ∀ (k : List α) (a b : W), P k a → P k b → P k (add a b) := fun k a b => hPm k k a b
  have hadds : ∀ i (k : List α) (a b : W), P k a → P k b → ev i (add a b) = ev i a + ev i b :=
    fun i k a b => hadd i k k a b
  have hPm' : ∀ (k q : List α) (a b : W), q.isSuffixOf k = true → P k a → P q b → P k (add a b) :=
    fun k q a b _ => hPm k q a b
  have hadd' : ∀ i (k q : List α) (a b : W), q.isSuffixOf k = true → P k a → P q b → ev i (add a b) = ev i a + ev i b :=
    fun i k q a b _ => hadd i k q a b
  -- `merger.add`: after `n` insertions a stored value is a sum over the entries among the first `n` with its key
  have hA : addAll (addC ok add) (liftE es) [] = liftE (addAll add es []) := by
    apply addAll_chk ok add es []
    intro n y hy
    have hes' : ∀ e ∈ es.take n, P e.1 e.2 := fun e he => hes e (List.mem_of_mem_take he)
    obtain ⟨hnd, hkeys, hP', _⟩ := addAll_correct add d (ev i0) P hPs (hadds i0) (es.take n) hes'
    refine hok y.1 y.2 (hP' y hy) fun i => ?_
    have hsum := (addAll_correct add d (ev i) P hPs (hadds i) (es.take n) hes').2.2.2 y.1
      ((hkeys y.1).mp (List.mem_map.mpr ⟨y, hy, rfl⟩))
    rw [lookupD_of_mem d _ hnd y hy] at hsum
    rw [hsum]
    exact hM i _ (List.filter_sublist.trans (List.take_sublist n es))
  obtain ⟨hnd, hkeys, hP', _⟩ := addAll_correct add d (ev i0) P hPs (hadds i0) es hes
  have hsum : ∀ i, ∀ k ∈ es.map Prod.fst,
      ev i (lookupD d (addAll add es []) k) = ((es.filter (fun e => e.1 = k)).map (fun e => ev i e.2)).sum :=
    fun i => (addAll_correct add d (ev i) P hPs (hadds i) es hes).2.2.2
  have hne' : [] ∉ (addAll add es []).map Prod.fst := fun h => hne ((hkeys []).mp h)
  refine ⟨hA, ?_, ?_⟩
  · -- `merger.merge()`: by the loop invariant a key holds its own summed value or, once visited, the sum over its suffixes
    apply mergeEntries_chk ok add d (addAll add es [])
      (fun st => ∀ i, Inv (ev i) P ((addAll add es []).map Prod.fst) (lookupD d (addAll add es [])) st)
    · intro st hG k hk
      refine hok k (st.w k) (hG i0 k hk).1 fun i => ?_
      obtain ⟨_, h1, h2⟩ := hG i k hk
      cases hd : st.done k with
      | true =>
        rw [h1 hd, S_entries d (ev i) _ hnd k, addAll_regroup add d (ev i) es hnd hkeys (hsum i) fun q => q.isSuffixOf k]
        exact hM i _ List.filter_sublist
      | false =>
        rw [h2 hd, hsum i k ((hkeys k).mp hk)]
        exact hM i _ List.filter_sublist
    · intro st k hG hk i
      exact (step_inv add (ev i) P hPm' (hadd' i) _ _ st hnd hne' (hG i) k hk).1
    · intro i q hq
      refine ⟨?_, by simp, by simp⟩
      obtain ⟨e, he, rfl⟩ := List.mem_map.mp hq
      show P e.1 (lookupD d (addAll add es []) e.1)
      rw [lookupD_of_mem d _ hnd e he]
      exact hP' e he
  · -- the finished table: every value is the sum over the key's suffixes (`mergeEntries_addAll`), which the test accepts
    intro e he
    have hMk := mergeEntries_keys add d (addAll add es [])
    have hcor := fun i => mergeEntries_addAll add d (ev i) P hPm' (hadd' i) es hes hne e.1
      ((hkeys e.1).mp (hMk ▸ List.mem_map.mpr ⟨e, he, rfl⟩))
    rw [lookupD_of_mem d _ (hMk ▸ hnd) e he] at hcor
    refine hok e.1 e.2 (hcor i0).1 fun i => ?_
    rw [(hcor i).2]
    exact hM i _ List.filter_sublist

theorem entry_cond_le (g : W → Option PW) (w : W) (c0 : Int) (n : Nat) (p : Nat → Bool) :
    ((List.range n).map fun (k : Nat) => if p k then iabs (evg g (c0 - (k : Int)) w) else 0).sum
      ≤ ((absW (g w) : Nat) : Int) := by
  unfold evg absW
  cases g w with
  | none =>
    rw [isum_map_eq_zero _ _ fun k _ => by split <;> rfl]
    exact Int.natCast_nonneg _
  | some pw =>
    have hsw : ∀ k : Int, c0 - k - pw.offset = c0 - pw.offset - k := fun k => by omega
    simp only [PW.denote, hsw]
    exact isum_abs_getZ_cond_le pw.weight (c0 - pw.offset) n p

/-- the occurrences of one n-gram or word: weights read at `c − e` for the end positions `e` -/
theorem occ_abs_le (gk seq : List α) (w : List Int) (c : Int) :
    iabs ((occEnds gk seq).map fun (e : Nat) => getZ w (c - (e : Int))).sum ≤ ((absSum w : Nat) : Int) := by
  rw [occ_sum]
  refine Int.le_trans (iabs_sum_map_le _ _) ?_
  have hsw : ∀ k : Nat, c - ((k + 1 : Nat) : Int) = c - 1 - (k : Int) := fun k => by omega
  simp only [hsw, apply_ite iabs, iabs_zero]
  exact isum_abs_getZ_cond_le w (c - 1) seq.length (fun k => gk.isSuffixOf (seq.take (k + 1)))

theorem ngramScore_abs_le (Wn : Nat) (tbl : List (NgramData α)) (seq : List α) (b : Nat) :
    iabs (ngramScore Wn tbl seq b) ≤ ((ngramMass tbl : Nat) : Int) := by
  unfold ngramScore ngramMass
  rw [natsum_cast]
  refine Int.le_trans (iabs_sum_map_le _ _) (isum_map_le _ _ _ ?_)
  intro d _
  exact occ_abs_le d.ngram seq d.weights ((b : Int) + 1 + (Wn : Int))

theorem dictScore_abs_le (tbl : List DictWord) (seq : List Char) (b : Nat) :
    iabs (dictScore tbl seq b) ≤ ((dictMass tbl : Nat) : Int) := by
  unfold dictScore dictMass
  rw [natsum_cast]
  refine Int.le_trans (iabs_sum_map_le _ _) (isum_map_le _ _ _ ?_)
  intro d _
  exact occ_abs_le d.word seq d.weights ((b : Int) + 1 + (d.word.length : Int))

end C01B
end V
