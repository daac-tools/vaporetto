import VProofs.Lemmas.EvalFmtRound
import VProofs.Lemmas.EvalFloatOps
/-!
# Decimal digits, removing factors of ten, and the search of `f64ShortestDec`: what comes out reads back as the double;
the shape of the digits
-/
namespace V.FmtL
open V V.F64 V.QuantL

theorem digitsRev_spec (fuel m : Nat) (h : m < 2 ^ fuel) :
    (∀ d ∈ digitsRev fuel m, d < 10) ∧ (digitsRev fuel m).foldr (fun d acc => acc * 10 + d) 0 = m ∧
      (0 < m → ∃ d, (digitsRev fuel m).getLast? = some d ∧ d ≠ 0) := by
  induction fuel generalizing m with
  | zero =>
    unfold digitsRev
    have : m = 0 := by rw [Nat.pow_zero] at h; omega
    exact ⟨fun d hd => (nomatch hd), this.symm, fun h0 => by omega⟩
  | succ f ih =>
    unfold digitsRev
    split
    · rename_i hm
      refine ⟨fun d hd => ?_, ?_, fun h0 => ⟨m, rfl, by omega⟩⟩
      · rw [List.mem_singleton] at hd; omega
      · rw [List.foldr_cons, List.foldr_nil]; omega
    · obtain ⟨i1, i2, i3⟩ := ih (m / 10) (by rw [Nat.pow_succ] at h; omega)
      obtain ⟨d, hd, hd0⟩ := i3 (by omega)
      refine ⟨fun x hx => ?_, ?_, fun _ => ⟨d, ?_, hd0⟩⟩
      · rw [List.mem_cons] at hx
        rcases hx with rfl | hx
        · exact Nat.mod_lt _ (by decide)
        · exact i1 x hx
      · rw [List.foldr_cons, i2]; omega
      · rw [List.getLast?_cons, hd]; rfl

theorem digitsRev_head (f m : Nat) : (digitsRev (f + 1) m).head? = some (m % 10) := by
  unfold digitsRev
  split
  · rename_i h; rw [List.head?_cons, Nat.mod_eq_of_lt h]
  · rfl

theorem ofDigits_decDigits (m : Nat) : ofDigits (decDigits m) = m := by
  unfold ofDigits decDigits
  rw [List.foldl_reverse]
  exact (digitsRev_spec _ m Nat.lt_log2_self).2.1

theorem foldl_digits_bounds (ds : List Nat) (acc : Nat) :
    acc * 10 ^ ds.length ≤ ds.foldl (fun acc d => acc * 10 + d) acc ∧
      ((∀ d ∈ ds, d < 10) → ds.foldl (fun acc d => acc * 10 + d) acc < (acc + 1) * 10 ^ ds.length) := by
  induction ds generalizing acc with
  | nil => exact ⟨by simp, fun _ => by simp⟩
  | cons d t ih =>
    rw [List.foldl_cons, List.length_cons, Nat.pow_succ]
    obtain ⟨l, u⟩ := ih (acc * 10 + d)
    have e : ∀ x, x * (10 ^ t.length * 10) = x * 10 * 10 ^ t.length := fun x => by ac_rfl
    rw [e, e]
    refine ⟨Nat.le_trans (Nat.mul_le_mul_right _ (Nat.le_add_right _ d)) l, fun h => ?_⟩
    have hd := h d List.mem_cons_self
    exact Nat.lt_of_lt_of_le (u fun x hx => h x (List.mem_cons_of_mem _ hx)) (Nat.mul_le_mul_right _ (by omega))

theorem ofDigits_lt (ds : List Nat) (h : ∀ d ∈ ds, d < 10) : ofDigits ds < 10 ^ ds.length := by
  have := (foldl_digits_bounds ds 0).2 h
  rwa [Nat.zero_add, Nat.one_mul] at this

theorem decDigits_head (m : Nat) (h0 : 0 < m) : ∃ d t, decDigits m = d :: t ∧ d ≠ 0 := by
  obtain ⟨d, hd, hd0⟩ := (digitsRev_spec _ m Nat.lt_log2_self).2.2 h0
  have : (decDigits m).head? = some d := by unfold decDigits; rw [List.head?_reverse]; exact hd
  obtain ⟨t, ht⟩ := List.head?_eq_some_iff.mp this
  exact ⟨d, t, ht, hd0⟩

theorem decDigits_facts (m : Nat) :
    (∀ d ∈ decDigits m, d < 10) ∧ (decDigits m).getLast? = some (m % 10) ∧
      (0 < m → 10 ^ ((decDigits m).length - 1) ≤ m) := by
  refine ⟨fun d hd => (digitsRev_spec _ m Nat.lt_log2_self).1 d ?_, ?_, fun h0 => ?_⟩
  · unfold decDigits at hd; exact List.mem_reverse.mp hd
  · unfold decDigits; rw [List.getLast?_reverse]; exact digitsRev_head _ m
  · obtain ⟨d, t, ht, hd0⟩ := decDigits_head m h0
    have hv := ofDigits_decDigits m
    rw [ht] at hv ⊢
    have := (foldl_digits_bounds t (0 * 10 + d)).1
    rw [ofDigits, List.foldl_cons] at hv
    rw [hv] at this
    rw [List.length_cons, Nat.add_sub_cancel]
    exact Nat.le_trans (Nat.le_mul_of_pos_left _ (by omega)) this

theorem decDigits_upper (m : Nat) : m < 10 ^ (decDigits m).length := by
  have := ofDigits_lt (decDigits m) (decDigits_facts m).1
  rwa [ofDigits_decDigits] at this

/-- moving `j` decimal places from one side of a decimal scale to the other -/
theorem pow10_shift (p : Int) (j : Nat) :
    10 ^ (p + j).toNat * 10 ^ (-p).toNat = 10 ^ (-(p + j)).toNat * 10 ^ p.toNat * 10 ^ j := by
  obtain ⟨x, y, rfl⟩ : ∃ x y : Nat, p = x - y := ⟨_, _, (Int.toNat_sub_toNat_neg p).symm⟩
  have e : (x : Int) - y + j = ((x + j : Nat) : Int) - y := by omega
  rw [e, Int.neg_sub, Int.neg_sub, Int.toNat_sub, Int.toNat_sub, Int.toNat_sub, Int.toNat_sub,
    ← Nat.pow_add, ← Nat.pow_add, ← Nat.pow_add]
  congr 1
  -- both exponents are the larger of `x + j` and `y`; `omega` is slow on four truncated differences
  rcases Nat.le_total y x with h | h
  · rw [Nat.sub_eq_zero_of_le h, Nat.sub_eq_zero_of_le (Nat.le_trans h (Nat.le_add_right x j)), Nat.sub_add_comm h,
      Nat.add_zero, Nat.zero_add]
  · rw [Nat.sub_eq_zero_of_le h, Nat.add_zero]
    rcases Nat.le_total y (x + j) with h' | h'
    · rw [Nat.sub_eq_zero_of_le h', Nat.zero_add, Nat.sub_add_sub_cancel h' h, Nat.add_sub_cancel_left]
    · rw [Nat.sub_eq_zero_of_le h', Nat.zero_add, Nat.sub_add_eq, Nat.sub_add_cancel (Nat.le_sub_of_add_le' h')]

theorem decDen_pos (p : Int) : 0 < decDen p := Nat.pow_pos (by decide)

theorem roundDec_mul_pow (m j : Nat) (p : Int) : roundDec (m * 10 ^ j) p = roundDec m (p + (j : Int)) := by
  apply roundUnits_congr _ _ _ _ (decDen_pos _) (decDen_pos _)
  have sh := pow10_shift p j
  unfold decNum decDen
  generalize 10 ^ (p + (j : Int)).toNat = P' at sh ⊢
  generalize 10 ^ (-(p + (j : Int))).toNat = N' at sh ⊢
  generalize 10 ^ (-p).toNat = N at sh ⊢
  generalize 10 ^ p.toNat = P at sh ⊢
  generalize 10 ^ j = K at sh ⊢
  generalize unit = U
  calc m * K * P * U * N' = m * U * (N' * P * K) := by ac_rfl
    _ = m * P' * U * N := by rw [← sh]; ac_rfl

theorem roundDec_div10 (m : Nat) (p : Int) (h : m % 10 = 0) : roundDec (m / 10) (p + 1) = roundDec m p := by
  have := roundDec_mul_pow (m / 10) 1 p
  rw [Nat.pow_one, Nat.div_mul_cancel (Nat.dvd_of_mod_eq_zero h)] at this
  exact this.symm

theorem stripZeros_roundDec (fuel m : Nat) (p : Int) :
    roundDec (stripZeros fuel m p).1 (stripZeros fuel m p).2 = roundDec m p := by
  induction fuel generalizing m p with
  | zero => rfl
  | succ f ih =>
    unfold stripZeros
    split
    · rename_i h
      rw [ih, roundDec_div10 m p h.1]
    · rfl

/-- `⌊x / 10^p⌋` for `x = a` units -/
def cand (a : Nat) (p : Int) : Nat := a * 10 ^ (-p).toNat / (unit * 10 ^ p.toNat)

def NoCand (a : Nat) (p : Int) : Prop :=
  decInInterval a (cand a p) p = false ∧ decInInterval a (cand a p + 1) p = false

/-- one round of the search: it returns a candidate of the scale `10^(e−k)` that lies in the interval, or there is none
and it goes on to `k + 1` -/
theorem search_step (a : Nat) (e : Int) (f k : Nat) :
    (∃ m, shortestSearch a e (f + 1) k = some (m, e - k) ∧ decInInterval a m (e - k) = true ∧ m ≤ cand a (e - k) + 1) ∨
      (shortestSearch a e (f + 1) k = shortestSearch a e f (k + 1) ∧ NoCand a (e - k)) := by
  rw [shortestSearch]
  unfold NoCand cand
  generalize shortestSearch a e f (k + 1) = r
  cases hlo : decInInterval a (a * 10 ^ (-(e - (k : Int))).toNat / (unit * 10 ^ (e - (k : Int)).toNat)) (e - k) <;>
    cases hhi : decInInterval a (a * 10 ^ (-(e - (k : Int))).toNat / (unit * 10 ^ (e - (k : Int)).toNat) + 1) (e - k)
  · exact Or.inr ⟨rfl, rfl, rfl⟩
  · exact Or.inl ⟨_, rfl, hhi, Nat.le_refl _⟩
  · exact Or.inl ⟨_, rfl, hlo, Nat.le_succ _⟩
  · left
    simp only [Bool.and_self, if_true]
    split
    · exact ⟨_, rfl, hlo, Nat.le_succ _⟩
    · exact ⟨_, rfl, hhi, Nat.le_refl _⟩

/-- the result of the search: the first `k` that has a candidate in the interval -/
theorem search_spec (a : Nat) (e : Int) (fuel k0 : Nat) :
    (∀ m p, shortestSearch a e fuel k0 = some (m, p) → ∃ k : Nat, p = e - k ∧ k0 ≤ k ∧ k < k0 + fuel ∧
      decInInterval a m p = true ∧ m ≤ cand a p + 1 ∧ ∀ j : Nat, k0 ≤ j → j < k → NoCand a (e - j)) ∧
    (shortestSearch a e fuel k0 = none → ∀ j : Nat, k0 ≤ j → j < k0 + fuel → NoCand a (e - j)) := by
  induction fuel generalizing k0 with
  | zero => exact ⟨fun m p h => by simp [shortestSearch] at h, fun _ j h1 h2 => by omega⟩
  | succ f ih =>
    rcases search_step a e f k0 with ⟨m', hs, hin, hm⟩ | ⟨hs, hno⟩
    · rw [hs]
      refine ⟨fun m p h => ?_, fun h => nomatch h⟩
      obtain ⟨rfl, rfl⟩ := Prod.mk.inj (Option.some.inj h)
      exact ⟨k0, rfl, Nat.le_refl _, by omega, hin, hm, fun j h1 h2 => by omega⟩
    · rw [hs]
      have hj : ∀ j : Nat, k0 ≤ j → j < k0 + 1 → NoCand a (e - j) := fun j h1 h2 => by
        obtain rfl : j = k0 := by omega
        exact hno
      refine ⟨fun m p h => ?_, fun h j h1 h2 => ?_⟩
      · obtain ⟨k, q1, q2, q3, q4, q5, q6⟩ := (ih (k0 + 1)).1 m p h
        refine ⟨k, q1, by omega, by omega, q4, q5, fun j h1 h2 => ?_⟩
        by_cases hjk : j < k0 + 1
        · exact hj j h1 hjk
        · exact q6 j (by omega) h2
      · by_cases hjk : j < k0 + 1
        · exact hj j h1 hjk
        · exact (ih (k0 + 1)).2 h j (by omega) (by omega)

/-- the exact decimal expansion reads back -/
theorem roundDec_exact (a : Nat) (hrep : repUnits a = true) : roundDec (a * 5 ^ 1074) (-1074) = a := by
  unfold roundDec decNum decDen
  have e1 : (-1074 : Int).toNat = 0 := by decide
  have e2 : (-(-1074 : Int)).toNat = 1074 := by decide
  rw [e1, e2, Nat.pow_zero, Nat.mul_one]
  have e3 : a * 5 ^ 1074 * unit = 10 ^ 1074 * a := by
    have : (10 : Nat) ^ 1074 = 5 ^ 1074 * 2 ^ 1074 := by rw [← Nat.mul_pow]
    rw [this]; unfold unit
    generalize (5 : Nat) ^ 1074 = F
    generalize (2 : Nat) ^ 1074 = U
    ac_rfl
  rw [e3]
  exact roundUnits_exact a _ (Nat.pow_pos (by decide)) (repU_of_repUnits hrep)

theorem shortestDec_round (a : Nat) (ha : 0 < a) (hrep : repUnits a = true) :
    roundDec (f64ShortestDec a).1 (f64ShortestDec a).2 = a := by
  unfold f64ShortestDec
  simp only []
  rw [stripZeros_roundDec]
  cases hs : shortestSearch a (decExponent a) 20 1 with
  | none => exact roundDec_exact a hrep
  | some r =>
    obtain ⟨m, p⟩ := r
    simp only [Option.getD_some]
    obtain ⟨_, _, _, _, hin, _⟩ := (search_spec a _ 20 1).1 m p hs
    unfold decInInterval at hin
    exact round_of_interval a _ _ (decDen_pos p) ha hrep hin

theorem display_roundtrip (a : Nat) (ha : 0 < a) (hlt : a < top) (hrep : repUnits a = true) :
    decimalToF64 (f64ShortestDigits a).1 (f64ShortestDigits a).2 = .fin false a := by
  unfold decimalToF64 f64ShortestDigits
  simp only []
  rw [ofDigits_decDigits]
  have e : (f64ShortestDec a).2 + ((decDigits (f64ShortestDec a).1).length : Int) -
      ((decDigits (f64ShortestDec a).1).length : Int) = (f64ShortestDec a).2 := by omega
  rw [e, shortestDec_round a ha hrep]
  unfold F64.pack
  rw [if_pos hlt]

theorem decimal_interval_iff (a : Nat) (ha : 0 < a) (hat : a < top) (hrep : repUnits a = true) (ds : List Nat) (e : Int) :
    decimalToF64 ds e = .fin false a ↔ decInInterval a (ofDigits ds) (e - (ds.length : Int)) = true := by
  unfold decimalToF64 decInInterval
  rw [EvalF.pack_eq_fin _ _ hat]
  exact interval_iff a _ _ (decDen_pos _) ha hrep

theorem roundDec_zero (p : Int) : roundDec 0 p = 0 := by
  unfold roundDec decNum
  rw [Nat.zero_mul, Nat.zero_mul]
  exact roundUnits_zero _ (decDen_pos p)

theorem strip_ne (fuel m : Nat) (p : Int) (h0 : m ≠ 0) (hf : m < 2 ^ fuel) :
    (stripZeros fuel m p).1 ≠ 0 ∧ (stripZeros fuel m p).1 % 10 ≠ 0 := by
  induction fuel generalizing m p with
  | zero => simp only [Nat.pow_zero] at hf; omega
  | succ f ih =>
    unfold stripZeros
    split
    · rename_i h
      exact ih (m / 10) (p + 1) (by omega) (by rw [Nat.pow_succ] at hf; omega)
    · rename_i h
      exact ⟨h0, by omega⟩

theorem shortestDec_mant (a : Nat) (ha : 0 < a) (hrep : repUnits a = true) :
    (f64ShortestDec a).1 ≠ 0 ∧ (f64ShortestDec a).1 % 10 ≠ 0 := by
  have hr := shortestDec_round a ha hrep
  unfold f64ShortestDec at hr ⊢
  simp only [] at hr ⊢
  apply strip_ne _ _ _ _ Nat.lt_log2_self
  intro h0
  rw [stripZeros_roundDec, h0, roundDec_zero] at hr
  omega

/-- below `1.0` the decimal exponent is not positive: the text starts with `0.` -/
theorem shortest_exp_nonpos (a : Nat) (ha : 0 < a) (hlt : a < unit) (hrep : repUnits a = true) :
    (f64ShortestDigits a).2 ≤ 0 := by
  have hr := shortestDec_round a ha hrep
  obtain ⟨hm0, _⟩ := shortestDec_mant a ha hrep
  unfold f64ShortestDigits
  simp only []
  generalize f64ShortestDec a = r at hr hm0
  obtain ⟨m, p⟩ := r
  simp only [] at hr hm0 ⊢
  have h3 := (decDigits_facts m).2.2 (by omega)
  apply Int.not_lt.mp
  intro hpos
  -- the value is at least `1.0`, so it rounds to at least `unit`
  have hge : decDen p * unit ≤ decNum m p := by
    unfold decDen decNum
    by_cases hp : 0 ≤ p
    · have e : (-p).toNat = 0 := Int.toNat_of_nonpos (by omega)
      rw [e, Nat.pow_zero, Nat.one_mul]
      have : 1 ≤ m * 10 ^ p.toNat := Nat.mul_pos (by omega) (Nat.pow_pos (by decide))
      calc unit = 1 * unit := (Nat.one_mul _).symm
        _ ≤ m * 10 ^ p.toNat * unit := Nat.mul_le_mul_right _ this
    · have e : p.toNat = 0 := Int.toNat_of_nonpos (by omega)
      rw [e, Nat.pow_zero, Nat.mul_one]
      apply Nat.mul_le_mul_right
      have hle : (-p).toNat ≤ (decDigits m).length - 1 := by omega
      exact Nat.le_trans (Nat.pow_le_pow_right (by decide) hle) h3
  have := le_roundUnits_of_le _ _ unit (decDen_pos p) EvalF.repU_unit hge
  unfold roundDec at hr
  omega

end V.FmtL
