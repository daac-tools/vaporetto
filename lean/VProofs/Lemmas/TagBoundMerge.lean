import VProofs.Lemmas.ScoreBoundBuild
import VProofs.Lemmas.TagMerge
import VProofs.Lemmas.TagBoundSpec
/-!
# The weight merger with a `+=` that checks the boundary part AND the tag part (for the C06 overflow bound)

What `C01B.merger_chk_gen` needs for a tag-aware scorer (`C06B.tagMergerIn_of_built`): the evaluations `evWT` of a
`PositionalWeightWithTag` — "boundary weight at relative position `x`" (`evg PWT.weight x`) and "class `c` of the tag vector
under `(token id, rel)`" (`tval (tid, rel) c`) —, the test `okWT` from bounds on them, and the bound on their sums over the
entries.  Then both phases of the merger, run with a `PositionalWeightWithTag::add_assign` that tests every coordinate of the
boundary weight AND every coordinate of every vector of the `tag_info` map of its result, never trip the test.
-/
namespace V

/-- the test on the tag part of a weight: all coordinates of all vectors of `tag_info` satisfy `Q` -/
def okT (Q : Int → Bool) (t : PWT) : Bool := t.tagInfo.all fun kv => kv.2.all Q

/-- the test on both parts of a `PositionalWeightWithTag`: boundary coordinates with `P`, tag coordinates with `Q` -/
def okWT (P Q : Int → Bool) (t : PWT) : Bool := C01B.okW P PWT.weight t && okT Q t

namespace C06B
open C01L C01B C06L Merge
variable {α : Type} [DecidableEq α]

theorem okT_of_tval (Q : Int → Bool) (M : Nat) (hQ : ∀ x : Int, x.natAbs ≤ M → Q x = true) (t : PWT)
    (hnd : (t.tagInfo.map Prod.fst).Nodup)
    (h : ∀ (k : Nat × Nat) (c : Nat), iabs (tval k c t.tagInfo) ≤ ((M : Nat) : Int)) : okT Q t = true := by
  unfold okT
  simp only [List.all_eq_true]
  intro kv hkv y hy
  obtain ⟨j, hj, rfl⟩ := mem_getD kv.2 y hy
  apply hQ
  have := h kv.1 j
  unfold tval at this
  rw [PermL.lookupK_of_mem hnd hkv, Option.getD_some, getZ_nat] at this
  exact (iabs_le_iff _ _).mp this

theorem okT_spec (Q : Int → Bool) (t : PWT) (h : okT Q t = true) : ∀ kv ∈ t.tagInfo, ∀ x ∈ kv.2, Q x = true := by
  intro kv hkv x hx
  unfold okT at h
  exact List.all_eq_true.mp (List.all_eq_true.mp h kv hkv) x hx

theorem okWT_spec (P Q : Int → Bool) (t : PWT) (h : okWT P Q t = true) :
    okW P PWT.weight t = true ∧ okT Q t = true := by
  unfold okWT at h
  simpa using h

omit [DecidableEq α] in
/-- the class-`c` values under `(tid, rel)` of all tag entries together are within the class mass of tag model `tid` -/
theorem tagEntries_abs_sum (T : List (List (TagNgramData α))) (tid rel c : Nat) :
    ((tagEntries T).map fun e => iabs (tval (tid, rel) c e.2.tagInfo)).sum
      ≤ ((tagNgramClassMass (T.getD tid []) c : Nat) : Int) := by
  rw [tagEntries_sum_select T tid _ fun i hi d w => by
    have hne : ¬ (i, w.rel) = (tid, rel) := fun e => hi (Prod.mk.inj e).1
    simp only [tval_single, if_neg hne]
    rfl]
  rw [classMass_cast]
  apply isum_map_le
  intro d _
  apply isum_map_le
  intro w _
  simp only
  rw [tval_single]
  split
  · exact Int.le_refl _
  · rw [iabs_zero]; exact iabs_nonneg _

omit [DecidableEq α] in
/-- … hence every sum of them over a sublist of the entries of a tag-aware scorer -/
theorem tag_sublist_sum_le (bes : List (List α × PWT)) (T : List (List (TagNgramData α)))
    (hbes : ∀ e ∈ bes, e.2.tagInfo = []) (tid rel c : Nat) (l : List (List α × PWT))
    (hl : l.Sublist (bes ++ tagEntries T)) :
    iabs (l.map fun e => tval (tid, rel) c e.2.tagInfo).sum ≤ ((tagNgramMass (T.getD tid []) : Nat) : Int) := by
  refine Int.le_trans (iabs_sublist_sum_le l _ _ hl) ?_
  have hz : (bes.map fun e => iabs (tval (tid, rel) c e.2.tagInfo)).sum = 0 :=
    isum_map_eq_zero _ _ fun e he => by rw [hbes e he, tval_none _ _ _ rfl]; rfl
  rw [List.map_append, isum_append, hz, Int.zero_add]
  exact Int.le_trans (tagEntries_abs_sum T tid rel c) (Int.ofNat_le.mpr (tagNgramClassMass_le _ c))

/-- the index of an evaluation of a `PositionalWeightWithTag`: a relative position of the boundary weight, or a class of the
tag vector under a key -/
abbrev EvIx := Int ⊕ ((Nat × Nat) × Nat)

/-- the evaluation with index `i`: the boundary value at a relative position, or a class of the tag vector under a key -/
def evWT : EvIx → PWT → Int
  | .inl x, t => evg PWT.weight x t
  | .inr i, t => tval i.1 i.2 t.tagInfo

/-! ## the elementary `+=` inside one `add_assign` of the tag part

`PWT.add a b` folds the entries of `b.tag_info` into `a.tag_info`, one `zip-add` per entry.  The keys of `b` are distinct (a
`HashMap`), so every vector any intermediate state of that fold holds is a vector of `a` or a vector of the final result: the
test on the result of `PWT.add` covers every elementary `*y += *x` performed inside it. -/

theorem mem_tagInfoAdd_other (l : TI) (k : Nat × Nat) (v : List Int) (kv : (Nat × Nat) × List Int) (h : kv ∈ l)
    (hk : kv.1 ≠ k) : kv ∈ tagInfoAdd l k v := by
  induction l with
  | nil => cases h
  | cons e r ih =>
    obtain ⟨k', w⟩ := e
    simp only [tagInfoAdd]
    rcases List.mem_cons.mp h with e | e
    · subst e
      rw [if_neg hk]
      exact List.mem_cons_self
    · by_cases h1 : k' = k
      · rw [if_pos h1]; exact List.mem_cons_of_mem _ e
      · rw [if_neg h1]; exact List.mem_cons_of_mem _ (ih e)

theorem mem_fold_other (b : TI) (kv : (Nat × Nat) × List Int) (hk : kv.1 ∉ b.map Prod.fst) :
    ∀ a : TI, kv ∈ a → kv ∈ b.foldl (fun acc e => tagInfoAdd acc e.1 e.2) a := by
  induction b with
  | nil => intro a h; exact h
  | cons e b ih =>
    intro a h
    simp only [List.map_cons, List.mem_cons, not_or] at hk
    simp only [List.foldl_cons]
    exact ih hk.2 _ (mem_tagInfoAdd_other a e.1 e.2 kv h hk.1)

theorem mem_tagInfoAdd_cases (l : TI) (k : Nat × Nat) (v : List Int) (kv : (Nat × Nat) × List Int)
    (h : kv ∈ tagInfoAdd l k v) : kv ∈ l ∨ kv.1 = k := by
  induction l with
  | nil =>
    simp only [tagInfoAdd, List.mem_singleton] at h
    right; rw [h]
  | cons e r ih =>
    obtain ⟨k', w⟩ := e
    simp only [tagInfoAdd] at h
    by_cases h1 : k' = k
    · rw [if_pos h1] at h
      rcases List.mem_cons.mp h with e | e
      · right; rw [e]; exact h1
      · left; exact List.mem_cons_of_mem _ e
    · rw [if_neg h1] at h
      rcases List.mem_cons.mp h with e | e
      · left; rw [e]; exact List.mem_cons_self
      · rcases ih e with h2 | h2
        · left; exact List.mem_cons_of_mem _ h2
        · right; exact h2

/-- every vector held after folding any prefix of `b` into `a` is a vector of `a` or of the final result -/
theorem fold_prefix_mem (b : TI) (hnd : (b.map Prod.fst).Nodup) :
    ∀ (a : TI) (n : Nat), ∀ kv ∈ (b.take n).foldl (fun acc e => tagInfoAdd acc e.1 e.2) a,
      kv ∈ a ∨ kv ∈ b.foldl (fun acc e => tagInfoAdd acc e.1 e.2) a := by
  induction b with
  | nil => intro a n kv h; left; simpa using h
  | cons e b ih =>
    intro a n kv h
    simp only [List.map_cons, List.nodup_cons] at hnd
    cases n with
    | zero => left; simpa using h
    | succ n =>
      simp only [List.take_succ_cons, List.foldl_cons] at h ⊢
      rcases ih hnd.2 _ n kv h with h1 | h1
      · rcases mem_tagInfoAdd_cases a e.1 e.2 kv h1 with h2 | h2
        · left; exact h2
        · right
          exact mem_fold_other b kv (by rw [h2]; exact hnd.1) _ h1
      · right; exact h1

theorem PWT_add_steps (Q : Int → Bool) (a b : PWT) (hnd : (b.tagInfo.map Prod.fst).Nodup)
    (ha : okT Q a = true) (hab : okT Q (a.add b) = true) (n : Nat) :
    ∀ kv ∈ (b.tagInfo.take n).foldl (fun acc e => tagInfoAdd acc e.1 e.2) a.tagInfo, ∀ x ∈ kv.2, Q x = true := by
  intro kv hkv x hx
  rcases fold_prefix_mem b.tagInfo hnd a.tagInfo n kv hkv with h | h
  · exact okT_spec Q a ha kv h x hx
  · exact okT_spec Q (a.add b) hab kv h x hx

end C06B
end V
