import VModel.Basic
/-!
Inversion and safety of `Res` outcomes; running maxima over a list.
-/
namespace V

namespace Res

theorem map_eq_ok {α β : Type} {f : α → β} {r : Res α} {y : β} (h : r.map f = .ok y) : ∃ x, r = .ok x ∧ f x = y := by
  cases r with
  | ok x => exact ⟨x, rfl, Res.ok.inj h⟩
  | err _ => cases h
  | panic _ => cases h
  | ub _ => cases h

theorem bind_eq_ok {α β : Type} {r : Res α} {f : α → Res β} {y : β} (h : r.bind f = .ok y) :
    ∃ x, r = .ok x ∧ f x = .ok y := by
  cases r with
  | ok x => exact ⟨x, rfl, h⟩
  | err _ => cases h
  | panic _ => cases h
  | ub _ => cases h

theorem Safe.cases {α : Type} {r : Res α} (h : r.Safe) : (∃ a, r = .ok a) ∨ ∃ e, r = .err e := by
  cases r with
  | ok a => exact .inl ⟨a, rfl⟩
  | err e => exact .inr ⟨e, rfl⟩
  | panic _ => exact h.elim
  | ub _ => exact h.elim

theorem Safe.bind {α β : Type} {r : Res α} {f : α → Res β} (hr : r.Safe) (hf : ∀ x, r = .ok x → (f x).Safe) :
    (r.bind f).Safe := by
  cases r with
  | ok x => exact hf x rfl
  | err _ => trivial
  | panic _ => exact hr
  | ub _ => exact hr

theorem Safe.map {α β : Type} {r : Res α} (f : α → β) (hr : r.Safe) : (r.map f).Safe := by
  cases r <;> exact hr

end Res

theorem le_foldl_max {β : Type} (f : β → Nat) (l : List β) (acc : Nat) :
    acc ≤ l.foldl (fun a x => max a (f x)) acc ∧ ∀ x ∈ l, f x ≤ l.foldl (fun a x => max a (f x)) acc := by
  induction l generalizing acc with
  | nil => exact ⟨Nat.le_refl _, fun _ h => by cases h⟩
  | cons y r ih =>
    obtain ⟨h1, h2⟩ := ih (max acc (f y))
    refine ⟨Nat.le_trans (Nat.le_max_left _ _) h1, fun x hx => ?_⟩
    rcases List.mem_cons.mp hx with rfl | hx
    · exact Nat.le_trans (Nat.le_max_right _ _) h1
    · exact h2 x hx

theorem foldl_max_attained {β : Type} (f : β → Nat) (l : List β) (acc : Nat) :
    l.foldl (fun a x => max a (f x)) acc = acc ∨ ∃ x ∈ l, l.foldl (fun a x => max a (f x)) acc = f x := by
  induction l generalizing acc with
  | nil => exact Or.inl rfl
  | cons y r ih =>
    rcases ih (max acc (f y)) with h | ⟨x, hx, h⟩
    · rcases Nat.le_total acc (f y) with h1 | h1
      · exact Or.inr ⟨y, List.mem_cons_self, by rw [List.foldl_cons, h, Nat.max_eq_right h1]⟩
      · exact Or.inl (by rw [List.foldl_cons, h, Nat.max_eq_left h1])
    · exact Or.inr ⟨x, List.mem_cons_of_mem _ hx, h⟩

end V
