import VProofs.Lemmas.ScoreBoundScorer
/-!
# The score buffer stays within the mass after any number of matches (for the C01 overflow bound)

One pass of a pattern-matching scorer, stopped after any prefix of the list of automaton matches, and the cached type
scorer stopped after any number of boundaries.
-/
namespace V

/-- the state vector a pass starts from (`pma_states.clear(); resize(len, INVALID)` in the state-recording scorers) -/
def pmaStates0 {α : Type} (sc : PmaScorer α) (seq : List α) (states : List (Option Nat)) : List (Option Nat) :=
  if sc.tagWeight.isSome then List.replicate seq.length none else states

/-- a pass is the loop `go` over all automaton matches -/
theorem pmaAddScores_eq_go {α : Type} [DecidableEq α] (sc : PmaScorer α) (seq : List α) (buf : List Int)
    (states : List (Option Nat)) :
    pmaAddScores sc seq buf states
      = pmaAddScores.go sc (matchesNoSuffix sc.pats seq) buf (pmaStates0 sc seq states) := rfl

/-- the values `TypeScorerBoundaryCache::add_scores` adds to the visible slots, in order -/
def cacheAdds (ngrams : List (NgramData Nat)) (window : Nat) (types : List Nat) (nBounds : Nat) : List Int :=
  cacheAddScores.go ngrams window (C01L.cinc window types) (List.range nBounds) (C01L.seqAt window types window) []

namespace C01B
open C01L Merge
variable {α : Type} [DecidableEq α] {W : Type}

theorem contrib_abs_le (g : W → Option PW) (es : List (List α × W)) (pats : List (List α)) (optw : List (Option PW))
    (seq : List α) (j : Nat)
    (hc : ∀ (k : Nat), k < seq.length → ∀ id, longestMatch pats (seq.take (k + 1)) = some id →
      contrib optw j (k + 1, id)
        = ((es.filter fun e => e.1.isSuffixOf (seq.take (k + 1))).map fun e =>
            evg g ((j : Int) - ((k : Int) + 7)) e.2).sum) :
    (((matchesNoSuffix pats seq).map (contrib optw j)).map iabs).sum ≤ ((emass g es : Nat) : Int) := by
  unfold matchesNoSuffix
  rw [List.map_map, isum_filterMap]
  -- per end position: at most the absolute values of the entries that end there
  refine Int.le_trans (isum_map_le _ _ (fun (k : Nat) => (es.map fun e => if e.1.isSuffixOf (seq.take (k + 1)) then
            iabs (evg g ((j : Int) - 7 - (k : Int)) e.2) else 0).sum) ?_) ?_
  · intro k hk
    cases hlm : longestMatch pats (seq.take (k + 1)) with
    | none =>
      simp only [Option.map_none]
      refine isum_map_nonneg _ _ fun e _ => ?_
      split
      · exact iabs_nonneg _
      · exact Int.le_refl _
    | some id =>
      simp only [Option.map_some, Function.comp_def]
      rw [hc k (List.mem_range.mp hk) id hlm, show (j : Int) - ((k : Int) + 7) = (j : Int) - 7 - (k : Int) by omega,
        ← isum_filter]
      exact iabs_sum_map_le _ _
  rw [isum_comm]
  unfold emass
  rw [natsum_cast]
  apply isum_map_le
  intro e _
  exact entry_cond_le g e.2 ((j : Int) - 7) seq.length (fun k => e.1.isSuffixOf (seq.take (k + 1)))

theorem mem_getD (l : List Int) (x : Int) (h : x ∈ l) : ∃ j, j < l.length ∧ l.getD j 0 = x := by
  obtain ⟨j, hj, rfl⟩ := List.mem_iff_getElem.mp h
  exact ⟨j, hj, by rw [List.getD_eq_getElem?_getD, List.getElem?_eq_getElem hj]; rfl⟩

theorem getD_natAbs_le (l : List Int) (B : Nat) (h : ∀ x ∈ l, x.natAbs ≤ B) (j : Nat) : (l.getD j 0).natAbs ≤ B := by
  rw [List.getD_eq_getElem?_getD]
  cases hj : l[j]? with
  | none => exact Nat.zero_le _
  | some v => exact h v (List.mem_of_getElem? hj)

/-- one pass of `sc` over `seq` from the buffer `buf`, stopped after any prefix of the matches, has not failed and every slot of
its buffer (padding included) is within `B` -/
def PassBounded (sc : PmaScorer α) (seq : List α) (buf : List Int) (states : List (Option Nat)) (B : Nat) : Prop :=
  ∀ k, ∃ r st, pmaAddScores.go sc ((matchesNoSuffix sc.pats seq).take k) buf (pmaStates0 sc seq states) = .ok (r, st) ∧
    r.length = buf.length ∧ ∀ x ∈ r, x.natAbs ≤ B

theorem PassBounded.full {sc : PmaScorer α} {seq : List α} {buf : List Int} {states : List (Option Nat)} {B : Nat}
    (h : PassBounded sc seq buf states B) :
    ∃ r st, pmaAddScores sc seq buf states = .ok (r, st) ∧ r.length = buf.length ∧ ∀ x ∈ r, x.natAbs ≤ B := by
  have := h (matchesNoSuffix sc.pats seq).length
  rwa [List.take_length, ← pmaAddScores_eq_go] at this

theorem PassBounded.within {sc : PmaScorer α} {seq : List α} {buf : List Int} {states : List (Option Nat)}
    {B : Nat} (h : PassBounded sc seq buf states B) (P : Int → Bool) (hP : ∀ x : Int, x.natAbs ≤ B → P x = true) (k : Nat) :
    ∃ r st, pmaAddScores.go sc ((matchesNoSuffix sc.pats seq).take k) buf (pmaStates0 sc seq states) = .ok (r, st) ∧
      ∀ x ∈ r, P x = true := by
  obtain ⟨r, st, h1, _, h3⟩ := h k
  exact ⟨r, st, h1, fun x hx => hP x (h3 x hx)⟩

/-- `B` bounds the buffer the pass starts from, `M` the mass of the entries -/
theorem pass_bounded (cfg : Cfg) (add : W → W → W) (d : W) (g : W → Option PW) (hg : AddOK add g)
    (es : List (List α × W)) (hes : ∀ e ∈ es, Pg g e.1 e.2) (sc : PmaScorer α)
    (hsc : BuiltFrom cfg add d g es sc) (seq : List α) (buf : List Int) (hbuf : buf.length = seq.length + 13)
    (states : List (Option Nat)) (B : Nat) (hB : ∀ x ∈ buf, x.natAbs ≤ B) (M : Nat) (hM : emass g es ≤ M) :
    PassBounded sc seq buf states (B + M) := by
  intro k
  obtain ⟨optw, hw, hms, hc⟩ := match_entry cfg add d g hg es hes sc hsc seq
  obtain ⟨r, st, hgo, hlen, hval⟩ := go_spec cfg sc optw hw seq.length ((matchesNoSuffix sc.pats seq).take k)
    (fun m hm => hms m (List.mem_of_mem_take hm)) buf hbuf (pmaStates0 sc seq states)
    (fun h => by unfold pmaStates0; rw [if_pos h, List.length_replicate])
  refine ⟨r, st, hgo, hlen, fun x hx => ?_⟩
  obtain ⟨j, hj, rfl⟩ := mem_getD r x hx
  rw [hval j (by omega), List.map_take]
  refine natAbs_add_le _ _ B M (getD_natAbs_le buf B hB j) ?_
  exact Int.le_trans (iabs_take_sum_le _ k)
    (Int.le_trans (contrib_abs_le g es sc.pats optw seq j (hc j)) (Int.ofNat_le.mpr hM))

theorem cacheGo_mem (ngrams : List (NgramData Nat)) (window : Nat) (inc : Nat → Nat → Nat) (l : List Nat) (s : Nat)
    (acc : List Int) :
    ∀ a ∈ cacheAddScores.go ngrams window inc l s acc, a ∈ acc ∨ ∃ seqid, a = cacheEntry ngrams window seqid := by
  induction l generalizing s acc with
  | nil => intro a ha; exact Or.inl ha
  | cons i r ih =>
    intro a ha
    rw [cacheAddScores.go.eq_2] at ha
    rcases ih _ _ a ha with h | h
    · rcases List.mem_append.mp h with h | h
      · exact Or.inl h
      · exact Or.inr ⟨_, List.mem_singleton.mp h⟩
    · exact Or.inr h

theorem cacheAdds_mem (ngrams : List (NgramData Nat)) (window : Nat) (types : List Nat) (nB : Nat) :
    ∀ a ∈ cacheAdds ngrams window types nB, ∃ seqid, a = cacheEntry ngrams window seqid :=
  fun a ha => (cacheGo_mem ngrams window _ _ _ [] a ha).resolve_left List.not_mem_nil

theorem cacheAddScores_eq_adds (ngrams : List (NgramData Nat)) (window : Nat) (types : List Nat) (nB : Nat)
    (buf : List Int) (h : padding + nB ≤ buf.length) :
    cacheAddScores ngrams window types nB buf = .ok (addAt buf padding (cacheAdds ngrams window types nB)) := by
  rw [cacheAddScores_eq, if_pos h]
  rfl

theorem addAt_bounded (buf : List Int) (start : Nat) (adds : List Int) (hs : start ≤ buf.length) (B T : Nat)
    (hB : ∀ x ∈ buf, x.natAbs ≤ B) (hT : ∀ a ∈ adds, a.natAbs ≤ T) (k : Nat) :
    ∀ x ∈ addAt buf start (adds.take k), x.natAbs ≤ B + T := by
  intro x hx
  obtain ⟨j, hj, rfl⟩ := mem_getD _ x hx
  rw [addAt_length _ _ _ hs] at hj
  rw [addAt_getD _ _ _ hs j hj]
  refine natAbs_add_le _ _ B T (getD_natAbs_le buf B hB j) ((iabs_le_iff _ _).mpr ?_)
  rcases getZ_mem_or_zero (adds.take k) ((j : Int) - start) with h | h
  · rw [h]; exact Nat.zero_le _
  · exact hT _ (List.mem_of_mem_take h)

end C01B
end V
