import VModel.CsvFile
/-!
# The reader automaton: single steps of `csvGo` / `csvStrictGo`, and its runs over the inside of a written field
-/
namespace V.C19F
open V

theorem special_false {c : Char} (h : csvSpecial c = false) : c ≠ ',' ∧ c ≠ '"' ∧ c ≠ '\r' ∧ c ≠ '\n' := by
  simp only [csvSpecial, Bool.or_eq_false_iff, decide_eq_false_iff_not] at h
  exact ⟨h.1.1.1, h.1.1.2, h.1.2, h.2⟩

theorem needsQuotes_cons {c : Char} {cs : List Char} (h : csvNeedsQuotes (c :: cs) = false) :
    csvSpecial c = false ∧ csvNeedsQuotes cs = false := by
  simpa only [csvNeedsQuotes, List.any_cons, Bool.or_eq_false_iff] using h

theorem escape_quote (cs : List Char) : csvEscape ('"' :: cs) = '"' :: '"' :: csvEscape cs := by
  rw [csvEscape, if_pos rfl]

theorem escape_other {c : Char} (h : c ≠ '"') (cs : List Char) : csvEscape (c :: cs) = c :: csvEscape cs := by
  rw [csvEscape, if_neg h]

theorem go_skip {st st' : CsvSt} {c : Char} (h : csvStep st c = (st', .skip)) (fa : List Char) (ra : List (List Char))
    (cs : List Char) : csvGo st fa ra (c :: cs) = csvGo st' fa ra cs := by
  rw [csvGo, h]

theorem go_copy {st st' : CsvSt} {c : Char} (h : csvStep st c = (st', .copy)) (fa : List Char) (ra : List (List Char))
    (cs : List Char) : csvGo st fa ra (c :: cs) = csvGo st' (c :: fa) ra cs := by
  rw [csvGo, h]

theorem go_endField {st st' : CsvSt} {c : Char} (h : csvStep st c = (st', .endField)) (fa : List Char)
    (ra : List (List Char)) (cs : List Char) : csvGo st fa ra (c :: cs) = csvGo st' [] (fa.reverse :: ra) cs := by
  rw [csvGo, h]

theorem go_endRecord {st st' : CsvSt} {c : Char} (h : csvStep st c = (st', .endRecord)) (fa : List Char)
    (ra : List (List Char)) (cs : List Char) :
    csvGo st fa ra (c :: cs) = csvEndRecord fa ra :: csvGo st' [] [] cs := by
  rw [csvGo, h]

theorem strict_cons (st : CsvSt) (c : Char) (cs : List Char) :
    csvStrictGo st (c :: cs) = (!csvLenient st c && csvStrictGo (csvStep st c).1 cs) := rfl

theorem step_inField_plain {c : Char} (h : csvSpecial c = false) : csvStep .inField c = (.inField, .copy) := by
  obtain ⟨h1, _, h3, h4⟩ := special_false h
  simp only [csvStep, csvStepInField, if_neg h1, if_neg h3, if_neg h4]

theorem step_startField_plain {c : Char} (h : csvSpecial c = false) : csvStep .startField c = (.inField, .copy) := by
  obtain ⟨h1, h2, h3, h4⟩ := special_false h
  simp only [csvStep, csvStepStartField, if_neg h1, if_neg h2, if_neg h3, if_neg h4]

theorem step_inQuoted_other {c : Char} (h : c ≠ '"') : csvStep .inQuoted c = (.inQuoted, .copy) := by
  simp only [csvStep, if_neg h]

theorem step_startRecord {c : Char} (h1 : c ≠ '\n') (h2 : c ≠ '\r') : csvStep .startRecord c = csvStep .startField c := by
  simp [csvStep, h1, h2]

theorem go_startRecord {c : Char} (h1 : c ≠ '\n') (h2 : c ≠ '\r') (fa : List Char) (ra : List (List Char))
    (cs : List Char) : csvGo .startRecord fa ra (c :: cs) = csvGo .startField fa ra (c :: cs) := by
  rw [csvGo, csvGo, step_startRecord h1 h2]

theorem strict_startRecord {c : Char} (h1 : c ≠ '\n') (h2 : c ≠ '\r') (cs : List Char) :
    csvStrictGo .startRecord (c :: cs) = csvStrictGo .startField (c :: cs) := by
  rw [strict_cons, strict_cons, step_startRecord h1 h2]
  rfl

theorem go_afterCR_eq (fa : List Char) (ra : List (List Char)) (s : List Char) :
    csvGo .afterCR fa ra s = csvGo .startRecord fa ra s := by
  cases s with
  | nil => rw [csvGo, csvGo]
  | cons c cs =>
    have e : csvStep .afterCR c = csvStep .startRecord c := rfl
    rw [csvGo, csvGo, e]

theorem strict_afterCR_eq (s : List Char) : csvStrictGo .afterCR s = csvStrictGo .startRecord s := by
  cases s <;> rfl

theorem go_afterCR {c : Char} (h1 : c ≠ '\n') (h2 : c ≠ '\r') (fa : List Char) (ra : List (List Char))
    (cs : List Char) : csvGo .afterCR fa ra (c :: cs) = csvGo .startField fa ra (c :: cs) := by
  rw [go_afterCR_eq, go_startRecord h1 h2]

theorem plain_run : ∀ (f : List Char), csvNeedsQuotes f = false → ∀ (fa : List Char) (ra : List (List Char))
    (rest : List Char), csvGo .inField fa ra (f ++ rest) = csvGo .inField (f.reverse ++ fa) ra rest ∧
      csvStrictGo .inField (f ++ rest) = csvStrictGo .inField rest := by
  intro f
  induction f with
  | nil => intro _ fa ra rest; exact ⟨rfl, rfl⟩
  | cons c cs ih =>
    intro h fa ra rest
    obtain ⟨hc, hcs⟩ := needsQuotes_cons h
    obtain ⟨ihg, ihs⟩ := ih hcs (c :: fa) ra rest
    have hq : csvLenient .inField c = false := decide_eq_false (special_false hc).2.1
    constructor
    · rw [List.cons_append, go_copy (step_inField_plain hc), ihg, List.reverse_cons, List.append_assoc, List.singleton_append]
    · rw [List.cons_append, strict_cons, step_inField_plain hc, ihs, hq]
      rfl

theorem quoted_run : ∀ (f : List Char) (fa : List Char) (ra : List (List Char)) (rest : List Char),
    csvGo .inQuoted fa ra (csvEscape f ++ '"' :: rest) = csvGo .quoteInQuoted (f.reverse ++ fa) ra rest ∧
      csvStrictGo .inQuoted (csvEscape f ++ '"' :: rest) = csvStrictGo .quoteInQuoted rest := by
  intro f
  induction f with
  | nil => intro fa ra rest; exact ⟨go_skip rfl fa ra rest, rfl⟩
  | cons c cs ih =>
    intro fa ra rest
    obtain ⟨ihg, ihs⟩ := ih (c :: fa) ra rest
    rw [List.reverse_cons, List.append_assoc, List.singleton_append]
    by_cases hc : c = '"'
    · subst hc
      -- the doubled quote: `inQuoted` → `quoteInQuoted` (skip) → `inQuoted` (copy)
      rw [escape_quote, List.cons_append, List.cons_append]
      exact ⟨(go_skip rfl fa ra _).trans ((go_copy rfl fa ra _).trans ihg), ihs⟩
    · rw [escape_other hc, List.cons_append]
      constructor
      · rw [go_copy (step_inQuoted_other hc), ihg]
      · rw [strict_cons, step_inQuoted_other hc, ihs]
        rfl

theorem blank_run : ∀ (bl : List Char), (∀ c ∈ bl, c = '\n' ∨ c = '\r') → ∀ (fa : List Char) (ra : List (List Char))
    (rest : List Char), csvGo .startRecord fa ra (bl ++ rest) = csvGo .startRecord fa ra rest ∧
      csvStrictGo .startRecord (bl ++ rest) = csvStrictGo .startRecord rest := by
  intro bl
  induction bl with
  | nil => intro _ fa ra rest; exact ⟨rfl, rfl⟩
  | cons c cs ih =>
    intro h fa ra rest
    obtain ⟨ihg, ihs⟩ := ih (fun x hx => h x (List.mem_cons_of_mem _ hx)) fa ra rest
    rw [List.cons_append]
    rcases h c List.mem_cons_self with e | e <;> subst e
    · exact ⟨(go_skip rfl fa ra _).trans ihg, ihs⟩
    · exact ⟨(go_skip rfl fa ra _).trans ihg, ihs⟩

end V.C19F
