import VProofs.C01
import VProofs.C06
import VProofs.C09
import VProofs.C12
import VProofs.Lemmas.UseNew
import VProofs.Lemmas.UseAsm
import VProofs.Lemmas.UseTag
import VProofs.Lemmas.TrainCli
import VProofs.Lemmas.QuantAll
import VProofs.Lemmas.QuantBits
/-!
# C11 — Training is total and its output is always usable

What a theorem can carry here is the bookkeeping around the learner: assembling never panics, the assembled model is
well-formed, and every well-formed model is accepted by the predictor and predicts/tags without panicking.  liblinear itself
(its error returns, label order, NaN) is the runtime remainder, covered by the solver sweep of
the check (all eight solvers × sizes incl. 0 × six corpus kinds, each followed by write → read → predict + fill_tags); the `f64`
quantisation of the learned weights is modelled exactly (`VModel/Quantize.lean`) and treated in the last section of this file.
Helper lemmas live in `VProofs/Lemmas/Use*.lean`, `TrainCli.lean` and `Quant*.lean`.

A window of size 0 (`--charw 0`, `--typew 0`) switches that kind of n-gram off: `ngramFeats 0 N` is empty, so the assembled
model has no n-gram of that kind, and the predictor would ignore them anyway (`C01_scores_window0`).  Each theorem is proved
for windows 0..255 (`WFModel0`, `…_window0`) and followed by its reading for windows 1..255 (`WFModel`).
-/
namespace V

/-- every `WFModel0` with well-formed tag models whose tag n-grams each carry at
least one weight is accepted by the predictor, with and without tag prediction, in every build configuration (with a zero
window the n-grams of that kind, however ill-formed, cannot make the construction fail) -/
theorem C11_predictor_accepts_window0 (cfg : Cfg) (m : WModel) (hm : WFModel0 m) (ht : WFTags m)
    (hw : ∀ tm ∈ m.tagModels, (∀ d ∈ tm.charNgrams, d.weights ≠ []) ∧ (∀ d ∈ tm.typeNgrams, d.weights ≠ []))
    (pt : Bool) (hcfg : pt = true → cfg.tagPred = true) : ∃ p, Predictor.new cfg m pt = .ok p :=
  C11L.new_total0 cfg m hm pt
    (fun _ tm htm d hd => ⟨(ht.char_ok tm htm d hd).1, (hw tm htm).1 d hd⟩)
    (fun _ tm htm d hd => ⟨(ht.type_ok tm htm d hd).1, (hw tm htm).2 d hd⟩) hcfg

/-- every well-formed model (with well-formed tag models) whose tag n-grams each carry at least one weight is accepted by
the predictor, with and without tag prediction, in every build configuration …

`hw` is needed: a tag n-gram with an EMPTY `weights` list defeats the "nothing to score" early return of
`CharScorer::new` / `TypeScorer::new` but adds no pattern, so a model with no boundary character n-grams and no
dictionary (resp. no type n-grams) whose only tag n-gram has no weights satisfies `WFModel` and `WFTags` and yet makes
`Predictor.new cfg m true` return `.err .invalidModel` (empty pattern set).  The models the trainer assembles satisfy
`hw` (`C11_tags_weights_ne`). -/
theorem C11_predictor_accepts (cfg : Cfg) (m : WModel) (hm : WFModel m) (ht : WFTags m)
    (hw : ∀ tm ∈ m.tagModels, (∀ d ∈ tm.charNgrams, d.weights ≠ []) ∧ (∀ d ∈ tm.typeNgrams, d.weights ≠ []))
    (pt : Bool) (hcfg : pt = true → cfg.tagPred = true) : ∃ p, Predictor.new cfg m pt = .ok p :=
  C11_predictor_accepts_window0 cfg m hm.toWFModel0 ht hw pt hcfg

/-- the predictor built from a `WFModel0` (with well-formed tag models) predicts and
tags ANY non-empty text without panicking, with or without score storing — `--charw 0` / `--typew 0` included, whatever the
n-grams of the switched-off kind are -/
theorem C11_predict_total_window0 (cfg : Cfg) (m : WModel) (hm : WFModel0 m) (ht : WFTags m) (pt : Bool) (p : Predictor)
    (hp : Predictor.new cfg m pt = .ok p) (store : Bool) (s : Sentence) (hs : SentOK s) (pid : Nat) :
    ∃ s1, p.predict pid s = .ok s1 ∧
      (pt = true → ∃ s2, ({ p with storeTagScores := store } : Predictor).predictTags s1 = .ok s2) := by
  obtain ⟨s1, h1, _⟩ := C01_scores_window0 cfg m hm pt p hp s hs pid
  refine ⟨s1, h1, fun hpt => ?_⟩
  subst hpt
  exact C06L.predictTags_total cfg m ht.toL p hp store s s1 hs.types_eq hs.bounds_len pid h1

/-- … and the predictor then predicts and tags ANY non-empty text without panicking, with or without score storing -/
theorem C11_predict_total (cfg : Cfg) (m : WModel) (hm : WFModel m) (ht : WFTags m) (pt : Bool) (p : Predictor)
    (hp : Predictor.new cfg m pt = .ok p) (store : Bool) (s : Sentence) (hs : SentOK s) (pid : Nat) :
    ∃ s1, p.predict pid s = .ok s1 ∧
      (pt = true → ∃ s2, ({ p with storeTagScores := store } : Predictor).predictTags s1 = .ok s2) :=
  C11_predict_total_window0 cfg m hm.toWFModel0 ht pt p hp store s hs pid

/-! ### the hypothesis `hw` of `C11_predictor_accepts` cannot be dropped: a well-formed model whose only character pattern
would be a tag n-gram without weights is rejected (with an error, not a panic) when tag prediction is requested -/

def C11_exNoWeights : WModel :=
  { charNgrams := [], typeNgrams := [⟨[2], [3, 4]⟩], dict := [], bias := 0, charW := 1, typeW := 1,
    tagModels := [{ token := ['a'], tags := [], charNgrams := [⟨['b'], []⟩], typeNgrams := [], bias := [] }] }

example : WFModel C11_exNoWeights :=
  { charW_pos := by decide, charW_le := by decide, typeW_pos := by decide, typeW_le := by decide,
    char_nodup := by decide, char_shape := by decide, type_nodup := by decide, type_shape := by decide,
    dict_nodup := by decide, dict_shape := by decide }
example : WFTags C11_exNoWeights := ⟨by decide, by decide, by decide, by decide⟩
example : (Predictor.new {} C11_exNoWeights true).map (fun _ => ()) = .err .invalidModel := by decide +kernel
example : (Predictor.new {} C11_exNoWeights false).isOk = true := by decide +kernel

/-- the boundary model assembled from the learner's output is well-formed in the sense of `WFModel0` for windows 0..255
(any n-gram sizes, any dictionary accepted by `Trainer::new` with length bucket ≥ 1, any quantised weights) -/
theorem C11_assembled_wf0 (cfg : TrainCfg) (hc : CfgOK cfg) (hcw : cfg.charW ≤ 255) (htw : cfg.typeW ≤ 255)
    (hlen : ∀ w ∈ cfg.dictWords, w.length ≤ 32767)
    (trace : List (Feature × Int)) (bias : Int) (tms : List TagModel)
    (hg : ∀ e ∈ trace, Generable cfg e.1) (m : WModel) (h : assembleBoundary cfg trace bias tms = .ok m) :
    WFModel0 m :=
  (C11L.assembled_wf0 cfg hc.words_ne hc.words_nodup hc.maxlen_pos hcw htw hlen trace bias tms hg m h).1

/-- it contains no n-gram of a kind whose window is 0, so nothing of it is ignored by the predictor -/
theorem C11_assembled_dropW0 (cfg : TrainCfg) (hc : CfgOK cfg) (hcw : cfg.charW ≤ 255) (htw : cfg.typeW ≤ 255)
    (hlen : ∀ w ∈ cfg.dictWords, w.length ≤ 32767)
    (trace : List (Feature × Int)) (bias : Int) (tms : List TagModel)
    (hg : ∀ e ∈ trace, Generable cfg e.1) (m : WModel) (h : assembleBoundary cfg trace bias tms = .ok m) :
    (m.charW = 0 → m.charNgrams = []) ∧ (m.typeW = 0 → m.typeNgrams = []) ∧ dropW0 m = m :=
  have hw := C11L.assembled_wf0 cfg hc.words_ne hc.words_nodup hc.maxlen_pos hcw htw hlen trace bias tms hg m h
  ⟨hw.2.1, hw.2.2, dropW0_of_empty m hw.2.1 hw.2.2⟩

/-- the boundary model assembled from the learner's output is well-formed whenever both windows are at least 1 (any n-gram
sizes, any dictionary accepted by `Trainer::new` with length bucket ≥ 1, any quantised weights) -/
theorem C11_assembled_wf (cfg : TrainCfg) (hc : CfgOK cfg) (hcw : 1 ≤ cfg.charW ∧ cfg.charW ≤ 255)
    (htw : 1 ≤ cfg.typeW ∧ cfg.typeW ≤ 255) (hlen : ∀ w ∈ cfg.dictWords, w.length ≤ 32767)
    (trace : List (Feature × Int)) (bias : Int) (tms : List TagModel)
    (hg : ∀ e ∈ trace, Generable cfg e.1) (m : WModel) (h : assembleBoundary cfg trace bias tms = .ok m) :
    WFModel m := by
  obtain ⟨_, _, _, ec, et, _⟩ := C09_vector_shape cfg trace bias tms m h
  exact (C11_assembled_wf0 cfg hc hcw.2 htw.2 hlen trace bias tms hg m h).toWFModel (by rw [ec]; exact hcw.1)
    (by rw [et]; exact htw.1)

/-- assembling a tag model never panics when every recorded class lies inside the trainable classes of its token -/
theorem C11_tag_assemble_total (token : List Char) (examples : List (List Tag)) (trace : List TagTraceItem)
    (hslots : ∀ t ∈ trace, t.token = token → t.offset + t.cls < nClass (collectTags examples)) :
    ∃ tm, assembleTag token examples trace = .ok tm := by
  have hl : ∀ t ∈ trace.filter (fun t => t.token = token), t.offset + t.cls < nClass (collectTags examples) := by
    intro t ht
    obtain ⟨h1, h2⟩ := List.mem_filter.mp ht
    exact hslots t h1 (by simpa using h2)
  obtain ⟨b, hb⟩ := C11L.biasFold_total _ _ hl
  obtain ⟨c, hc⟩ := C11L.gfold_total ltPairC _ C12L.selC _ hl
  obtain ⟨t, ht⟩ := C11L.gfold_total ltPairT _ C12L.selT _ hl
  rw [C12L.assembleTag_eq, C12L.charStep_eq, C12L.typeStep_eq, hb, hc, ht]
  exact ⟨_, rfl⟩

/-- the assembled tag models are well-formed (distinct tokens; bias and weight vectors sized to the trainable classes;
non-empty n-grams; type codes in 1..6) when the recorded features are tag features of actual tokens -/
theorem C11_tags_wf (m : WModel) (corpus : List TagExample) (dict : List (List Char × List Tag))
    (trace : List TagTraceItem) (tms : List TagModel) (h : assembleTags corpus dict trace = .ok tms)
    (hne : ∀ t ∈ trace, ∀ f, t.feat = some f →
      (match f with
       | .charNgram g _ => g ≠ []
       | .typeNgram g _ => g ≠ [] ∧ ∀ c ∈ g, 1 ≤ c ∧ c ≤ 6))
    (hm : m.tagModels = tms) : WFTags m := by
  subst hm
  have hkeys : ∀ tm ∈ m.tagModels, tm.bias.length = nClass tm.tags ∧
      (∀ d ∈ tm.charNgrams, d.ngram ≠ [] ∧ ∀ w ∈ d.weights, w.weights.length = nClass tm.tags) ∧
      (∀ d ∈ tm.typeNgrams, d.ngram ≠ [] ∧ (∀ t ∈ d.ngram, 1 ≤ t ∧ t ≤ 6) ∧
        ∀ w ∈ d.weights, w.weights.length = nClass tm.tags) := by
    intro tm htm
    obtain ⟨token, examples, hok⟩ := C11L.assembleTags_mem corpus dict trace _ h tm htm
    obtain ⟨_, _, hb, hcs, hts⟩ := C12_sizes token examples trace tm hok
    obtain ⟨hck, htk⟩ := C11L.assembleTag_keys token examples trace tm (fun g => g ≠ [])
      (fun g => g ≠ [] ∧ ∀ c ∈ g, 1 ≤ c ∧ c ≤ 6)
      (fun t ht g rel hf => hne t ht (.charNgram g rel) hf) (fun t ht g rel hf => hne t ht (.typeNgram g rel) hf) hok
    exact ⟨hb, fun d hd => ⟨(hck d hd).1, hcs d hd⟩, fun d hd => ⟨(htk d hd).1.1, (htk d hd).1.2, hts d hd⟩⟩
  exact ⟨(C12_tokens corpus dict trace _ h).1, fun tm htm => (hkeys tm htm).1, fun tm htm => (hkeys tm htm).2.1,
    fun tm htm => (hkeys tm htm).2.2⟩

/-- the tag models the trainer assembles never contain a tag n-gram without weights (`groupTagWeights` emits an n-gram
only together with a weight), which is the extra hypothesis of `C11_predictor_accepts` -/
theorem C11_tags_weights_ne (corpus : List TagExample) (dict : List (List Char × List Tag))
    (trace : List TagTraceItem) (tms : List TagModel) (h : assembleTags corpus dict trace = .ok tms) :
    ∀ tm ∈ tms, (∀ d ∈ tm.charNgrams, d.weights ≠ []) ∧ (∀ d ∈ tm.typeNgrams, d.weights ≠ []) := by
  intro tm htm
  obtain ⟨token, examples, hok⟩ := C11L.assembleTags_mem corpus dict trace tms h tm htm
  obtain ⟨hck, htk⟩ := C11L.assembleTag_keys token examples trace tm (fun _ => True) (fun _ => True)
    (fun _ _ _ _ _ => trivial) (fun _ _ _ _ _ => trivial) hok
  exact ⟨fun d hd => (hck d hd).2, fun d hd => (htk d hd).2⟩

end V

namespace V

/-- **end to end, windows 0..255** (C09 ∘ C11 ∘ C01): as `C11_trained_predictor_scores` without the lower bounds on the
windows -/
theorem C11_trained_predictor_scores_window0 (tc : TrainCfg) (hc : CfgOK tc) (hcw : tc.charW ≤ 255)
    (htw : tc.typeW ≤ 255) (hlen : ∀ w ∈ tc.dictWords, w.length ≤ 32767)
    (trace : List (Feature × Int)) (bias : Int) (tms : List TagModel)
    (hnd : (trace.map Prod.fst).Nodup) (hg : ∀ e ∈ trace, Generable tc e.1) (m : WModel)
    (h : assembleBoundary tc trace bias tms = .ok m)
    (cfg : Cfg) (pt : Bool) (p : Predictor) (hp : Predictor.new cfg m pt = .ok p)
    (s : Sentence) (hs : SentOK s) (pid : Nat) :
    ∃ s', p.predict pid s = .ok s' ∧
      s'.boundaryScores = .ok ((List.range (s.text.length - 1)).map fun b =>
        bias + ((genFeatures tc s.text b).map (wqOf trace)).sum) := by
  have hwf : WFModel0 m := C11_assembled_wf0 tc hc hcw htw hlen trace bias tms hg m h
  obtain ⟨s', h1, h2, _⟩ := C01_scores_window0 cfg m hwf pt p hp s hs pid
  refine ⟨s', h1, ?_⟩
  rw [h2, (C11_assembled_dropW0 tc hc hcw htw hlen trace bias tms hg m h).2.2]
  congr 1
  unfold specScores
  apply List.map_congr_left
  intro b hb
  have hb' : b + 1 < s.text.length := by
    have := List.mem_range.mp hb
    omega
  exact C09_scores tc hc trace bias tms hnd hg m h s.text b hb'

/-- **end to end** (C09 ∘ C11 ∘ C01): for windows ≥ 1, the PREDICTOR built from the model that training returns — in every
build configuration, with or without tag prediction — reports, for every boundary of every non-empty text, exactly the learned
quantised bias plus the learned quantised weight of each feature the trainer extracts for that boundary -/
theorem C11_trained_predictor_scores (tc : TrainCfg) (hc : CfgOK tc) (hcw : 1 ≤ tc.charW ∧ tc.charW ≤ 255)
    (htw : 1 ≤ tc.typeW ∧ tc.typeW ≤ 255) (hlen : ∀ w ∈ tc.dictWords, w.length ≤ 32767)
    (trace : List (Feature × Int)) (bias : Int) (tms : List TagModel)
    (hnd : (trace.map Prod.fst).Nodup) (hg : ∀ e ∈ trace, Generable tc e.1) (m : WModel)
    (h : assembleBoundary tc trace bias tms = .ok m)
    (cfg : Cfg) (pt : Bool) (p : Predictor) (hp : Predictor.new cfg m pt = .ok p)
    (s : Sentence) (hs : SentOK s) (pid : Nat) :
    ∃ s', p.predict pid s = .ok s' ∧
      s'.boundaryScores = .ok ((List.range (s.text.length - 1)).map fun b =>
        bias + ((genFeatures tc s.text b).map (wqOf trace)).sum) :=
  C11_trained_predictor_scores_window0 tc hc hcw.2 htw.2 hlen trace bias tms hnd hg m h cfg pt p hp s hs pid

/-! ## the `train` tool: its loading stage is total, and the dictionary it builds is always accepted by `Trainer::new` -/

/-- whatever the input files contain, the loading stage of `train` ends with the arguments for the trainer or with an error:
it never panics -/
theorem C11_train_tool_loading_total (nn : Bool) (tok part dict : List (List Char)) :
    (trainCliInputs nn tok part dict).Safe := by
  unfold trainCliInputs
  apply Res.Safe.bind (TrainCliL.loadFiles_safe .tok nn tok)
  intro ts _
  apply Res.Safe.bind (TrainCliL.loadFiles_safe .part nn part)
  intro ps _
  apply Res.Safe.bind (TrainCliL.loadDict_safe nn dict)
  intro ds _
  trivial

/-- the word dictionary the tool hands to `Trainer::new` is strictly sorted (code point order), hence without repetition,
contains no empty word, consists exactly of the token surfaces of the (normalised) dictionary lines, and is therefore always
accepted by `Trainer::new` (the automaton construction cannot fail on an empty or a repeated pattern) -/
theorem C11_train_tool_dictionary (nn : Bool) (tok part dict : List (List Char)) (inp : TrainInputs)
    (h : trainCliInputs nn tok part dict = .ok inp) :
    inp.dictWords.Pairwise (fun a b => lexLt ltChar a b = true) ∧
    (∀ w, w ∈ inp.dictWords ↔ ∃ s ∈ inp.tagDict, ∃ p ∈ iterTokens s.bounds, s.substring p.1 p.2 = .ok w) ∧
    (∀ cw cn tw tn ml, trainerNewOk ⟨cw, cn, tw, tn, inp.dictWords, ml⟩ = true) := by
  obtain ⟨ts, ps, ds, _, _, hds, rfl⟩ := TrainCliL.trainCliInputs_ok h
  have hd := TrainCliL.loadDict_ok hds
  obtain ⟨hsorted, hmem⟩ := TrainCliL.foldl_insertWord (ds.flatMap (·.2)) [] List.Pairwise.nil
  have hchar : ∀ w, w ∈ (ds.flatMap (·.2)).foldl (fun acc w => insertWord w acc) [] ↔
      ∃ s ∈ ds.map (·.1), ∃ p ∈ iterTokens s.bounds, s.substring p.1 p.2 = .ok w := by
    intro w
    rw [hmem w]
    constructor
    · rintro (hw | hw)
      · obtain ⟨d, hdm, hwd⟩ := List.mem_flatMap.mp hw
        exact ⟨d.1, List.mem_map_of_mem hdm, (TrainCliL.surfacesOf_mem (hd d hdm).2 w).mp hwd⟩
      · cases hw
    · rintro ⟨s, hs, hp⟩
      obtain ⟨d, hdm, rfl⟩ := List.mem_map.mp hs
      exact Or.inl (List.mem_flatMap.mpr ⟨d, hdm, (TrainCliL.surfacesOf_mem (hd d hdm).2 w).mpr hp⟩)
  refine ⟨hsorted, hchar, ?_⟩
  intro cw cn tw tn ml
  unfold trainerNewOk
  simp only [Bool.and_eq_true, List.all_eq_true, decide_eq_true_eq]
  refine ⟨?_, TrainCliL.sorted_nodup hsorted⟩
  -- a dictionary word is the surface of a token of a consistent sentence, hence non-empty
  intro w hw
  obtain ⟨s, hs, p, hp, hsub⟩ := (hchar w).mp hw
  obtain ⟨d, hdm, rfl⟩ := List.mem_map.mp hs
  obtain ⟨w', hw', hne⟩ := TrainCliL.substring_ok (hd d hdm).1 hp
  rw [hsub] at hw'
  cases hw'
  simpa using hne

/-- non-vacuity: the dict file `ab⏎zz c⏎ab⏎` gives the sorted, repetition-free word list `ａｂ, ｃ, ｚｚ` (`ab, c, zz` under
`--no-norm`) and three tag-dictionary sentences; a dict line starting with `/` ends the tool with an error -/
example :
    (trainCliInputs false [] [] [['a', 'b', '\n', 'z', 'z', ' ', 'c', '\n', 'a', 'b', '\n']]).map
        (fun i => (i.dictWords, i.tagDict.length)) = .ok ([['ａ', 'ｂ'], ['ｃ'], ['ｚ', 'ｚ']], 3) ∧
    (trainCliInputs true [] [] [['a', 'b', '\n', 'z', 'z', ' ', 'c', '\n', 'a', 'b', '\n']]).map
        (fun i => (i.dictWords, i.tagDict.length)) = .ok ([['a', 'b'], ['c'], ['z', 'z']], 3) ∧
    (trainCliInputs false [] [] [['a', 'b', '\n', '/', 'c', '\n']]).map (fun i => i.dictWords) = .err .invalidArgument := by
  decide +kernel

/-! ### non-vacuity: training with `--charw 0` (character n-gram size 2 requested but switched off), a type n-gram and a
dictionary word -/
namespace C11Ex0

def tc : TrainCfg :=
  { charW := 0, charN := 2, typeW := 1, typeN := 1, dictWords := [['a', 'b']], dictMaxLen := 1 }
def text : List Char := ['a', 'b', 'a']
def trace : List (Feature × Int) :=
  [(.typeNgram [2] (-1), 11), (.typeNgram [2] 0, -2), (.dictWord 1 .inside, 13), (.dictWord 1 .right, -40)]
def model : WModel :=
  { charNgrams := [], typeNgrams := [⟨[2], [-2, 11]⟩], dict := [⟨['a', 'b'], [0, 13, -40], []⟩],
    bias := -20, charW := 0, typeW := 1, tagModels := [] }
def sentence : Sentence := { Sentence.default with text := text, types := typesOf text, bounds := [B.U, B.U] }

/-- with window 0 the trainer extracts no character n-gram at all -/
example : ∀ i, i < 2 → ngramFeats tc.charW tc.charN text i = [] := by decide +kernel

/-- the hypotheses of `C11_assembled_wf0` / `C11_trained_predictor_scores_window0` are satisfiable with a zero window, the
assembled model is the expected one and satisfies the conclusions (`WFModel0`, nothing to drop) -/
example :
    CfgOK tc ∧ tc.charW ≤ 255 ∧ tc.typeW ≤ 255 ∧ (∀ w ∈ tc.dictWords, w.length ≤ 32767) ∧ (trace.map Prod.fst).Nodup ∧
    (∀ e ∈ trace, Generable tc e.1) ∧ assembleBoundary tc trace (-20) [] = .ok model ∧ SentOK sentence ∧
    WFModel0 model ∧ dropW0 model = model := by
  refine ⟨⟨by decide, by decide, by decide⟩, by decide, by decide, by decide, by decide, ?_, by decide +kernel,
    ⟨by decide, rfl, rfl⟩,
    { charW_le := by decide, typeW_le := by decide, char_nodup := by decide, char_shape := by decide,
      type_nodup := by decide, type_shape := by decide, dict_nodup := by decide, dict_shape := by decide }, by decide⟩
  intro e he
  have hgen : ∀ i, i + 1 < text.length → ∀ f, f ∈ genFeatures tc text i → Generable tc f :=
    fun i hi f hf => ⟨text, i, hi, hf⟩
  have : ∀ e ∈ trace, e.1 ∈ genFeatures tc text 0 ∨ e.1 ∈ genFeatures tc text 1 := by decide +kernel
  rcases this e he with h | h
  · exact hgen 0 (by decide) _ h
  · exact hgen 1 (by decide) _ h

/-- non-vacuity of `C11_predictor_accepts_window0`: the model of `C01.lean` with character window 0, ill-formed character
n-grams and a tag model satisfies its hypotheses, and is accepted -/
example : WFTags C01_exModel0 ∧
    (∀ tm ∈ C01_exModel0.tagModels, (∀ d ∈ tm.charNgrams, d.weights ≠ []) ∧ (∀ d ∈ tm.typeNgrams, d.weights ≠ [])) :=
  ⟨⟨by decide, by decide, by decide, by decide⟩, by decide⟩
example : (Predictor.new {} C01_exModel0 true).isOk = true ∧ (Predictor.new {} C01_exModel0 false).isOk = true := by decide +kernel

/-- non-vacuity of `C11_predict_total_window0` on the same model (`WFModel0 C01_exModel0`, `SentOK C01_exSentence` are in
`C01.lean`): prediction then tagging succeed, with and without score storing, and the final `a` gets the tag chosen by the
character tag n-gram (character window 0); without tag prediction `predict` alone succeeds -/
def predictTag0 (store : Bool) : Res (List Tag) :=
  (Predictor.new {} C01_exModel0 true).bind fun p =>
    (p.predict 7 C01_exSentence).bind fun s1 =>
      (({ p with storeTagScores := store } : Predictor).predictTags s1).map (·.tags)

example : predictTag0 true = .ok [none, none, some ['y']] ∧ predictTag0 false = .ok [none, none, some ['y']] := by decide +kernel
example : ((Predictor.new {} C01_exModel0 false).bind fun p => p.predict 7 C01_exSentence).isOk = true := by decide +kernel

def predict (cfg : Cfg) (pt : Bool) : Res (List Int) :=
  match Predictor.new cfg model pt with
  | .ok p => (p.predict 7 sentence).bind (·.boundaryScores)
  | .err e => .err e
  | .panic x => .panic x
  | .ub x => .ub x

/-- the predictor built from it (cached, plain, tag-aware configuration) reports on `aba` the learned numbers:
boundary 0: −20 + 11 − 2 + 13 (inside `ab`) = 2, boundary 1: −20 + 11 − 2 − 40 (right of `ab`) = −51 -/
example : (List.range (text.length - 1)).map (fun b => -20 + ((genFeatures tc text b).map (wqOf trace)).sum)
    = [2, -51] := by decide +kernel
example : predict {} false = .ok [2, -51] := by decide +kernel
example : predict { fixed := false, cache := false, tagPred := false } false = .ok [2, -51] := by decide +kernel
example : predict {} true = .ok [2, -51] := by decide +kernel

end C11Ex0

end V

/-! ## the `f64` quantisation of `Trainer::train` / `TagTrainer::train`, inside the model (`VModel/Quantize.lean`)

`weight_max / 32767.0`, `raw / multiplier` and `to_int_unchecked::<i32>` are modelled exactly (IEEE-754 binary64, round to
nearest even, subnormals, ±∞/NaN; a finite value is a sign and a number of units `2^-1074`).  The claim "every returned model
contains only weights within the signed 16-bit range" is TRUE from `weight_max ≥ 2^-1045` on (`C11_quantise_range`,
`C11_quantise_total`) and FALSE below (`weight_max = 2^-1059` or `(2^29 − 2^15)·2^-1074` give the weight 32768; `49150·2^-1074`
gives 49150): there the multiplier is a subnormal with fewer than 15 significant bits and its rounding error alone exceeds
`2^-15`.  Undefined behaviour (`to_int_unchecked` on NaN/∞/out of `i32`) is impossible for finite inputs whatever their size
(`C11_quantise_no_ub`); with a NaN or infinite coefficient it does occur (examples at the end).
Helper lemmas: `VProofs/Lemmas/Quant{Round,All,Bits}.lean`. -/
namespace V
open F64

/-- the threshold `T = 2^-1045` (bit pattern `0x0000000020000000`, `2^29` units of `2^-1074`) -/
abbrev C11_quantThreshold : F64 := QuantL.quantThreshold

example : C11_quantThreshold = .fin false (2 ^ 29) ∧ C11_quantThreshold = F64.ofBits 0x20000000 :=
  ⟨QuantL.quantThreshold_eq, rfl⟩

/-- **range**: for finite `x`, `M` with `|x| ≤ M` and `M ≥ T = 2^-1045`, `x / (M / 32767.0)` truncates to a value within ±32767;
in particular `to_int_unchecked` is used inside its contract.  (`M ≥ T > 0` makes `M` positive; the statement holds for every
number of units, i.e. also for "finite values" that are not doubles.) -/
theorem C11_quantise_range (x M : F64) (hx : x.Finite) (hM : M.Finite)
    (hxM : f64Le (f64Abs x) M = true) (hT : f64Le C11_quantThreshold M = true) :
    ∃ w, quantise x (quantMultiplier M) = .ok w ∧ -32767 ≤ w ∧ w ≤ 32767 := by
  obtain ⟨s, a, rfl, _⟩ := QuantL.finite_cases hx
  obtain ⟨t, m, rfl, hm⟩ := QuantL.finite_cases hM
  obtain ⟨rfl, hT'⟩ := QuantL.threshold_le_fin hT
  have ha := QuantL.abs_le_fin hxM rfl
  rw [QuantL.quantMultiplier_fin false m hm]
  obtain ⟨hq, hb⟩ := QuantL.quantise_range_val s a m (by omega) ha
  exact ⟨_, hq, QuantL.sval_bounds s _ 32767 hb⟩

/-- the largest `weight_max` for which the range claim fails: `(2^29 − 2^15)·2^-1074` (pattern `0x000000001FFF8000`), just
below `T`; see `C11QuantEx` for the failure itself -/
abbrev C11_quantLastBad : F64 := QuantL.quantLastBad

example : C11_quantLastBad = .fin false (2 ^ 29 - 2 ^ 15) ∧ C11_quantLastBad = F64.ofBits 0x1FFF8000 :=
  ⟨QuantL.quantLastBad_eq, rfl⟩

/-- **range, with the exact bound**: the claim of `C11_quantise_range` holds for every finite `M` that is greater than
`C11_quantLastBad` (i.e. not `≤` it), and `M = x = C11_quantLastBad` violates it — no magnitude above the last failure fails -/
theorem C11_quantise_range_sharp (x M : F64) (hx : x.Finite) (hM : M.Finite)
    (hxM : f64Le (f64Abs x) M = true) (hT : f64Le M C11_quantLastBad = false) :
    ∃ w, quantise x (quantMultiplier M) = .ok w ∧ -32767 ≤ w ∧ w ≤ 32767 := by
  obtain ⟨s, a, rfl, _⟩ := QuantL.finite_cases hx
  obtain ⟨t, m, rfl, hm⟩ := QuantL.finite_cases hM
  obtain ⟨rfl, hT'⟩ := QuantL.lastBad_lt_fin hT
  have ha := QuantL.abs_le_fin hxM rfl
  rw [QuantL.quantMultiplier_fin false m hm]
  obtain ⟨hq, hb⟩ := QuantL.quantise_range_val s a m hT' ha
  exact ⟨_, hq, QuantL.sval_bounds s _ 32767 hb⟩

/-- the same on raw bit patterns, as the hook records them -/
theorem C11_quantise_range_bits (bx bM : Nat) (hx : (F64.ofBits bx).Finite) (hM : (F64.ofBits bM).Finite)
    (hxM : f64Le (f64Abs (F64.ofBits bx)) (F64.ofBits bM) = true) (hT : f64Le (F64.ofBits 0x20000000) (F64.ofBits bM) = true) :
    ∃ w, quantise (F64.ofBits bx) (quantMultiplier (F64.ofBits bM)) = .ok w ∧ -32767 ≤ w ∧ w ≤ 32767 :=
  C11_quantise_range _ _ hx hM hxM hT

/-- **the whole step, from the threshold on**: for a finite bias and finite coefficients, if `weight_max` is zero the trainer
returns its error, and if `weight_max ≥ T` it returns quantised values that are all within ±32767 (one per coefficient);
never `ub`, never `panic` -/
theorem C11_quantise_total (bias : F64) (coefs : List F64) (hb : bias.Finite) (hc : ∀ c ∈ coefs, c.Finite) :
    (f64IsZero (weightMax bias coefs) = true → quantiseAll bias coefs = .err .invalidModel) ∧
    (f64Le C11_quantThreshold (weightMax bias coefs) = true →
      ∃ b ws, quantiseAll bias coefs = .ok (b, ws) ∧ ws.length = coefs.length ∧
        (-32767 ≤ b ∧ b ≤ 32767) ∧ ∀ w ∈ ws, -32767 ≤ w ∧ w ≤ 32767) := by
  obtain ⟨M, hwm, hM, _⟩ := QuantL.weightMax_fin bias coefs hb hc
  refine ⟨fun hz => ?_, fun hT => ?_⟩
  · rw [hwm, QuantL.f64IsZero_fin] at hz
    have hM0 : M = 0 := of_decide_eq_true hz
    subst hM0
    exact QuantL.quantiseAll_err bias coefs 0 hwm hM (QuantL.roundUnits_zero _ (by decide))
  · rw [hwm] at hT
    have := (QuantL.threshold_le_fin hT).2
    exact QuantL.quantiseAll_big bias coefs hb hc M hwm (by omega)

/-- the whole step with the exact bound: `weight_max` greater than `C11_quantLastBad` suffices -/
theorem C11_quantise_total_sharp (bias : F64) (coefs : List F64) (hb : bias.Finite) (hc : ∀ c ∈ coefs, c.Finite)
    (hT : f64Le (weightMax bias coefs) C11_quantLastBad = false) :
    ∃ b ws, quantiseAll bias coefs = .ok (b, ws) ∧ ws.length = coefs.length ∧
      (-32767 ≤ b ∧ b ≤ 32767) ∧ ∀ w ∈ ws, -32767 ≤ w ∧ w ≤ 32767 := by
  obtain ⟨M, hwm, hM, _⟩ := QuantL.weightMax_fin bias coefs hb hc
  rw [hwm] at hT
  exact QuantL.quantiseAll_big bias coefs hb hc M hwm (QuantL.lastBad_lt_fin hT).2

/-- **no undefined behaviour at all** for finite inputs, also below the threshold: the step returns the error or values that
are within ±32767 or — only when `weight_max < T` — within ±`weight_max / 2^-1074` (< 2^29, so inside `i32` but possibly
outside `i16`) -/
theorem C11_quantise_no_ub (bias : F64) (coefs : List F64) (hb : bias.Finite) (hc : ∀ c ∈ coefs, c.Finite) :
    (quantiseAll bias coefs).Safe ∧
    (quantiseAll bias coefs = .err .invalidModel ∨
      ∃ b ws, quantiseAll bias coefs = .ok (b, ws) ∧ ws.length = coefs.length ∧
        ∀ w ∈ b :: ws, -(2 : Int) ^ 29 < w ∧ w < 2 ^ 29) := by
  obtain ⟨M, hwm, hM, _⟩ := QuantL.weightMax_fin bias coefs hb hc
  refine (and_iff_right_of_imp ?_).mpr ?_
  · rintro (h | ⟨b, ws, h, _⟩) <;> rw [h] <;> exact trivial
  -- above the threshold the bound is 32767, below it `weight_max` itself
  have hB : quantiseAll bias coefs = .err .invalidModel ∨ ∃ B : Int, B < 2 ^ 29 ∧ ∃ b ws,
      quantiseAll bias coefs = .ok (b, ws) ∧ ws.length = coefs.length ∧ (-B ≤ b ∧ b ≤ B) ∧ ∀ w ∈ ws, -B ≤ w ∧ w ≤ B := by
    by_cases hT : 2 ^ 29 ≤ M
    · exact Or.inr ⟨32767, by decide, QuantL.quantiseAll_big bias coefs hb hc M hwm (by omega)⟩
    · exact (QuantL.quantiseAll_small bias coefs hb hc M hwm (by omega)).imp id fun h => ⟨M, by omega, h⟩
  rcases hB with h | ⟨B, hB, b, ws, h1, h2, h3, h4⟩
  · exact Or.inl h
  · refine Or.inr ⟨b, ws, h1, h2, fun w hw => ?_⟩
    have : -B ≤ w ∧ w ≤ B := (List.forall_mem_cons (p := fun w => -B ≤ w ∧ w ≤ B)).mpr ⟨h3, h4⟩ w hw
    omega

/-- the signed value of 32767 or 32766 units -/
theorem F64.sval_max (s : Bool) (t : Nat) (ht : t = 32767 ∨ t = 32766) :
    F64.sval s t = 32767 ∨ F64.sval s t = 32766 ∨ F64.sval s t = -32767 ∨ F64.sval s t = -32766 := by
  rcases ht with rfl | rfl <;> cases s <;> decide

/-- **the scale is used fully**: from the threshold on, a value of maximal magnitude is mapped to ±32767 or ±32766 with its own
sign (32766 does occur: at `T` itself and for about one maximum in eight, see the examples) -/
theorem C11_quantise_max (x : F64) (hx : x.Finite) (hT : f64Le C11_quantThreshold (f64Abs x) = true) :
    ∃ w, quantise x (quantMultiplier (f64Abs x)) = .ok w ∧
      (x.sign = false → w = 32767 ∨ w = 32766) ∧ (x.sign = true → w = -32767 ∨ w = -32766) := by
  obtain ⟨s, a, rfl, ha⟩ := QuantL.finite_cases hx
  have hT' := (QuantL.threshold_le_fin (s := false) (m := a) hT).2
  have : f64Abs (.fin s a) = .fin false a := rfl
  rw [this, QuantL.quantMultiplier_fin false a ha]
  obtain ⟨t, ht, hv⟩ := QuantL.quantise_max_units s a (by omega)
  refine ⟨_, ht, fun hs => ?_, fun hs => ?_⟩
  · obtain rfl : s = false := hs
    rcases hv with rfl | rfl
    · exact Or.inl rfl
    · exact Or.inr rfl
  · obtain rfl : s = true := hs
    rcases hv with rfl | rfl
    · exact Or.inl rfl
    · exact Or.inr rfl

/-- … hence every successfully quantised model (from the threshold on) contains a weight of magnitude ≥ 32766 -/
theorem C11_quantise_all_max (bias : F64) (coefs : List F64) (hb : bias.Finite) (hc : ∀ c ∈ coefs, c.Finite)
    (hT : f64Le C11_quantThreshold (weightMax bias coefs) = true) (b : Int) (ws : List Int)
    (h : quantiseAll bias coefs = .ok (b, ws)) :
    ∃ w ∈ b :: ws, w = 32767 ∨ w = 32766 ∨ w = -32767 ∨ w = -32766 := by
  obtain ⟨M, hwm, hM, _, ⟨c, hcm, s, hcM⟩⟩ := QuantL.members_bounded bias coefs hb hc
  rw [hwm] at hT
  have hT' := (QuantL.threshold_le_fin hT).2
  obtain ⟨t, ht, hv⟩ := QuantL.quantise_max_units s M (by omega)
  obtain ⟨_, hqb, hl⟩ := QuantL.quantiseAll_ok_inv h
  rw [hwm, QuantL.quantMultiplier_fin false M hM] at hqb hl
  rcases hcm with rfl | hcm
  · rw [hcM, ht] at hqb
    cases hqb
    exact ⟨_, List.mem_cons_self, F64.sval_max s t hv⟩
  · obtain ⟨w, hw, hq⟩ := QuantL.quantiseList_mem _ coefs _ hl c hcm
    rw [hcM, ht] at hq
    cases hq
    exact ⟨_, List.mem_cons_of_mem _ hw, F64.sval_max s t hv⟩

/-- **monotone**: for a fixed positive finite multiplier, `x ≤ y` (IEEE comparison) implies `quantise x ≤ quantise y` whenever
both are defined: the quantised weights are ordered as the learned ones -/
theorem C11_quantise_mono (x y : F64) (hx : x.Finite) (hy : y.Finite) (k : Nat) (hk : k ≠ 0)
    (hle : f64Le x y = true) (wx wy : Int)
    (h1 : quantise x (.fin false k) = .ok wx) (h2 : quantise y (.fin false k) = .ok wy) : wx ≤ wy := by
  obtain ⟨s, a, rfl, _⟩ := QuantL.finite_cases hx
  obtain ⟨t, b, rfl, _⟩ := QuantL.finite_cases hy
  exact QuantL.quantise_mono_units hk (of_decide_eq_true hle) h1 h2

/-- **sign and oddness**: the quantised value has the sign of the raw one (or is 0), and negating the raw value negates it -/
theorem C11_quantise_sign (s : Bool) (a k : Nat) (hk : k ≠ 0) (w : Int)
    (h : quantise (.fin s a) (.fin false k) = .ok w) :
    (s = false → 0 ≤ w) ∧ (s = true → w ≤ 0) ∧ (w ≠ -(2 : Int) ^ 31 → quantise (.fin (!s) a) (.fin false k) = .ok (-w)) := by
  obtain ⟨hw, hr, ht, hpos⟩ := QuantL.quantise_fin_ok hk h
  have hthird : roundUnits (a * unit) k / unit < 2 ^ 31 →
      quantise (.fin (!s) a) (.fin false k) = .ok (F64.sval (!s) (roundUnits (a * unit) k / unit)) :=
    QuantL.quantise_fin hk hr
  generalize roundUnits (a * unit) k / unit = q at hw ht hpos hthird
  subst hw
  have hneg : F64.sval (!s) q = - F64.sval s q := by
    unfold F64.sval; cases s <;> simp
  refine ⟨?_, ?_, ?_⟩
  · intro hs; subst hs; unfold F64.sval; simp only [Bool.false_eq_true, if_false]; omega
  · intro hs; subst hs; unfold F64.sval; simp only [if_true]; omega
  · intro hne
    rw [← hneg]
    apply hthird
    unfold F64.sval at hne
    cases s
    · exact hpos rfl
    · simp only [if_true] at hne; omega

/-- **the tag trainer** (`weight_max` starts at `1e-6 ≥ T`, no zero test): for finite biases and coefficients the quantisation
of a token's classifier always succeeds with every value within ±32767 -/
theorem C11_quantise_tag_total (coefs : List F64) (hc : ∀ c ∈ coefs, c.Finite) :
    ∃ ws, quantiseTagAll coefs = .ok ws ∧ ws.length = coefs.length ∧ ∀ w ∈ ws, -32767 ≤ w ∧ w ≤ 32767 := by
  unfold quantiseTagAll
  rw [QuantL.tagFloor_eq]
  obtain ⟨M, h1, h2, h3, h4, _⟩ := QuantL.foldMax_fin coefs _ QuantL.tagFloor_lt hc
  rw [h1, QuantL.quantMultiplier_fin false M h2]
  have hT : 2 ^ 29 - 2 ^ 15 < M := Nat.lt_of_lt_of_le (by decide) (Nat.le_trans QuantL.tagFloor_ge h3)
  apply QuantL.quantiseList_ok
  intro c hcm
  obtain ⟨s, hs⟩ := QuantL.fin_mag (hc c hcm)
  rw [hs]
  obtain ⟨h, hle⟩ := QuantL.quantise_range_val s _ M hT (h4 _ hcm)
  exact ⟨_, h, QuantL.sval_bounds s _ 32767 hle⟩

/-- **the model is IEEE-754 binary64**: every bit pattern decodes to a double (`< 2^1024`, at most 53 significant bits), every
quotient of the model is again a double, and decoding is injective off the NaNs (`toBits ∘ ofBits = id`) -/
theorem C11_f64_model_sane :
    (∀ b, (F64.ofBits b).IsDouble) ∧ (∀ x y, (f64Div x y).IsDouble) ∧
    (∀ b, b < 2 ^ 64 → F64.ofBits b ≠ .nan → F64.toBits (F64.ofBits b) = b) :=
  ⟨QuantL.ofBits_isDouble, QuantL.f64Div_isDouble, QuantL.toBits_ofBits⟩

/-- correct rounding, stated on the integers: `fl(n/d)` is representable, is within half a grid step (`2·|fl·d − n| ≤ d` on the
subnormal/integer grid, relative `2^-53` above), never crosses a representable value, and fixes representable values -/
theorem C11_f64_rounding (n d : Nat) (hd : 0 < d) :
    QuantL.RepU (roundUnits n d) ∧
    (2 * n ≤ 2 * (d * roundUnits n d) + d ∨ 2 ^ 53 * n ≤ 2 ^ 53 * (d * roundUnits n d) + n) ∧
    (2 * (d * roundUnits n d) ≤ 2 * n + d ∨ 2 ^ 53 * (d * roundUnits n d) ≤ 2 ^ 53 * n + n) ∧
    (∀ g, QuantL.RepU g → n ≤ d * g → roundUnits n d ≤ g) ∧ (∀ g, QuantL.RepU g → d * g ≤ n → g ≤ roundUnits n d) :=
  ⟨QuantL.roundUnits_rep n d hd, QuantL.roundUnits_lower n d hd, QuantL.roundUnits_upper n d hd,
    fun g hg h => QuantL.roundUnits_le_of_le n d g hd hg h, fun g hg h => QuantL.le_roundUnits_of_le n d g hd hg h⟩

/-! ### the threshold is sharp, and concrete values (kernel evaluation; `0x…` are IEEE-754 bit patterns) -/
namespace C11QuantEx

/-- decoding: 1.0, −2.5, the largest subnormal, the least subnormal, ±0, ∞, NaN -/
example : F64.ofBits 0x3FF0000000000000 = .fin false F64.unit ∧
    F64.ofBits 0xC004000000000000 = .fin true (5 * 2 ^ 1073) ∧
    F64.ofBits 0x000FFFFFFFFFFFFF = .fin false (2 ^ 52 - 1) ∧ F64.ofBits 1 = .fin false 1 ∧
    F64.ofBits 0 = .fin false 0 ∧ F64.ofBits 0x8000000000000000 = .fin true 0 ∧
    F64.ofBits 0x7FF0000000000000 = .inf false ∧ F64.ofBits 0x7FF8000000000000 = .nan ∧
    F64.ofBits 0x7FEFFFFFFFFFFFFF = .fin false (F64.top - 2 ^ 2045) := by decide +kernel

/-- division is correctly rounded: 1/10 = 0x3FB999999999999A, 1/3 = 0x3FD5555555555555, 1/32767 = 0x3F00002000400080;
ties go to even on the subnormal grid (3·2^-1074 / 2 = 2·2^-1074, 5·2^-1074 / 2 = 2·2^-1074, 2^-1074 / 2 = 0);
overflow gives ∞, 1/0 = ∞, 0/0 = NaN, −1/∞ = −0 -/
example :
    F64.toBits (f64Div (F64.ofBits 0x3FF0000000000000) (F64.ofBits 0x4024000000000000)) = 0x3FB999999999999A ∧
    F64.toBits (f64Div (F64.ofBits 0x3FF0000000000000) (F64.ofBits 0x4008000000000000)) = 0x3FD5555555555555 ∧
    F64.toBits (quantMultiplier (F64.ofBits 0x3FF0000000000000)) = 0x3F00002000400080 ∧
    f64Div (F64.ofBits 3) (F64.ofBits 0x4000000000000000) = F64.ofBits 2 ∧
    f64Div (F64.ofBits 5) (F64.ofBits 0x4000000000000000) = F64.ofBits 2 ∧
    f64Div (F64.ofBits 1) (F64.ofBits 0x4000000000000000) = F64.ofBits 0 ∧
    f64Div (F64.ofBits 0x7FEFFFFFFFFFFFFF) (F64.ofBits 0x3FE0000000000000) = .inf false ∧
    f64Div (F64.ofBits 0x3FF0000000000000) (F64.ofBits 0) = .inf false ∧
    f64Div (F64.ofBits 0) (F64.ofBits 0x8000000000000000) = .nan ∧
    f64Div (F64.ofBits 0xBFF0000000000000) (F64.ofBits 0x7FF0000000000000) = .fin true 0 := by decide +kernel

/-- quantising with `weight_max = 1.0`: 1.0 ↦ 32767, 0.1 ↦ 3276; with `weight_max = 2.5`: −2.5 ↦ −32767, 1.0 ↦ 13106;
the largest subnormal as its own maximum ↦ 32767 -/
example :
    quantise (F64.ofBits 0x3FF0000000000000) (quantMultiplier (F64.ofBits 0x3FF0000000000000)) = .ok 32767 ∧
    quantise (F64.ofBits 0x3FB999999999999A) (quantMultiplier (F64.ofBits 0x3FF0000000000000)) = .ok 3276 ∧
    quantise (F64.ofBits 0xC004000000000000) (quantMultiplier (F64.ofBits 0x4004000000000000)) = .ok (-32767) ∧
    quantise (F64.ofBits 0x3FF0000000000000) (quantMultiplier (F64.ofBits 0x4004000000000000)) = .ok 13106 ∧
    quantise (F64.ofBits 0x000FFFFFFFFFFFFF) (quantMultiplier (F64.ofBits 0x000FFFFFFFFFFFFF)) = .ok 32767 := by
  decide +kernel

/-- the whole step on bias 1.0 and coefficients 0.1, −2.5 -/
example : quantiseAll (F64.ofBits 0x3FF0000000000000) [F64.ofBits 0x3FB999999999999A, F64.ofBits 0xC004000000000000]
    = .ok (13106, [1310, -32767]) := by decide +kernel

/-- **the range claim is false for tiny subnormal maxima**: `M = x = 2^-1059` (`2^15` units, pattern `0x8000`) has the
multiplier `2^-1074` (pattern `1`) and is quantised to 32768 -/
example : F64.ofBits 0x8000 = .fin false (2 ^ 15) ∧ quantMultiplier (F64.ofBits 0x8000) = F64.ofBits 1 ∧
    quantise (F64.ofBits 0x8000) (quantMultiplier (F64.ofBits 0x8000)) = .ok 32768 := by decide +kernel

/-- **`T = 2^-1045` is the least power of two that works**: `M = (2^29 − 2^15)·2^-1074` (pattern `0x1FFF8000`) lies in
`[T/2, T)`, its multiplier is `16383·2^-1074`, and it is quantised to 32768, so the hypothesis `T ≤ M` of
`C11_quantise_range` cannot be relaxed to `T/2 ≤ M` -/
example : F64.ofBits 0x1FFF8000 = .fin false (2 ^ 29 - 2 ^ 15) ∧
    f64Le (F64.ofBits 0x10000000) (F64.ofBits 0x1FFF8000) = true ∧
    f64Le C11_quantThreshold (F64.ofBits 0x1FFF8000) = false ∧
    quantMultiplier (F64.ofBits 0x1FFF8000) = F64.ofBits 16383 ∧
    quantise (F64.ofBits 0x1FFF8000) (quantMultiplier (F64.ofBits 0x1FFF8000)) = .ok 32768 := by decide +kernel

/-- … and it is the last failure (`C11_quantise_range_sharp`): one unit more (pattern `0x1FFF8001`) has the multiplier
`16384·2^-1074` and is quantised to 32766 -/
example : f64Le (F64.ofBits 0x1FFF8001) C11_quantLastBad = false ∧
    quantMultiplier (F64.ofBits 0x1FFF8001) = F64.ofBits 16384 ∧
    quantise (F64.ofBits 0x1FFF8001) (quantMultiplier (F64.ofBits 0x1FFF8001)) = .ok 32766 := by decide +kernel

/-- below the threshold the overshoot reaches a factor 1.5: `49150·2^-1074` (pattern `0xBFFE`) has the multiplier `2^-1074`
and is quantised to 49150 (inside `i32`, far outside `i16`); `2^-1074` alone gives the multiplier 0, hence the error -/
example : quantise (F64.ofBits 0xBFFE) (quantMultiplier (F64.ofBits 0xBFFE)) = .ok 49150 ∧
    quantiseAll (F64.ofBits 0xBFFE) [] = .ok (49150, []) ∧
    quantiseAll (F64.ofBits 1) [F64.ofBits 0x8000000000000001] = .err .invalidModel ∧
    quantiseAll (F64.ofBits 0) [F64.ofBits 0x8000000000000000] = .err .invalidModel := by decide +kernel

/-- at `T` itself the maximum is mapped to 32766 (multiplier `16385·2^-1074`), and so is the normal number
`0x3FF06798004BBC2F`: the second alternative of `C11_quantise_max` occurs -/
example : quantMultiplier C11_quantThreshold = F64.ofBits 16385 ∧
    quantise C11_quantThreshold (quantMultiplier C11_quantThreshold) = .ok 32766 ∧
    quantise (F64.ofBits 0x3FF06798004BBC2F) (quantMultiplier (F64.ofBits 0x3FF06798004BBC2F)) = .ok 32766 ∧
    quantise (F64.ofBits 0xBFF06798004BBC2F) (quantMultiplier (F64.ofBits 0x3FF06798004BBC2F)) = .ok (-32766) := by
  decide +kernel

/-- non-vacuity of `C11_quantise_range` / `C11_quantise_total`: the hypotheses hold for `x = 0.1`, `M = 1.0` -/
example : (F64.ofBits 0x3FB999999999999A).Finite ∧ (F64.ofBits 0x3FF0000000000000).Finite ∧
    f64Le (f64Abs (F64.ofBits 0x3FB999999999999A)) (F64.ofBits 0x3FF0000000000000) = true ∧
    f64Le C11_quantThreshold (F64.ofBits 0x3FF0000000000000) = true ∧
    f64Le C11_quantThreshold (weightMax (F64.ofBits 0x3FF0000000000000) [F64.ofBits 0x3FB999999999999A]) = true := by
  decide +kernel

/-- where undefined behaviour does occur: a NaN or infinite coefficient (finite `weight_max` is then impossible or the quotient
is not finite), a NaN bias, and — for a single quotient — a finite value over a multiplier that is too small
(`1.0 / 2^-1074` overflows to ∞; `2^31·2^-1074 / 2^-1074 = 2^31` is outside `i32`, while `−2^31` is inside) -/
example :
    quantiseAll (F64.ofBits 0x3FF0000000000000) [F64.ofBits 0x7FF0000000000000] = .ub "to_int_unchecked" ∧
    quantiseAll (F64.ofBits 0x3FF0000000000000) [F64.ofBits 0x7FF8000000000000] = .ub "to_int_unchecked" ∧
    quantiseAll (F64.ofBits 0x7FF8000000000000) [] = .ub "to_int_unchecked" ∧
    quantise (F64.ofBits 0x3FF0000000000000) (F64.ofBits 1) = .ub "to_int_unchecked" ∧
    quantise (F64.ofBits 0x80000000) (F64.ofBits 1) = .ub "to_int_unchecked" ∧
    quantise (F64.ofBits 0x8000000080000000) (F64.ofBits 1) = .ok (-2147483648) := by decide +kernel

/-- the tag trainer's floor `1e-6` is a double above the threshold; three values of one classifier -/
example : f64TagFloor.IsDouble ∧ f64Le C11_quantThreshold f64TagFloor = true ∧
    quantiseTagAll [F64.ofBits 0x3FF0000000000000, F64.ofBits 0xBFB999999999999A, F64.ofBits 1] = .ok [32767, -3276, 0] ∧
    quantiseTagAll [F64.ofBits 0x3E112E0BE826D695] = .ok [32] := by decide +kernel

end C11QuantEx

end V

