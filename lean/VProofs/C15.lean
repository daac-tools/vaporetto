import VProofs.Lemmas.FiltBounds
import VProofs.Lemmas.FiltTagger
import VProofs.Lemmas.PermRules
/-!
# C15 — Post-filters apply exactly their rule and nothing else

`Inv` is the sentence consistency invariant of C05 (one type per character, one label per adjacent pair, characters ×
tag-count tag slots).  The helper lemmas are in `VProofs/Lemmas/Filt*.lean` and `Lemmas/PermRules.lean`.
-/
namespace V

/-- character-type filter: clears exactly the boundaries between two adjacent characters of its type; everything else
(text, types, the other boundaries, tags, scores, …) is untouched; no panic, no out-of-range unchecked access -/
theorem C15_wsconst (t : Nat) (s : Sentence) (h : Inv s) :
    ∃ bs, filterWsConst t s = .ok { s with bounds := bs } ∧ bs.length = s.bounds.length ∧
      ∀ i, i < s.bounds.length →
        bs[i]? = some (if s.types[i]? = some t ∧ s.types[i + 1]? = some t then B.N else s.bounds.getD i B.U) :=
  ⟨_, C15L.wsconst_eq t s h, List.length_mapIdx, fun _ hi => C15L.getElem?_mapIdx_getD _ _ hi⟩

/-- line-break filter: sets exactly the boundaries adjacent to CR or LF -/
theorem C15_linebreaks (s : Sentence) (h : Inv s) :
    ∃ bs, filterLinebreaks s = .ok { s with bounds := bs } ∧ bs.length = s.bounds.length ∧
      ∀ i, i < s.bounds.length →
        bs[i]? = some (if (s.text[i]?.any isLinebreak) || (s.text[i + 1]?.any isLinebreak) then B.W
                       else s.bounds.getD i B.U) :=
  ⟨_, C15L.linebreaks_eq s h, List.length_mapIdx, fun _ hi => C15L.getElem?_mapIdx_getD _ _ hi⟩

/-- grapheme filter, for EVERY segmentation of the text into clusters of at least one character: clears exactly the
boundaries inside clusters (boundary `i` lies between characters `i` and `i + 1`; it is inside a cluster iff `i + 1` is
not a cluster edge), and the unchecked range it fills is always inside the boundary array -/
theorem C15_graphemes (ls : List Nat) (s : Sentence) (h : Inv s) (hpos : ∀ l ∈ ls, 1 ≤ l)
    (hsum : ls.sum = s.text.length) :
    ∃ bs, filterGraphemes ls s = .ok { s with bounds := bs } ∧ bs.length = s.bounds.length ∧
      ∀ i, i < s.bounds.length →
        bs[i]? = some (if (i + 1) ∈ clusterEdges ls 0 then s.bounds.getD i B.U else B.N) := by
  refine ⟨_, C15L.graphemes_eq ls s h hpos hsum, List.length_mapIdx, fun i hi => ?_⟩
  have hin := C15L.inside_iff ls hpos 0 i (Nat.zero_le _) (by have := h.bounds_len; omega)
  rw [C15L.getElem?_mapIdx_getD _ _ hi, C15L.grRule]
  by_cases c : i + 1 ∈ clusterEdges ls 0
  · rw [if_pos c, if_neg (fun hi => hin.mp hi c)]
  · rw [if_neg c, if_pos (hin.mpr c)]

/-- pattern tagger: never panics on a consistent sentence, leaves text, types, boundaries and tag count untouched,
keeps every present tag, and changes a slot only if it is an absent tag of a token whose surface has a rule, to the
rule's entry for that category (absent when the rule is shorter or has no entry) -/
theorem C15_tagger (rules : TagRules) (s : Sentence) (h : Inv s) :
    ∃ tags, filterTagger rules s = .ok { s with tags := tags } ∧ tags.length = s.tags.length ∧
      (∀ (k : Nat) (t : List Char), s.tags[k]? = some (some t) → tags[k]? = some (some t)) ∧
      (∀ (k : Nat), k < s.tags.length → tags[k]? ≠ s.tags[k]? →
        ∃ (st en j : Nat) (r : List Tag), (st, en) ∈ iterTokens s.bounds ∧ j < s.nTags ∧ k = (en - 1) * s.nTags + j ∧
          rulesGet rules ((s.text.drop st).take (en - st)) = some r ∧ tags[k]? = some ((r[j]?).bind id)) ∧
      (∀ (st en j : Nat) (r : List Tag), (st, en) ∈ iterTokens s.bounds → j < s.nTags →
          s.tags[(en - 1) * s.nTags + j]? = some none →
          rulesGet rules ((s.text.drop st).take (en - st)) = some r →
          tags[(en - 1) * s.nTags + j]? = some ((r[j]?).bind id)) := by
  have hb := h.bounds_len
  have ht := h.tags_len
  have hrange : ∀ se ∈ iterTokens s.bounds, se.1 < se.2 ∧ se.2 ≤ s.text.length := by
    intro se hse
    have := iterTokens_range s.bounds se hse
    omega
  obtain ⟨q, hc, hq⟩ := C15L.collect_spec rules s (iterTokens s.bounds) hrange ht
  have hin : ∀ e ∈ q, e.1 * s.nTags + e.2.1 < s.tags.length := by
    intro e he
    obtain ⟨st, en, j, r, hm, rfl, hj, _, _⟩ := (hq e).1 he
    have := hrange _ hm
    simp only at this ⊢
    exact C15L.slot_lt (by omega) this.2 hj ht
  obtain ⟨out, ha, hlen, hk⟩ := C15L.apply_spec s q s.tags hin
  refine ⟨out, ?_, hlen, ?_, ?_, ?_⟩
  · simp only [filterTagger, hc, ha]
  · intro k t hkt
    apply Classical.byContradiction
    intro hne
    have hex : ∃ e ∈ q, e.1 * s.nTags + e.2.1 = k := by
      apply Classical.byContradiction
      intro hno
      exact hne (by rw [(hk k).1 (fun e he h => hno ⟨e, he, h⟩)]; exact hkt)
    obtain ⟨e, he, hslot⟩ := hex
    obtain ⟨st, en, j, r, _, rfl, _, hn, _⟩ := (hq e).1 he
    simp only at hslot
    rw [hslot, hkt] at hn
    cases hn
  · intro k _ hne
    have hex : ∃ e ∈ q, e.1 * s.nTags + e.2.1 = k := by
      apply Classical.byContradiction
      intro hno
      exact hne ((hk k).1 (fun e he h => hno ⟨e, he, h⟩))
    obtain ⟨e, he, hslot, ho⟩ := (hk k).2 hex
    obtain ⟨st, en, j, r, hm, rfl, hj, _, hg⟩ := (hq e).1 he
    exact ⟨st, en, j, r, hm, hj, hslot.symm, hg, ho⟩
  · intro st en j r hm hj hn hg
    have hmem : ((en - 1, j, (r[j]?).bind id) : Nat × Nat × Tag) ∈ q :=
      (hq _).2 ⟨st, en, j, r, hm, rfl, hj, hn, hg⟩
    obtain ⟨e, he, hslot, ho⟩ := (hk ((en - 1) * s.nTags + j)).2 ⟨_, hmem, rfl⟩
    obtain ⟨st', en', j', r', hm', rfl, hj', _, hg'⟩ := (hq e).1 he
    simp only at hslot ho
    obtain ⟨e1, e2⟩ := C15L.slot_inj hj' hj hslot
    have r1 := hrange _ hm
    have r2 := hrange _ hm'
    simp only at r1 r2
    have e3 : en' = en := by omega
    subst e2; subst e3
    have e4 := C15L.token_end_inj s.bounds hm' hm
    subst e4
    rw [hg] at hg'
    injection hg' with hg'
    subst hg'
    exact ho

/-- every filter preserves the consistency invariant -/
theorem C15_inv (s s' : Sentence) (h : Inv s) (t : Nat) (ls : List Nat) (rules : TagRules)
    (hf : filterWsConst t s = .ok s' ∨ filterLinebreaks s = .ok s' ∨ filterGraphemes ls s = .ok s' ∨
      filterTagger rules s = .ok s') : Inv s' := by
  rcases hf with hf | hf | hf | hf
  · rw [C15L.wsconst_eq t s h] at hf
    injection hf with hf; subst hf
    exact h.mapIdx _
  · rw [C15L.linebreaks_eq s h] at hf
    injection hf with hf; subst hf
    exact h.mapIdx _
  · rw [C15L.graphemes_frame ls s s' hf]
    exact h.mapIdx _
  · obtain ⟨ts, e, hl, _⟩ := C15_tagger rules s h
    rw [e] at hf; injection hf with hf; subst hf
    exact Inv.ofC (C15L.invC_tags h.toC hl)

/-- every filter is idempotent -/
theorem C15_idem_wsconst (t : Nat) (s s' : Sentence) (h : Inv s) (hf : filterWsConst t s = .ok s') :
    filterWsConst t s' = .ok s' := by
  rw [C15L.wsconst_eq t s h] at hf
  injection hf with hf; subst hf
  rw [C15L.wsconst_eq t _ (h.mapIdx _)]
  exact congrArg (fun bs => Res.ok { s with bounds := bs }) (C15L.mapIdx_idem (g := C15L.wsRule t s.types) (fun _ _ => C15L.ite_idem _ _ _) _)

theorem C15_idem_linebreaks (s s' : Sentence) (h : Inv s) (hf : filterLinebreaks s = .ok s') :
    filterLinebreaks s' = .ok s' := by
  rw [C15L.linebreaks_eq s h] at hf
  injection hf with hf; subst hf
  rw [C15L.linebreaks_eq _ (h.mapIdx _)]
  exact congrArg (fun bs => Res.ok { s with bounds := bs }) (C15L.mapIdx_idem (g := C15L.lbRule s.text) (fun _ _ => C15L.ite_idem _ _ _) _)

theorem C15_idem_graphemes (ls : List Nat) (s s' : Sentence) (h : Inv s) (hpos : ∀ l ∈ ls, 1 ≤ l)
    (hsum : ls.sum = s.text.length) (hf : filterGraphemes ls s = .ok s') : filterGraphemes ls s' = .ok s' := by
  rw [C15L.graphemes_frame ls s s' hf, C15L.graphemes_eq ls _ (h.mapIdx _) hpos hsum]
  exact congrArg (fun bs => Res.ok { s with bounds := bs }) (C15L.mapIdx_idem (g := C15L.grRule ls) (fun _ _ => C15L.ite_idem _ _ _) _)

theorem C15_idem_tagger (rules : TagRules) (s s' : Sentence) (h : Inv s) (hf : filterTagger rules s = .ok s') :
    filterTagger rules s' = .ok s' := by
  obtain ⟨tags, e, hl, hA, _, hC⟩ := C15_tagger rules s h
  rw [e] at hf
  injection hf with hf
  subst hf
  obtain ⟨tags', e', hl', hA', hB', _⟩ := C15_tagger rules { s with tags := tags } (Inv.ofC (C15L.invC_tags h.toC hl))
  have hl'' : tags'.length = tags.length := hl'
  rw [e']
  -- present tags stay, and an absent slot of a token with a rule got the rule's entry in the first pass
  have : tags' = tags := by
    apply List.ext_getElem?
    intro k
    apply Classical.byContradiction
    intro hne
    have hk : k < tags.length := by
      apply Classical.byContradiction
      intro hn
      apply hne
      rw [List.getElem?_eq_none (by omega), List.getElem?_eq_none (by omega)]
    obtain ⟨st, en, j, r, hm, hj, rfl, hg, ho⟩ := hB' k hk hne
    have hks : (en - 1) * s.nTags + j < s.tags.length := by rw [← hl]; exact hk
    have hs := List.getElem?_eq_getElem hks
    cases hx : s.tags[(en - 1) * s.nTags + j] with
    | some t =>
      rw [hx] at hs
      have h1 := hA _ t hs
      have h2 := hA' _ t h1
      exact hne (h2.trans h1.symm)
    | none =>
      rw [hx] at hs
      have h1 := hC st en j r hm hj hs hg
      exact hne (ho.trans h1.symm)
  rw [this]

/-- the two filters that clear boundaries (character-type filter, grapheme filter) commute with each other and among themselves:
the order of the letters of `--wsconst` does not matter -/
theorem C15_clearing_filters_commute (s : Sentence) (h : Inv s) (t1 t2 : Nat) (ls : List Nat) (hpos : ∀ l ∈ ls, 1 ≤ l)
    (hsum : ls.sum = s.text.length) :
    ((filterWsConst t1 s).bind (filterWsConst t2) = (filterWsConst t2 s).bind (filterWsConst t1)) ∧
    ((filterWsConst t1 s).bind (filterGraphemes ls) = (filterGraphemes ls s).bind (filterWsConst t1)) := by
  rw [C15L.wsconst_eq t1 s h, C15L.wsconst_eq t2 s h, C15L.graphemes_eq ls s h hpos hsum]
  simp only [Res.bind]
  rw [C15L.wsconst_eq t2 _ (h.mapIdx _), C15L.wsconst_eq t1 _ (h.mapIdx _), C15L.wsconst_eq t1 _ (h.mapIdx _),
    C15L.graphemes_eq ls _ (h.mapIdx _) hpos hsum]
  exact ⟨congrArg (fun bs => Res.ok { s with bounds := bs }) (C15L.mapIdx_comm (g1 := C15L.wsRule t1 s.types) (g2 := C15L.wsRule t2 s.types) (fun _ _ => C15L.clear_clear_comm _ _ _) _),
    congrArg (fun bs => Res.ok { s with bounds := bs }) (C15L.mapIdx_comm (g1 := C15L.wsRule t1 s.types) (g2 := C15L.grRule ls) (fun _ _ => C15L.clear_clear_comm _ _ _) _)⟩

/-- the line-break filter does NOT commute with them in general (it sets boundaries that the others clear), which is why the
Tantivy tokenizer applies it first: a concrete sentence on which the two orders differ -/
example : ∃ s : Sentence, Inv s ∧
    (filterLinebreaks s).bind (filterWsConst 6) ≠ (filterWsConst 6 s).bind filterLinebreaks := by
  refine ⟨{ Sentence.default with text := ['\n', '\n'], types := [6, 6], bounds := [.U] }, ?_, ?_⟩
  · exact ⟨by decide, by decide, by decide, by decide, by decide⟩
  · decide

/-- text "1 23" (types digit, other, digit, digit): the digit filter clears only the last boundary -/
example : filterWsConst 1 { Sentence.default with text := "1 23".toList, types := [1, 6, 1, 1],
                                                  bounds := [.W, .U, .W] } =
    .ok { Sentence.default with text := "1 23".toList, types := [1, 6, 1, 1], bounds := [.W, .U, .N] } := by
  -- the kernel decodes a string literal byte by byte: turn the literals into character lists before it evaluates
  repeat rw [String.toList_ofList]
  decide +kernel

example : filterLinebreaks { Sentence.default with text := "a\nbc".toList, types := [2, 6, 2, 2],
                                                   bounds := [.N, .U, .N] } =
    .ok { Sentence.default with text := "a\nbc".toList, types := [2, 6, 2, 2], bounds := [.W, .W, .N] } := by
  repeat rw [String.toList_ofList]
  decide +kernel

/-- clusters of 2, 1 and 3 characters: edges 2, 3, 6 -/
example : filterGraphemes [2, 1, 3] { Sentence.default with text := "abcdef".toList, types := [2, 2, 2, 2, 2, 2],
                                                             bounds := [.W, .U, .W, .W, .U] } =
    .ok { Sentence.default with text := "abcdef".toList, types := [2, 2, 2, 2, 2, 2],
                                bounds := [.N, .U, .W, .N, .N] } := by
  repeat rw [String.toList_ofList]
  decide +kernel

/-- two tokens "ab" and "c", two tag slots per character; "ab" has a rule with one entry, "c" has none; the present
tag of "c" and every slot that is not a token end are kept -/
example : filterTagger [("ab".toList, [some "X".toList])]
      { Sentence.default with text := "abc".toList, types := [2, 2, 2], bounds := [.N, .W],
                              tags := [none, none, none, none, some "Y".toList, none], nTags := 2 } =
    .ok { Sentence.default with text := "abc".toList, types := [2, 2, 2], bounds := [.N, .W],
                                tags := [none, none, some "X".toList, none, some "Y".toList, none], nTags := 2 } := by
  repeat rw [String.toList_ofList]
  decide +kernel

/-! ## the rule map of `PatternMatchTagger` (a hashbrown `HashMap`) is read by keyed lookup only -/

/-- listing the rules (distinct surfaces, as in a map) in another order does not change the filter -/
theorem C15_tagger_rules_perm (rules₁ rules₂ : TagRules) (hp : rules₁.Perm rules₂) (hnd : (rules₁.map Prod.fst).Nodup)
    (s : Sentence) : filterTagger rules₁ s = filterTagger rules₂ s :=
  C15L.filterTagger_congr (C15L.rulesGet_perm hp hnd) s

example :
    let r₁ : TagRules := [(['a'], [some ['x']]), (['b'], [none, some ['y']]), (['c'], [])]
    let r₂ : TagRules := [(['c'], []), (['a'], [some ['x']]), (['b'], [none, some ['y']])]
    r₁.Perm r₂ ∧ (r₁.map Prod.fst).Nodup ∧ r₁ ≠ r₂ ∧ rulesGet r₁ ['b'] = some [none, some ['y']] ∧
    rulesGet r₂ ['b'] = some [none, some ['y']] := by
  refine ⟨by decide, by decide, by decide, by decide, by decide⟩

end V
